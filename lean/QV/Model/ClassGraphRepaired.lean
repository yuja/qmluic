import QV.Model.ClassGraph

/-
  The query functions of QV.Model.ClassGraph *after the repair of finding F10* (/repo 8d2984c: an unresolved
  super class does not stop the search; the first such error is
  reported only if nothing is found; `Class::get_type` does not report it at all, so that the enclosing
  scopes are still consulted).  Everything not redefined here (name lookup, `resolveClass`, the `BaseClasses`
  walk `baseClasses`, the per-class lookups, the method table) is unchanged and shared.

  This is the code of /repo; the driver's `cg` request is answered from this namespace, properties and methods
  from QV.Model.ClassGraph.Typed on top of it (QV.Driver.ClassGraph.repairedApi).
-/
namespace QV.Model.ClassGraph.Repaired
open QV.Model.ClassGraph

/-- the repaired loop: `Ok(c)` → first hit of `f` returns; `Err(e)` → `first_err.get_or_insert(e)`;
    at the end `first_err.map(Err)` -/
def findMapItems {α : Type} (f : ClassDecl → Lookup α) : List Item → Option TypeMapError → Lookup α
  | [], none => .notFound
  | [], some e => .error e
  | .err e :: rest, none => findMapItems f rest (some e)
  | .err _ :: rest, some e0 => findMapItems f rest (some e0)
  | .ok c :: rest, fe =>
    match f c with
    | .notFound => findMapItems f rest fe
    | r => r

def findMapSelfAndBaseClasses {α : Type} (t : Table) (self : ClassDecl) (f : ClassDecl → Lookup α) : Lookup α :=
  match f self with
  | .notFound => findMapItems f (baseClasses t self) none
  | r => r

def isDerivedFromPedantic (t : Table) (self base : ClassDecl) : Lookup Unit :=
  if self.name = base.name then .found ()
  else findMapItems (fun c => if c.name = base.name then .found () else .notFound) (baseClasses t self) none

def isDerivedFrom (t : Table) (self base : ClassDecl) : Bool :=
  match isDerivedFromPedantic t self base with
  | .found () => true
  | _ => false

/-- the closure of `common_base_class` (its side effect on `other_err` is accounted for below) -/
def commonBaseStep (t : Table) (other cls : ClassDecl) : Lookup ClassDecl :=
  match isDerivedFromPedantic t other cls with
  | .found () => .found cls
  | _ => .notFound

/-- `common_base_class`: errors of `other`'s walk are remembered by the closure (`other_err`) and reported
    only if the search finds nothing and `self`'s own walk reported nothing -/
def commonBaseClass (t : Table) (self other : ClassDecl) : Lookup ClassDecl :=
  match findMapSelfAndBaseClasses t self (commonBaseStep t other) with
  | .notFound =>
    -- no hit: the closure ran on `self` and on every base class, in order
    let tried := self :: (baseClasses t self).filterMap fun
      | .ok c => some c
      | .err _ => none
    match tried.findSome? fun cls =>
        match isDerivedFromPedantic t other cls with
        | .error e => some e
        | _ => none with
    | some e => .error e
    | none => .notFound
  | r => r

/-- `get_type`: `.filter(|r| r.is_ok())` -/
def getType (t : Table) (self : ClassDecl) (name : Name) : Lookup (ClassDecl × EnumDecl) :=
  match findMapSelfAndBaseClasses t self fun cls => getTypeNoSuper cls name with
  | .error _ => .notFound
  | r => r

def getEnumByVariant (t : Table) (self : ClassDecl) (v : Name) : Lookup (ClassDecl × EnumDecl) :=
  findMapSelfAndBaseClasses t self fun cls => getEnumByVariantNoSuper cls v

def resolveMemberType (t : Table) (owner : ClassDecl) (tyName : Name) : Lookup Unit :=
  match getType t owner tyName with
  | .error e => .error e
  | .found _ => .found ()
  | .notFound => .found ()

def resolveMemberTypes (t : Table) (owner : ClassDecl) : List Name → Lookup Unit
  | [] => .found ()
  | n :: ns =>
    match resolveMemberType t owner n with
    | .error e => .error e
    | _ => resolveMemberTypes t owner ns

def getPropertyNoSuper (t : Table) (d : ClassDecl) (name : Name) : Lookup ClassDecl :=
  if name ∈ d.props then
    match resolveMemberType t d "int" with
    | .error e => .error e
    | _ => .found d
  else .notFound

def getProperty (t : Table) (self : ClassDecl) (name : Name) : Lookup ClassDecl :=
  findMapSelfAndBaseClasses t self fun cls => getPropertyNoSuper t cls name

def getPublicMethodNoSuper (t : Table) (d : ClassDecl) (name : Name) : Lookup (ClassDecl × List MethodData) :=
  match methodSlice (methodTable d) name with
  | [] => .notFound
  | ms =>
    match resolveMemberTypes t d ((ms.map fun m => "void" :: List.replicate m.nargs "int").flatten) with
    | .error e => .error e
    | _ => .found (d, ms)

def getPublicMethod (t : Table) (self : ClassDecl) (name : Name) : Lookup (ClassDecl × List MethodData) :=
  findMapSelfAndBaseClasses t self fun cls => getPublicMethodNoSuper t cls name

end QV.Model.ClassGraph.Repaired
