/-
  Model of /repo/lib/src/typemap/{class,namespace,function,enum_,core,module}.rs — the part that answers
  type-information queries on a loaded set of classes:

    ClassData::from_meta (public supers only, property map, sorted method table, nested enums),
    NamespaceData::{extend_classes, extend_enums, get_type_with, get_enum_by_variant_with},
    resolve_class_scoped, SuperClasses, BaseClasses (breadth-first walk with a visited set),
    Class::{find_map_self_and_base_classes, is_derived_from(_pedantic), common_base_class, get_property,
            get_public_method, get_type, get_enum_by_variant}, MethodDataTable::{from_meta, get_method_with},
    Property::new / Method::new (their type names are resolved through the class scope — i.e. through another
    walk over the base classes — before the enclosing scopes are consulted).

  A class handle (`Class<'a>`: pointer to the stored `ClassData` + parent space) is represented by the
  stored declaration; two handles are equal iff they denote the same stored class, which — all handles
  being obtained by name — is equality of class names (`lookupClass_name`).

  Fragment: one module importing the builtins; unscoped super-class names; member types `int`/`void`.

  The searches (`findMapItems` and what is built on it) are those of /repo before 8d2984c (finding F10); those of
  /repo since are in QV.Model.ClassGraph.Repaired, which shares everything else (names, the walk, the method table).
-/
namespace QV.Model.ClassGraph

abbrev Name := String

/-- A member's type name after the type map's decoration stripping ("decorated type") has been applied;
    the stripping itself - string surgery on QList<..>, QVector<..>, QStringList, a trailing star, double colons -
    is done by the driver's reader and tied by the c17 stream; here the result is data.  (named whole segs): a plain
    or pointer type, whole = the stripped name as it appears in InvalidTypeRef, segs = its parts between double
    colons. -/
inductive TypeExpr where
  | named (whole : Name) (segs : List Name)
  | list (elem : TypeExpr)
  | unsupported (whole : Name)
deriving DecidableEq, Repr

def TypeExpr.int : TypeExpr := .named "int" ["int"]
def TypeExpr.void : TypeExpr := .named "void" ["void"]

inductive MethodKind where
  | signal | slot | method
deriving DecidableEq, Repr

/-- `metatype::Method`: name, `access == Public`, number of (`int`) arguments; return type `void` -/
structure MethodDecl where
  name : Name
  isPublic : Bool := true
  nargs : Nat := 0
deriving DecidableEq, Repr

/-- `metatype::Enum`: name, `is_class`, values -/
structure EnumDecl where
  name : Name
  isScoped : Bool := false
  variants : List Name := []
deriving DecidableEq, Repr

/-- `metatype::Class` (the fields the type map reads) -/
structure ClassDecl where
  name : Name
  /-- `super_classes`: (name, `access == Public`) in declaration order -/
  supers : List (Name × Bool) := []
  props : List Name := []
  signals : List MethodDecl := []
  slots : List MethodDecl := []
  methods : List MethodDecl := []
  enums : List EnumDecl := []
deriving DecidableEq, Repr

/-- one module: the classes passed to `ModuleData::extend` (in order) and the names that resolve in the
    module's scope to a type that is not a class (module-level enums, primitive types of the builtins) -/
structure Table where
  classes : List ClassDecl
  others : List Name := []
deriving DecidableEq, Repr

inductive TypeMapError where
  | invalidTypeRef (n : Name)          -- the name resolves to nothing
  | invalidSuperClassType (n : Name)   -- the name resolves to something that is not a class
  | unsupportedDecoration (n : Name)   -- X<..> other than QList<..> / QVector<..> (member types only)
deriving DecidableEq, Repr

/-- `Option<Result<T, TypeMapError>>` -/
inductive Lookup (α : Type) where
  | notFound                      -- `None`
  | found (a : α)                 -- `Some(Ok(a))`
  | error (e : TypeMapError)      -- `Some(Err(e))`
deriving DecidableEq, Repr

/-- `ClassData::from_meta`: only the public super classes are kept -/
def ClassDecl.publicSuperClassNames (d : ClassDecl) : List Name :=
  d.supers.filterMap fun s => if s.2 then some s.1 else none

/-- `NamespaceData::extend_classes` + `name_map.get`: a later class of the same name replaces the entry -/
def lookupClass : List ClassDecl → Name → Option ClassDecl
  | [], _ => none
  | d :: ds, n =>
    match lookupClass ds n with
    | some x => some x
    | none => if d.name = n then some d else none

/-- `resolve_class_scoped(parent_space, name)` for an unscoped name -/
def resolveClass (t : Table) (n : Name) : Except TypeMapError ClassDecl :=
  match lookupClass t.classes n with
  | some d => .ok d
  | none => if n ∈ t.others then .error (.invalidSuperClassType n) else .error (.invalidTypeRef n)

/-- item of the `SuperClasses` / `BaseClasses` iterators: `Result<Class, TypeMapError>` -/
inductive Item where
  | ok (c : ClassDecl)
  | err (e : TypeMapError)
deriving DecidableEq, Repr

/-- `Class::public_super_classes().collect()` -/
def superClasses (t : Table) (d : ClassDecl) : List Item :=
  d.publicSuperClassNames.map fun n =>
    match resolveClass t n with
    | .ok c => .ok c
    | .error e => .err e

/-! ### `BaseClasses`: breadth-first walk with a visited set

  State of the iterator: `pending : VecDeque<SuperClasses>` (each a list of names still to resolve) and
  `visited : HashSet<Class>`.  `bfsAux` is the whole sequence of items `next()` yields until it returns
  `None`; the fuel parameter only makes the recursion structural — `bfsFuel` always suffices
  (`QV.Proofs.ClassGraph.bfsAux_run`: the out-of-fuel branch is never taken). -/
def bfsAux (t : Table) : Nat → List (List Name) → List Name → List Item
  | 0, _, _ => []                                          -- out of fuel (unreachable, see above)
  | _ + 1, [], _ => []                                     -- `None`
  | f + 1, [] :: rest, vis => bfsAux t f rest vis          -- `self.pending.pop_front()`
  | f + 1, (n :: ns) :: rest, vis =>
    match resolveClass t n with
    | .error e => .err e :: bfsAux t f (ns :: rest) vis    -- `Err(_) => Some(r)`
    | .ok c =>
      if c.name ∈ vis then bfsAux t f (ns :: rest) vis     -- `Ok(_) => continue, // already visited`
      else .ok c :: bfsAux t f ((ns :: rest) ++ [c.publicSuperClassNames]) (c.name :: vis)

def pendingSize : List (List Name) → Nat
  | [] => 0
  | l :: rest => l.length + 1 + pendingSize rest

/-- what the classes not yet visited can still add to `pending` -/
def weight : List ClassDecl → List Name → Nat
  | [], _ => 0
  | d :: ds, vis => (if d.name ∈ vis then 0 else d.publicSuperClassNames.length + 1) + weight ds vis

/-- upper bound on the number of loop iterations from a state -/
def bfsFuel (t : Table) (pending : List (List Name)) (vis : List Name) : Nat :=
  pendingSize pending + weight t.classes vis + 1

/-- `Class::base_classes().collect()` -/
def baseClasses (t : Table) (d : ClassDecl) : List Item :=
  bfsAux t (bfsFuel t [d.publicSuperClassNames] []) [d.publicSuperClassNames] []

/-- `iter.find_map(|r| r.and_then(|c| f(&c).transpose()).transpose())`: the first error *or* hit wins -/
def findMapItems {α : Type} (f : ClassDecl → Lookup α) : List Item → Lookup α
  | [] => .notFound
  | .err e :: _ => .error e
  | .ok c :: rest =>
    match f c with
    | .notFound => findMapItems f rest
    | r => r

/-- `Class::find_map_self_and_base_classes` -/
def findMapSelfAndBaseClasses {α : Type} (t : Table) (self : ClassDecl) (f : ClassDecl → Lookup α) : Lookup α :=
  match f self with
  | .notFound => findMapItems f (baseClasses t self)
  | r => r

/-- `Class::is_derived_from_pedantic` -/
def isDerivedFromPedantic (t : Table) (self base : ClassDecl) : Lookup Unit :=
  if self.name = base.name then .found ()
  else findMapItems (fun c => if c.name = base.name then .found () else .notFound) (baseClasses t self)

/-- `Class::is_derived_from`: `pedantic.and_then(|r| r.ok()).is_some()` -/
def isDerivedFrom (t : Table) (self base : ClassDecl) : Bool :=
  match isDerivedFromPedantic t self base with
  | .found () => true
  | _ => false

/-- `Class::common_base_class` -/
def commonBaseClass (t : Table) (self other : ClassDecl) : Lookup ClassDecl :=
  findMapSelfAndBaseClasses t self fun cls =>
    match isDerivedFromPedantic t other cls with
    | .found () => .found cls
    | .error e => .error e
    | .notFound => .notFound

/-! ### nested enums (`inner_type_map`) -/

/-- `extend_enums` + `name_map.get(name)`: the last nested enum of that name -/
def lookupEnum : List EnumDecl → Name → Option EnumDecl
  | [], _ => none
  | e :: es, n =>
    match lookupEnum es n with
    | some x => some x
    | none => if e.name = n then some e else none

/-- `extend_enums` + `enum_variant_map.get(name)`: the last *unscoped* nested enum listing the variant -/
def lookupEnumByVariant : List EnumDecl → Name → Option EnumDecl
  | [], _ => none
  | e :: es, v =>
    match lookupEnumByVariant es v with
    | some x => some x
    | none => if !e.isScoped && v ∈ e.variants then some e else none

/-- `Class::get_type_no_super` (a class stores only enums as nested types) -/
def getTypeNoSuper (d : ClassDecl) (name : Name) : Lookup (ClassDecl × EnumDecl) :=
  match lookupEnum d.enums name with
  | some e => .found (d, e)
  | none => .notFound

/-- `<Class as TypeSpace>::get_type` -/
def getType (t : Table) (self : ClassDecl) (name : Name) : Lookup (ClassDecl × EnumDecl) :=
  findMapSelfAndBaseClasses t self fun cls => getTypeNoSuper cls name

def getEnumByVariantNoSuper (d : ClassDecl) (v : Name) : Lookup (ClassDecl × EnumDecl) :=
  match lookupEnumByVariant d.enums v with
  | some e => .found (d, e)
  | none => .notFound

/-- `<Class as TypeSpace>::get_enum_by_variant` -/
def getEnumByVariant (t : Table) (self : ClassDecl) (v : Name) : Lookup (ClassDecl × EnumDecl) :=
  findMapSelfAndBaseClasses t self fun cls => getEnumByVariantNoSuper cls v

/-! ### member types

  `Property::new` and `Method::new` resolve their type names with `object_class.resolve_type_scoped(n)`:
  first `Class::get_type(n)` — nested types of the class *and of its base classes*, so an unresolved super
  class met on that walk fails the member — and only if that finds nothing, the enclosing scopes, where
  `int` and `void` are found (builtins import). -/
def resolveMemberType (t : Table) (owner : ClassDecl) (tyName : Name) : Lookup Unit :=
  match getType t owner tyName with
  | .error e => .error e
  | .found _ => .found ()
  | .notFound => .found ()

/-- the first error among the lookups of several type names, in order (`?` / `collect::<Result<_,_>>`) -/
def resolveMemberTypes (t : Table) (owner : ClassDecl) : List Name → Lookup Unit
  | [] => .found ()
  | n :: ns =>
    match resolveMemberType t owner n with
    | .error e => .error e
    | _ => resolveMemberTypes t owner ns

/-! ### properties -/

/-- `Class::get_property_no_super`: `property_map.get(name).map(Property::new)`; the property's type is `int` -/
def getPropertyNoSuper (t : Table) (d : ClassDecl) (name : Name) : Lookup ClassDecl :=
  if name ∈ d.props then
    match resolveMemberType t d "int" with
    | .error e => .error e
    | _ => .found d
  else .notFound

/-- `Class::get_property`; the answer is the property's `object_class()` -/
def getProperty (t : Table) (self : ClassDecl) (name : Name) : Lookup ClassDecl :=
  findMapSelfAndBaseClasses t self fun cls => getPropertyNoSuper t cls name

/-! ### methods -/

structure MethodData where
  name : Name
  kind : MethodKind
  nargs : Nat
  /-- return type name / argument type names (QV.Model.ClassGraph.Typed; the untyped fragment of this file
      reads them as void / int) -/
  ret : TypeExpr := .void
  args : List TypeExpr := []
deriving DecidableEq, Repr

def insertByName (m : MethodData) : List MethodData → List MethodData
  | [] => [m]
  | x :: xs => if x.name < m.name then x :: insertByName m xs else m :: x :: xs

/-- `methods.sort_by(|a, b| a.name.cmp(&b.name))` — a stable sort -/
def sortByName (l : List MethodData) : List MethodData := l.foldr insertByName []

/-- `MethodDataTable::from_meta([(signals, Signal), (slots, Slot), (methods, Method)], Public)` -/
def methodTable (d : ClassDecl) : List MethodData :=
  let pick (k : MethodKind) (ms : List MethodDecl) : List MethodData :=
    ms.filterMap fun m => if m.isPublic then some { name := m.name, kind := k, nargs := m.nargs } else none
  sortByName (pick .signal d.signals ++ pick .slot d.slots ++ pick .method d.methods)

/-- `MethodDataTable::get_method_with`, the slice it selects: `partition_point(|d| d.name < name)` on the
    sorted table, then `take_while(|d| d.name == name)` -/
def methodSlice (table : List MethodData) (name : Name) : List MethodData :=
  (table.dropWhile fun d => d.name < name).takeWhile fun d => d.name = name

/-- `Class::get_public_method_no_super`: `None` when the slice is empty, else `Method::new` for each entry
    (return type `void`, then the argument types `int`) -/
def getPublicMethodNoSuper (t : Table) (d : ClassDecl) (name : Name) : Lookup (ClassDecl × List MethodData) :=
  match methodSlice (methodTable d) name with
  | [] => .notFound
  | ms =>
    match resolveMemberTypes t d ((ms.map fun m => "void" :: List.replicate m.nargs "int").flatten) with
    | .error e => .error e
    | _ => .found (d, ms)

/-- `Class::get_public_method`; the answer is the `object_class()` and the matches -/
def getPublicMethod (t : Table) (self : ClassDecl) (name : Name) : Lookup (ClassDecl × List MethodData) :=
  findMapSelfAndBaseClasses t self fun cls => getPublicMethodNoSuper t cls name

end QV.Model.ClassGraph
