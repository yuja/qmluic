/-
  The AST walk: mirrors /repo/lib/src/typedexpr.rs (`walk`, `walk_stmt`, `walk_stmt_nodes`, `walk_callback`,
  `walk_callback_function`, `walk_rvalue`, `walk_expr`, `process_identifier`, `process_namespace_name`,
  `process_item_property`, `process_type_annotation`, `check_condition_type`) driving the builder, with name
  resolution as `uigen::context::ObjectContext` does it (object ids first, then implicit-this properties, then
  implicit-this methods, then types).  Failure (`None` in Rust) keeps the diagnostics pushed so far.
-/
import QV.Model.Builder
import QV.Model.Ast

namespace QV.Model

structure Ctx where
  env : Env
  F : FloatOps
  /-- object ids of the document with their classes -/
  objects : List (String × String)
  /-- `this_object()`: (class, name) -/
  thisObj : Option (String × String)

inductive RefKind where
  | type (t : NamedTy)
  | enumVariant (e : String)
  | object (cls : String)
  | objectProperty (cls name : String) (p : PropInfo)
  | objectMethod (cls name : String) (ms : List MethodInfo)

inductive ExprKind where | lvalue | rvalue
deriving DecidableEq, Repr

inductive ReceiverKind where
  | object
  | gadget (k : ExprKind)
deriving DecidableEq, Repr

inductive NamespaceKind where | console | math
deriving DecidableEq, Repr

inductive Inter where
  | item (a : Operand)
  | local (l : Nat) (k : DeclKind)
  | boundProperty (a : Operand) (p : PropInfo) (rk : ReceiverKind)
  | boundSubscript (a i : Operand) (k : ExprKind)
  | boundMethod (a : Operand) (ms : List MethodInfo)
  | builtinFunction (f : Builtin)
  | builtinNamespace (k : NamespaceKind)
  | type (t : NamedTy)

namespace Ctx

/-- `ObjectContext::get_ref` -/
def getRef (c : Ctx) (name : String) : Option RefKind :=
  match c.objects.find? (·.1 = name) with
  | some (_, cls) => some (.object cls)
  | none =>
    match c.thisObj with
    | none => (c.env.types.find? (·.1 = name)).map fun p => .type p.2
    | some (tcls, tname) =>
      let ci := c.env.findClass tcls
      match ci.bind fun ci => ci.props.find? (·.name = name) with
      | some p => some (.objectProperty tcls tname p)
      | none =>
        match ci.bind fun ci => ci.methods.find? (·.1 = name) with
        | some (_, ms) => some (.objectMethod tcls tname ms)
        | none => (c.env.types.find? (·.1 = name)).map fun p => .type p.2

/-- `<NamedType as RefSpace>::get_ref`: nested type first, then enum variant -/
def typeGetRef (c : Ctx) (t : NamedTy) (name : String) : Option RefKind :=
  match t with
  | .cls n | .ns n =>
    (match c.env.findClass n with
     | none => none
     | some ci =>
       match ci.nested.find? (·.1 = name) with
       | some (_, nt) => some (.type nt)
       | none => (ci.variants.find? (·.1 = name)).map fun p => .enumVariant p.2)
  | .enum e =>
    (match c.env.findEnum e with
     | some ei => if ei.isScoped && ei.variants.contains name then some (.enumVariant e) else none
     | none => none)
  | _ => none

/-- `ObjectContext::get_annotated_type_scoped` -/
def annotatedType (c : Ctx) (scopedName : String) : Option TypeKind :=
  (c.env.types.find? (·.1 = scopedName)).map fun p =>
    match p.2 with
    | .cls n => if (c.env.findClass n).any (·.isObject) then .pointer (.cls n) else .just (.cls n)
    | .comp n => .pointer (.comp n)
    | t => .just t

/-- `TypeKind::into_class` as the name of the class table entry -/
def classOfType (_c : Ctx) : TypeKind → Option String
  | .just (.cls n) | .pointer (.cls n) => some n
  | .just (.prim .qstring) => some "QString"
  | .list _ => some "QList"
  | _ => none

end Ctx

abbrev Locals := List (String × (Nat × DeclKind))

def Locals.get? (m : Locals) (name : String) : Option (Nat × DeclKind) :=
  (m.find? (·.1 = name)).map (·.2)

/-- `HashMap::insert` -/
def Locals.insert (m : Locals) (name : String) (v : Nat × DeclKind) : Locals :=
  (name, v) :: m.filter (·.1 ≠ name)

structure WState where
  b : Builder := {}
  diags : List String := []
  /-- the `locals: &mut HashMap<String, (Local, kind)>` of the scope being walked: mutated in place, so
      insertions survive a later failure in the same scope (as they do in Rust) -/
  locals : Locals := []
  /-- bookkeeping for C06 only (no counterpart in the code): locals the USER declared without initialiser
      (`let x: T`); reading one before assigning it is the user's error, not a compiler temporary -/
  userUninit : List Nat := []
deriving Repr, Inhabited

abbrev W := OptionT (StateM WState)

def err {α} (msg : String) : W α := do
  modify fun s => { s with diags := s.diags ++ [msg] }
  failure

def pushDiag (msg : String) : W Unit :=
  modify fun s => { s with diags := s.diags ++ [msg] }

def getB : W Builder := do return (← get).b
def setB (b : Builder) : W Unit := modify fun s => { s with b := b }

/-- `consume_expr_err` / `consume_node_err` on a visitor result -/
def consume (r : VisitResult) : W Operand :=
  match r with
  | .ok (a, b) => do setB b; return a
  | .error e => err e.message

def consumeLocal (r : Except ExprError (Nat × Builder)) : W Nat :=
  match r with
  | .ok (a, b) => do setB b; return a
  | .error e => err e.message

def markBranchPoint : W Nat := do
  let b ← getB
  let (r, b) := b.newBlock
  setB b
  return r

def getLocals : W Locals := do return (← get).locals
def setLocals (l : Locals) : W Unit := modify fun s => { s with locals := l }

/-- `lookup_global_name` -/
def lookupGlobalName (name : String) : Option Inter :=
  if name = "Math" then some (.builtinNamespace .math)
  else if name = "console" then some (.builtinNamespace .console)
  else if name = "qsTr" then some (.builtinFunction .tr)
  else none

/-- `process_namespace_name` -/
def processNamespaceName (k : NamespaceKind) (name : String) : W Inter :=
  match k with
  | .console =>
    if name = "debug" then return .builtinFunction (.consoleLog .debug)
    else if name = "error" then return .builtinFunction (.consoleLog .error)
    else if name = "info" then return .builtinFunction (.consoleLog .info)
    else if name = "log" then return .builtinFunction (.consoleLog .log)
    else if name = "warn" then return .builtinFunction (.consoleLog .warn)
    else err s!"property/method named '{name}' not found in 'console'"
  | .math =>
    if name = "max" then return .builtinFunction .max
    else if name = "min" then return .builtinFunction .min
    else err s!"property/method named '{name}' not found in 'Math'"

/-- `process_identifier` (the `RefKind` → intermediate part, after the lookup) -/
def processRef (r : RefKind) (name : String) : W Inter :=
  match r with
  | .type t => return .type t
  | .enumVariant e => return .item (.enumVariant e name)
  | .object cls => return .item (.namedObject name cls)
  | .objectProperty cls oname p => return .boundProperty (.namedObject oname cls) p .object
  | .objectMethod cls oname ms => return .boundMethod (.namedObject oname cls) ms

/-- `process_identifier(ctx, Some(locals), true, …)` -/
def processIdentifier (c : Ctx) (name : String) : W Inter := do
  match (← getLocals).get? name with
  | some (l, k) => return .local l k
  | none =>
    match c.getRef name with
    | some r => processRef r name
    | none =>
      match lookupGlobalName name with
      | some x => return x
      | none => err "undefined reference"

/-- `process_identifier(&ty, None, false, …)`: member of a type -/
def processTypeMember (c : Ctx) (t : NamedTy) (name : String) : W Inter :=
  match c.typeGetRef t name with
  | some r => processRef r name
  | none => err "undefined reference"

/-- `process_item_property` -/
def processItemProperty (c : Ctx) (item : Operand) (name : String) (itemKind : ExprKind) : W Inter :=
  let notFound : W Inter :=
    err s!"property/method named '{name}' not found in type '{item.typeDesc.qualifiedName}'"
  match toConcreteType item.typeDesc with
  | .error e => err e.message
  | .ok ty =>
    match c.classOfType ty with
    | none => notFound
    | some cls =>
      let k : ReceiverKind := if ty.isPointer then .object else .gadget itemKind
      match c.env.findClass cls with
      | none => notFound
      | some ci =>
        match ci.props.find? (·.name = name) with
        | some p => return .boundProperty item p k
        | none =>
          match ci.methods.find? (·.1 = name) with
          | some (_, ms) =>
            -- the class representation of a list type is a temporary class named after the list type
            -- (`make_list_class(name)`): its methods report that name as their object class
            let ms := match ty with
              | .list _ => ms.map fun m => { m with cls := ty.cxxName }
              | _ => ms
            return .boundMethod item ms
          | none => notFound

/-- `process_type_annotation` -/
def processTypeAnnotation (c : Ctx) (components : List String) : W TypeKind :=
  match c.annotatedType (joinWith "::" components) with
  | some ty => return ty
  | none => err "undefined type"

/-- `check_condition_type` -/
def checkConditionType (condition : Operand) : W Unit :=
  if condition.typeDesc = .bool then return ()
  else err s!"condition must be of bool type, but got: {condition.typeDesc.qualifiedName}"

/-- the part of `walk_rvalue` after `walk_expr` -/
def interToRvalue (i : Inter) : W Operand := do
  match i with
  | .item x => return x
  | .local l _ => consume (visitLocalRef (← getB) l)
  | .boundProperty it p _ => consume (visitObjectProperty (← getB) it p)
  | .boundSubscript it i _ => consume (visitObjectSubscript (← getB) it i)
  | .boundMethod .. | .builtinFunction _ => err "bare function reference"
  | .builtinNamespace _ | .type _ => err "bare type reference"

mutual

/-- `walk_expr` -/
def walkExpr (c : Ctx) : Expr → W Inter
  | .ident name => processIdentifier c name
  | .this =>
    (match c.thisObj with
     | some (cls, name) => return .item (.namedObject name cls)
     | none => err "undefined reference")
  | .integer v => do return .item (← consume (visitInteger (← getB) v))
  | .float v => return .item (.const (.float v))
  | .string s => return .item (.const (.cstring s))
  | .bool v => return .item (.const (.bool v))
  | .null => return .item (.const .nullPointer)
  | .array ns => do
    let elements ← walkRvalues c ns
    return .item (← consume (visitArray c.env (← getB) elements))
  | .function => err "unsupported expression"
  | .member obj prop => do
    match ← walkExpr c obj with
    | .item it => processItemProperty c it prop .rvalue
    | .local l _ => do
      let it ← consume (visitLocalRef (← getB) l)
      processItemProperty c it prop .lvalue
    | .boundProperty it p _ => do
      let o ← consume (visitObjectProperty (← getB) it p)
      processItemProperty c o prop .rvalue
    | .boundSubscript it i _ => do
      let o ← consume (visitObjectSubscript (← getB) it i)
      processItemProperty c o prop .rvalue
    | .boundMethod .. | .builtinFunction _ => err "function has no property/method"
    | .builtinNamespace k => processNamespaceName k prop
    | .type t => processTypeMember c t prop
  | .subscript obj idx => do
    let (o, k) ← (do
      match ← walkExpr c obj with
      | .item it => pure (it, ExprKind.rvalue)
      | .local l _ => do
        let it ← consume (visitLocalRef (← getB) l)
        pure (it, ExprKind.lvalue)
      | .boundProperty it p _ => do
        let o ← consume (visitObjectProperty (← getB) it p)
        pure (o, ExprKind.rvalue)
      | .boundSubscript it i _ => do
        let o ← consume (visitObjectSubscript (← getB) it i)
        pure (o, ExprKind.rvalue)
      | .boundMethod .. | .builtinFunction _ => err "bare function reference"
      | .builtinNamespace _ | .type _ => err "bare type reference" : W (Operand × ExprKind))
    let index ← walkRvalue c idx
    return .boundSubscript o index k
  | .call fn args => do
    let arguments ← walkRvalues c args
    match ← walkExpr c fn with
    | .boundMethod it ms => do
      return .item (← consume (visitObjectMethodCall c.env (← getB) it ms arguments))
    | .builtinFunction f => do
      return .item (← consume (visitBuiltinCall c.env (← getB) f arguments))
    | _ => err "not callable"
  | .assign left right => do
    -- the left-hand reference first, then the value (repair 5ccd31a)
    let l ← walkExpr c left
    let r ← walkRvalue c right
    match l with
    | .local l k =>
      (match k with
       | .let_ => do return .item (← consume (visitLocalAssignment c.env (← getB) l r))
       | .const_ => err "cannot assign to const variable")
    | .boundProperty it p rk =>
      if rk = .gadget .rvalue then err "rvalue gadget property is not assignable"
      else do return .item (← consume (visitObjectPropertyAssignment c.env (← getB) it p r))
    | .boundSubscript it i k =>
      if k = .lvalue then do
        return .item (← consume (visitObjectSubscriptAssignment c.env (← getB) it i r))
      else err "rvalue subscript is not assignable"
    | _ => err "not assignable"
  | .unary opTok arg => do
    let argument ← walkRvalue c arg
    match opTok.toOp with
    | none => err s!"unsupported operation '{opTok.symbol}'"
    | some unary => do return .item (← consume (visitUnaryExpression c.F (← getB) unary argument))
  | .binary opTok l r =>
    (match opTok.toOp with
     | none => err s!"unsupported operation '{opTok.symbol}'"
     | some (.logical op) => do
       let left ← walkRvalue c l
       let leftLabel ← markBranchPoint
       let right ← walkRvalue c r
       let rightLabel ← markBranchPoint
       checkConditionType left
       checkConditionType right
       let (it, b) := visitBinaryLogicalExpression (← getB) op left leftLabel right rightLabel
       setB b
       return .item it
     | some binary => do
       let left ← walkRvalue c l
       let right ← walkRvalue c r
       return .item (← consume (visitBinaryExpression c.F c.env (← getB) binary left right)))
  | .as_ value ty => do
    let v ← walkRvalue c value
    let t ← processTypeAnnotation c ty
    return .item (← consume (visitAsExpression c.env (← getB) v t))
  | .ternary cnd a b => do
    let condition ← walkRvalue c cnd
    let conditionLabel ← markBranchPoint
    let consequence ← walkRvalue c a
    let consequenceLabel ← markBranchPoint
    let alternative ← walkRvalue c b
    let alternativeLabel ← markBranchPoint
    checkConditionType condition
    return .item (← consume (visitTernaryExpression c.env (← getB) condition conditionLabel
      consequence consequenceLabel alternative alternativeLabel))

/-- `walk_rvalue` -/
def walkRvalue (c : Ctx) (e : Expr) : W Operand := do
  interToRvalue (← walkExpr c e)

/-- `.map(|&n| walk_rvalue(..)).collect::<Option<Vec<_>>>()`: stops at the first failure -/
def walkRvalues (c : Ctx) : List Expr → W (List Operand)
  | [] => return []
  | e :: es => do
    let a ← walkRvalue c e
    let as ← walkRvalues c es
    return a :: as

end

/-- run a `W` computation, turning failure into `none` while keeping the state (diagnostics, builder, locals):
    `walk_stmt_nodes` visits all statements "to report as many errors as possible", `filter_map` closures skip
    failed cases/bodies -/
def attempt {α} (x : W α) : W (Option α) := fun s =>
  let (r, s') := (x.run s)
  (some r, s')

mutual

/-- `walk_stmt` -/
def walkStmt (c : Ctx) (breakLabel : Option Nat) : Stmt → W Unit
  | .expr e => do
    let value ← walkRvalue c e
    setB (visitExpressionStatement (← getB) value)
  | .block ns => do
    -- `let mut locals = locals.clone()`: inner scope inheriting outer; dropped afterwards
    let outer ← getLocals
    let ok ← walkStmts c breakLabel ns
    setLocals outer
    if ok then return () else failure
  | .lexical kind decls => walkDecls c kind decls
  | .if_ cnd a b => do
    let condition ← walkRvalue c cnd
    let conditionLabel ← markBranchPoint
    -- each branch is walked with its own clone of the name map (repair a011e08), dropped afterwards
    let outer ← getLocals
    let r ← attempt (walkStmt c breakLabel a)
    setLocals outer
    let some _ := r | failure
    let consequenceLabel ← markBranchPoint
    let alternativeLabel ← (match b with
      | some n => do
        let r ← attempt (walkStmt c breakLabel n)
        setLocals outer
        let some _ := r | failure
        return some (← markBranchPoint)
      | none => return none : W (Option Nat))
    checkConditionType condition
    setB (visitIfStatement (← getB) condition conditionLabel consequenceLabel alternativeLabel)
  | .switch value clauses => do
    -- more than one `default:` is a parse error (`ParseErrorKind::MultipleDefaultLabels`)
    if (clauses.filter (·.1.isNone)).length > 1 then err "multiple default labels" else
    let left ← walkRvalue c value
    let caseConditions ← walkCaseConditions c left clauses
    let nCases := (clauses.filter (·.1.isSome)).length
    let defaultPos := clauses.findIdx? (·.1.isNone)
    let headRef ← markBranchPoint
    let exitRef ← markBranchPoint
    -- every clause walks with its own clone of the name map (`walkBodies`; /repo 0aff63c, before it 2a702d4 cloned once
    -- for the whole case block), dropped also when a body fails: the map after the switch is the one before it
    let outer ← getLocals
    let bodies? ← attempt (walkBodies c (some exitRef) clauses)
    setLocals outer
    let some bodies := bodies? | failure
    if nCases = caseConditions.length ∧ clauses.length = bodies.length then
      setB (visitSwitchStatement (← getB) caseConditions bodies defaultPos headRef exitRef)
    else failure
  | .break_ labeled =>
    if labeled then err "labeled break is not supported"
    else match breakLabel with
      | some l => do setB (visitBreakStatement (← getB) l)
      | none => err "break not in loop or switch statement"
  | .return_ e => do
    let value ← (match e with
      | some n => walkRvalue c n
      | none => pure Operand.void : W Operand)
    setB (visitReturnStatement (← getB) value)

/-- the `for decl in &x.variables` loop of `Statement::LexicalDeclaration` -/
def walkDecls (c : Ctx) (kind : DeclKind) : List Decl → W Unit
  | [] => return ()
  | d :: rest => do
    let rvalue ← (match d.value with
      | some n => do return some (← walkRvalue c n)
      | none =>
        if kind = .const_ then err "const declaration must have initializer"
        else return none : W (Option Operand))
    let ty ← (match d.ty with
      | some n => processTypeAnnotation c n
      | none =>
        match rvalue with
        | some v =>
          (match toConcreteType v.typeDesc with
           | .ok t => return t
           | .error e => err e.message)
        | none => err "variable declaration must have type annotation or initializer" : W TypeKind)
    let l ← consumeLocal (visitLocalDeclaration (← getB) ty)
    setLocals ((← getLocals).insert d.name (l, kind))
    match rvalue with
    | some v => do
      let _ ← consume (visitLocalAssignment c.env (← getB) l v)
      walkDecls c kind rest
    | none => do
      modify fun s => { s with userUninit := s.userUninit ++ [l] }
      walkDecls c kind rest

/-- `walk_stmt_nodes`: visits every statement even after a failure; the result is `res.is_some()` -/
def walkStmts (c : Ctx) (breakLabel : Option Nat) : List Stmt → W Bool
  | [] => return true
  | s :: rest => do
    match ← attempt (walkStmt c breakLabel s) with
    | some () => walkStmts c breakLabel rest
    | none => do
      let _ ← walkStmts c breakLabel rest
      return false

/-- the `filter_map` over `x.cases` building the `==` conditions: a failed case is skipped (and makes the
    whole switch fail afterwards through the length check) -/
def walkCaseConditions (c : Ctx) (left : Operand) :
    List (Option Expr × List Stmt) → W (List (Operand × Nat))
  | [] => return []
  | (none, _) :: rest => walkCaseConditions c left rest
  | (some value, _) :: rest => do
    let r ← attempt (do
      let right ← walkRvalue c value
      let condition ← consume (visitBinaryExpression c.F c.env (← getB) (.cmp .eq) left right)
      let label ← markBranchPoint
      pure (condition, label))
    let others ← walkCaseConditions c left rest
    match r with
    | some x => return x :: others
    | none => return others

/-- the `filter_map` over the bodies: each clause walks with its own clone of the name map; all share the break label -/
def walkBodies (c : Ctx) (breakLabel : Option Nat) :
    List (Option Expr × List Stmt) → W (List Nat)
  | [] => return []
  | (_, body) :: rest => do
    -- each clause walks with its own clone of the name map (repair 0aff63c): a clause can be entered by a
    -- jump from the head, so declarations of a clause are visible neither after the switch nor in later clauses
    let outer ← getLocals
    let ok ← walkStmts c breakLabel body
    setLocals outer
    if ok then do
      let l ← markBranchPoint
      let others ← walkBodies c breakLabel rest
      return l :: others
    else walkBodies c breakLabel rest

end

/-- `walk_callback_function`: parameters, then the body -/
def walkCallbackFunction (c : Ctx) (f : Function) : W Unit := do
  if f.named then err "named function isn't allowed" else
  setLocals []
  let rec params (n : Nat) : List (String × Option (List String)) → W Nat
    | [] => return n
    | (name, ty) :: rest => do
      if ((← getLocals).get? name).isSome then do
        pushDiag s!"redefinition of parameter: {name}"
        params n rest
      else match ty with
        | some t => do
          let ty ← processTypeAnnotation c t
          let l ← consumeLocal (visitFunctionParameter (← getB) ty)
          setLocals ((← getLocals).insert name (l, .let_))
          params (n + 1) rest
        | none => do
          pushDiag "function parameter must have type annotation"
          params n rest
  let n ← params 0 f.params
  if n ≠ f.params.length then failure else
  match f.body with
  | .expr e => do
    let value ← walkRvalue c e
    setB (visitExpressionStatement (← getB) value)
  | .stmt s => walkStmt c none s

/-- `walk` / `walk_callback` (`finalize_completion_values` follows: QV.Model.Finalize) -/
def walkProgram (c : Ctx) (callback : Bool) (p : Program) : W Unit :=
  match p with
  | .stmt s => walkStmt c none s
  | .function f => if callback then walkCallbackFunction c f else err "unsupported expression"

end QV.Model
