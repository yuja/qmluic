/-
  Model of /repo/lib/src/uigen/layout.rs:
    LayoutFlow, LayoutIndexCounter::{new,next,parse_next}, maybe_parse_layout_index,
    maybe_insert_into_opt_i32_array, format_opt_i32_array, process_{vbox,hbox,form,grid}_layout_children,
    LayoutFlow::parse (count checks).
  `i32` values are `Int` (all values that reach this code went through `f64 as i32`, and the guards
  `MAX_INDEX`/`MAX_COUNT` keep every sum far inside the `i32` range).
-/
namespace QV.Model.Layout

inductive Flow where
  | leftToRight (columns : Int)
  | topToBottom (rows : Int)
deriving DecidableEq, Repr

structure Counter where
  flow : Flow
  nextRow : Int
  nextColumn : Int
deriving DecidableEq, Repr

def Counter.new (flow : Flow) : Counter := { flow, nextRow := 0, nextColumn := 0 }

/-- first half of `LayoutIndexCounter::next`: an explicit row and/or column repositions the cursor -/
def Counter.reposition (s : Counter) (row column : Option Int) : Counter :=
  match row, column with
  | some r, some c => { s with nextRow := r, nextColumn := c }
  | some r, none =>
    { s with nextRow := r,
             nextColumn := match s.flow with
               | .leftToRight _ => 0
               | .topToBottom _ => s.nextColumn }
  | none, some c =>
    { s with nextColumn := c,
             nextRow := match s.flow with
               | .leftToRight _ => s.nextRow
               | .topToBottom _ => 0 }
  | none, none => s

/-- second half of `LayoutIndexCounter::next`: move to the following cell (`%` is Rust's truncating
    remainder, `(x == 0) as i32` is 1 or 0) -/
def Counter.advance (s : Counter) : Counter :=
  match s.flow with
  | .leftToRight columns =>
    let nc := Int.tmod (s.nextColumn + 1) columns
    { s with nextColumn := nc, nextRow := s.nextRow + (if nc = 0 then 1 else 0) }
  | .topToBottom rows =>
    let nr := Int.tmod (s.nextRow + 1) rows
    { s with nextRow := nr, nextColumn := s.nextColumn + (if nr = 0 then 1 else 0) }

/-- `LayoutIndexCounter::next` -/
def Counter.next (s : Counter) (row column : Option Int) : (Int × Int) × Counter :=
  let s1 := s.reposition row column
  ((s1.nextRow, s1.nextColumn), s1.advance)

inductive Diag where
  | negativeIndex (field : String)        -- "negative {field} is not allowed"
  | indexTooLarge (field : String)        -- "{field} is too large"
  | mismatch (previous : Int)             -- "mismatched with the value previously set: {v0}"
  | nonPositiveCount (name : String)      -- "negative or zero {name} is not allowed"
  | countTooLarge (name : String)         -- "{name} is too large"
  | unusedAttached                        -- "unused or unsupported dynamic binding to attached property"
deriving DecidableEq, Repr

def Diag.message : Diag → String
  | .negativeIndex f => s!"negative {f} is not allowed"
  | .indexTooLarge f => s!"{f} is too large"
  | .mismatch v => s!"mismatched with the value previously set: {v}"
  | .nonPositiveCount n => s!"negative or zero {n} is not allowed"
  | .countTooLarge n => s!"{n} is too large"
  | .unusedAttached => "unused or unsupported dynamic binding to attached property"

def maxIndex : Int := 65535
def maxCount : Int := 65536

/-- `maybe_parse_layout_index` -/
def parseIndex (field : String) (index : Option Int) (max : Int) : Option Int × List Diag :=
  match index with
  | none => (none, [])
  | some v =>
    if v < 0 then (none, [.negativeIndex field])
    else if v > max then (none, [.indexTooLarge field])
    else (some v, [])

/-- the `pop_count_property` closure of `LayoutFlow::parse` -/
def popCount (name : String) (c : Option Int) : Int × List Diag :=
  match c with
  | none => (maxCount, [])
  | some c =>
    if c ≤ 0 then (maxCount, [.nonPositiveCount name])
    else if c > maxCount then (maxCount, [.countTooLarge name])
    else (c, [])

/-- `LayoutFlow::parse` given the already evaluated pseudo properties (`leftToRight` = flow value). -/
def parseFlow (leftToRight : Bool) (columns rows : Option Int) : Flow × List Diag :=
  let (cs, d1) := popCount "columns" columns
  let (rs, d2) := popCount "rows" rows
  (if leftToRight then .leftToRight cs else .topToBottom rs, d1 ++ d2)

/-- `LayoutIndexCounter::parse_next` -/
def Counter.parseNext (s : Counter) (row column : Option Int) : ((Int × Int) × Counter) × List Diag :=
  let (maxRow, maxColumn) :=
    match s.flow with
    | .leftToRight columns => (maxIndex, columns - 1)
    | .topToBottom rows => (rows - 1, maxIndex)
  let (r, d1) := parseIndex "row" row maxRow
  let (c, d2) := parseIndex "column" column maxColumn
  (s.next r c, d1 ++ d2)

/-- `Vec::resize_with(index + 1, Default::default)` then `array[index] = Some(v)` -/
def setAt (arr : List (Option Int)) (index : Nat) (v : Int) : List (Option Int) :=
  (arr ++ List.replicate (index + 1 - arr.length) none).set index (some v)

/-- `maybe_insert_into_opt_i32_array` -/
def maybeInsert (arr : List (Option Int)) (index : Nat) (value : Option Int) :
    List (Option Int) × List Diag :=
  match value with
  | none => (arr, [])
  | some v1 =>
    let arr' := arr ++ List.replicate (index + 1 - arr.length) none
    match arr'.getD index none with
    | some v0 => if v0 ≠ v1 then (arr', [.mismatch v0]) else (arr'.set index (some v1), [])
    | none => (arr'.set index (some v1), [])

structure Attached where
  row : Option Int := none
  column : Option Int := none
  rowSpan : Option Int := none
  columnSpan : Option Int := none
  rowStretch : Option Int := none
  columnStretch : Option Int := none
  rowMinimumHeight : Option Int := none
  columnMinimumWidth : Option Int := none
deriving DecidableEq, Repr

structure Item where
  row : Option Int
  column : Option Int
  rowSpan : Option Int
  columnSpan : Option Int
deriving DecidableEq, Repr

structure Attributes where
  columnMinimumWidth : List (Option Int) := []
  columnStretch : List (Option Int) := []
  rowMinimumHeight : List (Option Int) := []
  rowStretch : List (Option Int) := []
  stretch : List (Option Int) := []
deriving DecidableEq, Repr

def Item.ofAttached (row column : Option Int) (a : Attached) : Item :=
  { row, column, rowSpan := a.rowSpan, columnSpan := a.columnSpan }

/-- `process_grid_layout_children`: the `.map(|n| …).collect()` over the children, threading the
    index counter and the attribute arrays. -/
def gridGo (counter : Counter) (attrs : Attributes) : List Attached → Attributes × List Item × List Diag
  | [] => (attrs, [], [])
  | a :: rest =>
    let (((row, column), counter'), d0) := counter.parseNext a.row a.column
    let (cmw, d1) := maybeInsert attrs.columnMinimumWidth column.toNat a.columnMinimumWidth
    let (cs, d2) := maybeInsert attrs.columnStretch column.toNat a.columnStretch
    -- NOTE: the code inserts the row minimum height at the *column* index (finding F9)
    let (rmh, d3) := maybeInsert attrs.rowMinimumHeight column.toNat a.rowMinimumHeight
    let (rs, d4) := maybeInsert attrs.rowStretch row.toNat a.rowStretch
    let attrs1 : Attributes :=
      { attrs with columnMinimumWidth := cmw, columnStretch := cs, rowMinimumHeight := rmh, rowStretch := rs }
    let (attrs', items, diags) := gridGo counter' attrs1 rest
    (attrs', Item.ofAttached (some row) (some column) a :: items, d0 ++ d1 ++ d2 ++ d3 ++ d4 ++ diags)

def processGrid (flow : Flow) (children : List Attached) : Attributes × List Item × List Diag :=
  gridGo (Counter.new flow) {} children

/-- Attached values nobody evaluated are reported by `uigen::build` ("unused or unsupported dynamic
    binding to attached property": `is_evaluated_constant()` is false for never-evaluated code). -/
def unused (vals : List (Option Int)) : List Diag :=
  (vals.filter Option.isSome).map fun _ => .unusedAttached

/-- `process_form_layout_children`: fixed two-column left-to-right flow, no array attributes -/
def formGo (counter : Counter) : List Attached → List Item × List Diag
  | [] => ([], [])
  | a :: rest =>
    let (((row, column), counter'), d0) := counter.parseNext a.row a.column
    let (items, diags) := formGo counter' rest
    (Item.ofAttached (some row) (some column) a :: items,
      d0 ++ unused [a.rowStretch, a.columnStretch, a.rowMinimumHeight, a.columnMinimumWidth] ++ diags)

def processForm (children : List Attached) : Attributes × List Item × List Diag :=
  let (items, diags) := formGo (Counter.new (.leftToRight 2)) children
  ({}, items, diags)

/-- `process_vbox_layout_children` (`vertical = true`: stretch from rowStretch) and
    `process_hbox_layout_children` (stretch from columnStretch), recorded at the child's position -/
def boxGo (vertical : Bool) (index : Nat) (stretch : List (Option Int)) :
    List Attached → List (Option Int) × List Item × List Diag
  | [] => (stretch, [], [])
  | a :: rest =>
    let (arr, d) := maybeInsert stretch index (if vertical then a.rowStretch else a.columnStretch)
    let (arr', items, diags) := boxGo vertical (index + 1) arr rest
    (arr', Item.ofAttached none none a :: items,
      d ++ unused [a.row, a.column, if vertical then a.columnStretch else a.rowStretch,
                   a.rowMinimumHeight, a.columnMinimumWidth] ++ diags)

def processBox (vertical : Bool) (children : List Attached) : Attributes × List Item × List Diag :=
  let (arr, items, diags) := boxGo vertical 0 [] children
  ({ stretch := arr }, items, diags)

/-- `format_opt_i32_array` as the list of numbers it joins with "," -/
def formatArray (arr : List (Option Int)) (default : Int) : List Int := arr.map (·.getD default)

end QV.Model.Layout
