import QV.Proofs.ClassGraphRepaired

/-
  The search of QV.Model.ClassGraph as it was BEFORE the repair of F10 (/repo 8d2984c): `findMapItems` stops at the
  first unresolved super class it meets, and a member's type names are resolved through such a search again.
  `fmsb` is `findMapSelfAndBaseClasses`.  The namespace is that of the shared lemmas, as the model's is for this code;
  the counterparts for today's search (QV.Proofs.ClassGraph.Repaired) have other names:
    fmsb_eq, fmsb_cases, fmsb_found           search_eq, search_cases, search_found
    MemberLookup, getType_member, …           TotalMemberLookup, getType_total, …   (joined by `MemberLookup.of_total`)
    pedantic_eq, pedantic_found               derives_eq_search, pedantic_found_iff
    commonBaseClass_found, _complete          commonBase_sound, commonBase_complete
-/
namespace QV.Proofs.ClassGraph
open QV.Model.ClassGraph

theorem findMapItems_cases {α : Type} (f : ClassDecl → Lookup α) (l : List Item) :
    (findMapItems f l = .notFound ∧ (∀ e, .err e ∉ l) ∧ ∀ d, .ok d ∈ l → f d = .notFound) ∨
    (∃ e, findMapItems f l = .error e ∧ .err e ∈ l) ∨
    (∃ d, .ok d ∈ l ∧ f d ≠ .notFound ∧ findMapItems f l = f d) := by
  induction l with
  | nil => exact .inl ⟨rfl, fun _ he => (nomatch he), fun _ hd => (nomatch hd)⟩
  | cons i rest ih =>
    cases i with
    | err e => exact .inr (.inl ⟨e, rfl, List.mem_cons_self⟩)
    | ok c =>
      by_cases hfc : f c = .notFound
      · have heq : findMapItems f (.ok c :: rest) = findMapItems f rest := by rw [findMapItems, hfc]
        rw [heq]
        rcases ih with ⟨h0, h1, h2⟩ | ⟨e, h1, h2⟩ | ⟨d, h1, h2, h3⟩
        · refine .inl ⟨h0, fun e he => h1 e (List.mem_of_ne_of_mem Item.noConfusion he), fun d hd => ?_⟩
          rcases List.mem_cons.mp hd with h | h
          · cases h; exact hfc
          · exact h2 d h
        · exact .inr (.inl ⟨e, h1, List.mem_cons_of_mem _ h2⟩)
        · exact .inr (.inr ⟨d, List.mem_cons_of_mem _ h1, h2, h3⟩)
      · refine .inr (.inr ⟨c, List.mem_cons_self, hfc, ?_⟩)
        rw [findMapItems]
        split
        · next h => exact absurd h hfc
        · rfl

theorem fmsb_eq {α : Type} (t : Table) (self : ClassDecl) (f : ClassDecl → Lookup α) :
    findMapSelfAndBaseClasses t self f = findMapItems f (.ok self :: baseClasses t self) := by
  rw [findMapSelfAndBaseClasses, findMapItems]

theorem fmsb_cases {α : Type} (t : Table) (self : ClassDecl) (f : ClassDecl → Lookup α) :
    (findMapSelfAndBaseClasses t self f = .notFound ∧ Clean t self ∧ ∀ d, Reach t self d → f d = .notFound) ∨
    (∃ e, findMapSelfAndBaseClasses t self f = .error e ∧ .err e ∈ baseClasses t self) ∨
    (∃ d, Reach t self d ∧ f d ≠ .notFound ∧ findMapSelfAndBaseClasses t self f = f d) := by
  rw [fmsb_eq]
  rcases findMapItems_cases f (.ok self :: baseClasses t self) with ⟨h0, h1, h2⟩ | ⟨e, h0, h1⟩ | ⟨d, h1, h2⟩
  · exact .inl ⟨h0, fun e he => h1 e (List.mem_cons_of_mem _ he), fun d hd => h2 d (mem_self_baseClasses.mpr hd)⟩
  · exact .inr (.inl ⟨e, h0, List.mem_of_ne_of_mem Item.noConfusion h1⟩)
  · exact .inr (.inr ⟨d, mem_self_baseClasses.mp h1, h2⟩)

theorem fmsb_found {α : Type} {t : Table} {self : ClassDecl} {f : ClassDecl → Lookup α} {x : α}
    (h : findMapSelfAndBaseClasses t self f = .found x) : ∃ d, Reach t self d ∧ f d = .found x := by
  rcases fmsb_cases t self f with ⟨h0, _⟩ | ⟨e, h0, _⟩ | ⟨d, hd, _, h0⟩
  · rw [h0] at h; cases h
  · rw [h0] at h; cases h
  · exact ⟨d, hd, h0 ▸ h⟩

theorem fmsb_notFound {α : Type} {t : Table} {self : ClassDecl} {f : ClassDecl → Lookup α}
    (h : findMapSelfAndBaseClasses t self f = .notFound) :
    Clean t self ∧ ∀ d, Reach t self d → f d = .notFound := by
  rcases fmsb_cases t self f with ⟨_, h1⟩ | ⟨e, h0, _⟩ | ⟨d, _, hne, h0⟩
  · exact h1
  · rw [h0] at h; cases h
  · exact absurd (h0 ▸ h) hne

theorem fmsb_error {α : Type} {t : Table} {self : ClassDecl} {f : ClassDecl → Lookup α} {e : TypeMapError}
    (h : findMapSelfAndBaseClasses t self f = .error e) :
    .err e ∈ baseClasses t self ∨ ∃ d, Reach t self d ∧ f d = .error e := by
  rcases fmsb_cases t self f with ⟨h0, _⟩ | ⟨e', h0, he⟩ | ⟨d, hd, _, h0⟩
  · rw [h0] at h; cases h
  · rw [h0] at h; cases h; exact .inl he
  · exact .inr ⟨d, hd, h0 ▸ h⟩

/-! ### a member lookup in general

  `f` is the per-class lookup (`get_*_no_super`), `P d` says that class `d` declares the member; `error`: a
  per-class lookup fails only with an error of that class's own base-class walk (its member types). -/
section member
variable {α : Type} {t : Table} {f : ClassDecl → Lookup α} {P : ClassDecl → Prop} {owner : α → ClassDecl}

structure MemberLookup (t : Table) (f : ClassDecl → Lookup α) (P : ClassDecl → Prop) (owner : α → ClassDecl) : Prop where
  found : ∀ d x, f d = .found x → owner x = d ∧ P d
  notFound : ∀ d, f d = .notFound → ¬ P d
  error : ∀ d e, f d = .error e → .err e ∈ baseClasses t d

theorem MemberLookup.sound (m : MemberLookup t f P owner) {self : ClassDecl} {x : α}
    (h : findMapSelfAndBaseClasses t self f = .found x) : Reach t self (owner x) ∧ P (owner x) := by
  obtain ⟨d, hd, hfd⟩ := fmsb_found h
  obtain ⟨h1, h2⟩ := m.found d x hfd
  rw [h1]; exact ⟨hd, h2⟩

theorem MemberLookup.none (m : MemberLookup t f P owner) {self : ClassDecl}
    (h : findMapSelfAndBaseClasses t self f = .notFound) : Clean t self ∧ ∀ d, Reach t self d → ¬ P d := by
  obtain ⟨h1, h2⟩ := fmsb_notFound h
  exact ⟨h1, fun d hd => m.notFound d (h2 d hd)⟩

theorem MemberLookup.err (m : MemberLookup t f P owner) {self : ClassDecl} {e : TypeMapError}
    (h : findMapSelfAndBaseClasses t self f = .error e) : ¬ Clean t self := by
  intro hc
  rcases fmsb_error h with h | ⟨d, hd, hfd⟩
  · exact hc e h
  · exact (hc.of_reach hd) e (m.error d e hfd)

theorem MemberLookup.complete (m : MemberLookup t f P owner) {self d : ClassDecl} (hc : Clean t self)
    (hd : Reach t self d) (hp : P d) : ∃ x, findMapSelfAndBaseClasses t self f = .found x := by
  cases h : findMapSelfAndBaseClasses t self f with
  | found x => exact ⟨x, rfl⟩
  | notFound => exact absurd hp ((m.none h).2 d hd)
  | error e => exact absurd hc (m.err h)

theorem MemberLookup.own_first (m : MemberLookup t f P owner) {self : ClassDecl} (hc : Clean t self) (hp : P self) :
    ∃ x, findMapSelfAndBaseClasses t self f = .found x ∧ owner x = self := by
  cases h : f self with
  | found x => exact ⟨x, by rw [findMapSelfAndBaseClasses, h], (m.found self x h).1⟩
  | notFound => exact absurd hp (m.notFound self h)
  | error e => exact absurd (m.error self e h) (hc e)

/-- the per-class look-ups before the repair are those of today, unless a member type fails to resolve — which only
    an unresolved super class above the class can cause -/
theorem MemberLookup.of_total {g : ClassDecl → Lookup α} (m : Repaired.TotalMemberLookup g P owner)
    (h : ∀ d, f d = g d ∨ ∃ e, f d = .error e ∧ .err e ∈ baseClasses t d) : MemberLookup t f P owner := by
  refine ⟨fun d x hf => ?_, fun d hf => ?_, fun d e hf => ?_⟩ <;> rcases h d with e' | ⟨e', he, hm⟩
  · exact m.found d x (e' ▸ hf)
  · rw [he] at hf; cases hf
  · exact m.notFound d (e' ▸ hf)
  · rw [he] at hf; cases hf
  · exact absurd (e' ▸ hf) (m.noError d e)
  · rw [he] at hf; cases hf; exact hm

end member

theorem getType_found_enum {t : Table} {self : ClassDecl} {name : Name} {x : ClassDecl × EnumDecl}
    (h : getType t self name = .found x) : x.2 ∈ x.1.enums ∧ x.2.name = name := by
  obtain ⟨d, _, hfd⟩ := fmsb_found h
  obtain ⟨rfl, h2⟩ := getTypeNoSuper_found hfd
  exact h2

theorem getEnumByVariant_found_enum {t : Table} {self : ClassDecl} {v : Name} {x : ClassDecl × EnumDecl}
    (h : getEnumByVariant t self v = .found x) : x.2 ∈ x.1.enums ∧ x.2.isScoped = false ∧ v ∈ x.2.variants := by
  obtain ⟨d, _, hfd⟩ := fmsb_found h
  obtain ⟨rfl, h2⟩ := getEnumByVariantNoSuper_found hfd
  exact h2

/-- a member's type fails to resolve only because of an unresolved super class above its class -/
theorem resolveMemberType_error {t : Table} {d : ClassDecl} {ty : Name} {e : TypeMapError}
    (h : resolveMemberType t d ty = .error e) : .err e ∈ baseClasses t d := by
  unfold resolveMemberType at h
  split at h
  · next e' he =>
    cases h
    rcases fmsb_error he with h | ⟨d', _, hfd⟩
    · exact h
    · exact absurd hfd (getTypeNoSuper_ne_error d' ty e)
  · cases h
  · cases h

theorem resolveMemberType_clean {t : Table} {d : ClassDecl} (hc : Clean t d) (ty : Name) :
    resolveMemberType t d ty = .found () := by
  cases h : resolveMemberType t d ty with
  | found u => rfl
  | error e => exact absurd (resolveMemberType_error h) (hc e)
  | notFound => unfold resolveMemberType at h; split at h <;> cases h

theorem resolveMemberTypes_error {t : Table} {d : ClassDecl} {tys : List Name} {e : TypeMapError}
    (h : resolveMemberTypes t d tys = .error e) : .err e ∈ baseClasses t d := by
  induction tys with
  | nil => cases h
  | cons ty rest ih =>
    simp only [resolveMemberTypes] at h
    split at h
    · next e' he => cases h; exact resolveMemberType_error he
    · exact ih h

theorem getType_member (t : Table) (name : Name) :
    MemberLookup t (fun cls => getTypeNoSuper cls name) (fun d => ∃ e ∈ d.enums, e.name = name) (·.1) :=
  .of_total (Repaired.getType_total name) fun _ => .inl rfl

theorem getEnumByVariant_member (t : Table) (v : Name) :
    MemberLookup t (fun cls => getEnumByVariantNoSuper cls v)
      (fun d => ∃ e ∈ d.enums, e.isScoped = false ∧ v ∈ e.variants) (·.1) :=
  .of_total (Repaired.getEnumByVariant_total v) fun _ => .inl rfl

theorem getProperty_member (t : Table) (p : Name) :
    MemberLookup t (fun cls => getPropertyNoSuper t cls p) (fun d => p ∈ d.props) id := by
  refine .of_total (Repaired.getProperty_total t p) fun d => ?_
  show getPropertyNoSuper t d p = Repaired.getPropertyNoSuper t d p ∨ _
  rw [Repaired.getPropertyNoSuper_eq, getPropertyNoSuper]
  split
  · cases h : resolveMemberType t d "int" with
    | error e => exact .inr ⟨e, rfl, resolveMemberType_error h⟩
    | _ => exact .inl rfl
  · exact .inl rfl

theorem getPublicMethod_member (t : Table) (m : Name) :
    MemberLookup t (fun cls => getPublicMethodNoSuper t cls m) (fun d => methodSlice (methodTable d) m ≠ []) (·.1) := by
  refine .of_total (Repaired.getPublicMethod_total t m) fun d => ?_
  show getPublicMethodNoSuper t d m = Repaired.getPublicMethodNoSuper t d m ∨ _
  rw [Repaired.getPublicMethodNoSuper_eq, getPublicMethodNoSuper]
  generalize methodSlice (methodTable d) m = ms
  cases ms with
  | nil => exact .inl rfl
  | cons x xs =>
    cases h : resolveMemberTypes t d (((x :: xs).map fun m => "void" :: List.replicate m.nargs "int").flatten) with
    | error e => exact .inr ⟨e, by simp only [h], resolveMemberTypes_error h⟩
    | _ => exact .inl (by simp only [h]; rfl)

theorem getPublicMethodNoSuper_found {t : Table} {d : ClassDecl} {m : Name} {x : ClassDecl × List MethodData}
    (h : getPublicMethodNoSuper t d m = .found x) :
    x.1 = d ∧ x.2 = methodSlice (methodTable d) m ∧ methodSlice (methodTable d) m ≠ [] := by
  unfold getPublicMethodNoSuper at h
  split at h
  · cases h
  · next hne => split at h <;> cases h <;> exact ⟨rfl, rfl, hne⟩

theorem getPublicMethod_found_slice {t : Table} {self : ClassDecl} {m : Name} {x : ClassDecl × List MethodData}
    (h : getPublicMethod t self m = .found x) :
    x.2 = methodSlice (methodTable x.1) m ∧ methodSlice (methodTable x.1) m ≠ [] := by
  obtain ⟨d, _, hfd⟩ := fmsb_found h
  obtain ⟨rfl, h2⟩ := getPublicMethodNoSuper_found hfd
  exact h2

/-- "derives from" is the search for a class of the base's name -/
theorem pedantic_eq (t : Table) (self base : ClassDecl) :
    isDerivedFromPedantic t self base =
      findMapSelfAndBaseClasses t self fun c => if c.name = base.name then .found () else .notFound := by
  unfold isDerivedFromPedantic findMapSelfAndBaseClasses
  split
  · next h => simp only [h, if_true]
  · next h => simp only [h, if_false]

theorem pedantic_found {t : Table} {self base : ClassDecl}
    (hs : lookupClass t.classes self.name = some self) (hb : lookupClass t.classes base.name = some base)
    (h : isDerivedFromPedantic t self base = .found ()) : Reach t self base := by
  rw [pedantic_eq] at h
  obtain ⟨d, hr, hfd⟩ := fmsb_found h
  split at hfd
  · next hn => rw [← handle_eq_of_name_eq (reach_handle hr hs) hb hn]; exact hr
  · cases hfd

theorem pedantic_notFound {t : Table} {self base : ClassDecl}
    (h : isDerivedFromPedantic t self base = .notFound) : Clean t self ∧ ¬ Reach t self base := by
  rw [pedantic_eq] at h
  obtain ⟨h1, h2⟩ := fmsb_notFound h
  refine ⟨h1, fun hr => ?_⟩
  have := h2 base hr
  simp at this

theorem pedantic_error {t : Table} {self base : ClassDecl} {e : TypeMapError}
    (h : isDerivedFromPedantic t self base = .error e) : .err e ∈ baseClasses t self := by
  rw [pedantic_eq] at h
  rcases fmsb_error h with h | ⟨d, _, hfd⟩
  · exact h
  · split at hfd <;> cases hfd

theorem isDerivedFrom_eq_true {t : Table} {self base : ClassDecl} :
    isDerivedFrom t self base = true ↔ isDerivedFromPedantic t self base = .found () := by
  unfold isDerivedFrom
  cases isDerivedFromPedantic t self base <;> simp

/-- all tables: a positive answer is always right -/
theorem isDerivedFrom_sound {t : Table} {self base : ClassDecl}
    (hs : lookupClass t.classes self.name = some self) (hb : lookupClass t.classes base.name = some base)
    (h : isDerivedFrom t self base = true) : Reach t self base :=
  pedantic_found hs hb (isDerivedFrom_eq_true.mp h)

/-- when no unresolved reference can be met from `self`, every ancestor is recognised -/
theorem isDerivedFrom_complete {t : Table} {self base : ClassDecl} (hc : Clean t self) (hr : Reach t self base) :
    isDerivedFrom t self base = true := by
  rw [isDerivedFrom_eq_true]
  cases h : isDerivedFromPedantic t self base with
  | found u => rfl
  | notFound => exact absurd hr (pedantic_notFound h).2
  | error e => exact absurd (pedantic_error h) (hc e)

/-- all tables: a negative answer means "not an ancestor" or "an unresolved reference was met" -/
theorem isDerivedFrom_false {t : Table} {self base : ClassDecl} (h : isDerivedFrom t self base = false) :
    ¬ Reach t self base ∨ ¬ Clean t self := by
  by_cases hc : Clean t self
  · refine .inl fun hr => ?_
    rw [isDerivedFrom_complete hc hr] at h; cases h
  · exact .inr hc

theorem commonBaseClass_found {t : Table} {self other c : ClassDecl}
    (hs : lookupClass t.classes self.name = some self) (ho : lookupClass t.classes other.name = some other)
    (h : commonBaseClass t self other = .found c) : Reach t self c ∧ Reach t other c := by
  obtain ⟨d, hd, hfd⟩ := fmsb_found h
  split at hfd
  · next hp => cases hfd; exact ⟨hd, pedantic_found ho (reach_handle hd hs) hp⟩
  · cases hfd
  · cases hfd

theorem commonBaseClass_notFound {t : Table} {self other : ClassDecl}
    (h : commonBaseClass t self other = .notFound) : ∀ c, Reach t self c → ¬ Reach t other c := by
  obtain ⟨_, h2⟩ := fmsb_notFound h
  intro c hc hoc
  have := h2 c hc
  split at this
  · cases this
  · cases this
  · next hp => exact (pedantic_notFound hp).2 hoc

theorem commonBaseClass_error {t : Table} {self other : ClassDecl} {e : TypeMapError}
    (h : commonBaseClass t self other = .error e) : ¬ Clean t self ∨ ¬ Clean t other := by
  rcases fmsb_error h with h | ⟨d, _, hfd⟩
  · exact .inl fun hc => hc e h
  · split at hfd
    · cases hfd
    · next e' hp => cases hfd; exact .inr fun hc => hc e (pedantic_error hp)
    · cases hfd

theorem commonBaseClass_complete {t : Table} {self other c : ClassDecl} (hcs : Clean t self) (hco : Clean t other)
    (h1 : Reach t self c) (h2 : Reach t other c) : ∃ c', commonBaseClass t self other = .found c' := by
  cases h : commonBaseClass t self other with
  | found c' => exact ⟨c', rfl⟩
  | notFound => exact absurd h2 (commonBaseClass_notFound h c h1)
  | error e => rcases commonBaseClass_error h with h | h <;> contradiction

end QV.Proofs.ClassGraph
