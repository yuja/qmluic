/- C12: the counter is a cell of the specification (`ctr`, `InFlow`); an array of optional values is the settings it records
   (`Repr`, `absorb`). -/
import QV.Model.Layout
import QV.Spec.Layout

namespace QV.Proofs.Layout
open QV.Model.Layout QV.Spec.Layout

def flowOf (ltr : Bool) (n : Nat) : Flow := if ltr then .leftToRight n else .topToBottom n

def ctr (ltr : Bool) (n : Nat) (p : Nat × Nat) : Counter := ⟨flowOf ltr n, p.1, p.2⟩

/-- The counter's invariant: the coordinate that wraps stays below the count. -/
def InFlow (ltr : Bool) (n : Nat) (p : Nat × Nat) : Prop := if ltr then p.2 < n else p.1 < n

theorem tmod_succ {x n : Nat} (h : x < n) :
    Int.tmod ((x : Int) + 1) n = if x + 1 = n then 0 else (x : Int) + 1 := by
  split
  · next hw => subst hw; exact Int.tmod_self
  · exact Int.tmod_eq_of_lt (by omega) (by omega)

theorem ctr_reposition (ltr : Bool) (n : Nat) (p : Nat × Nat) (row col : Option Nat) :
    (ctr ltr n p).reposition (row.map Int.ofNat) (col.map Int.ofNat) = ctr ltr n (place ltr p row col) := by
  cases ltr <;> cases row <;> cases col <;> rfl

theorem ctr_advance {ltr : Bool} {n : Nat} {p : Nat × Nat} (h : InFlow ltr n p) :
    (ctr ltr n p).advance = ctr ltr n (advance ltr n p) ∧ InFlow ltr n (advance ltr n p) := by
  obtain ⟨r, c⟩ := p
  cases ltr
  -- top to bottom: the row wraps; left to right is the same with rows and columns exchanged
  · have h : r < n := h
    simp only [ctr, flowOf, Counter.advance, advance, InFlow, tmod_succ h, Bool.false_eq_true, if_false]
    by_cases hw : r + 1 = n
    · simp only [hw, if_true]
      exact ⟨rfl, hw ▸ Nat.succ_pos r⟩
    · simp only [hw, if_false, if_neg (show ¬ (r : Int) + 1 = 0 by omega), Int.add_zero]
      exact ⟨rfl, Nat.lt_of_le_of_ne h hw⟩
  · have h : c < n := h
    simp only [ctr, flowOf, Counter.advance, advance, InFlow, tmod_succ h, if_true]
    by_cases hw : c + 1 = n
    · simp only [hw, if_true]
      exact ⟨rfl, hw ▸ Nat.succ_pos c⟩
    · simp only [hw, if_false, if_neg (show ¬ (c : Int) + 1 = 0 by omega), Int.add_zero]
      exact ⟨rfl, Nat.lt_of_le_of_ne h hw⟩

theorem parseIndex_fst (f : String) (v : Option Int) (max : Int) :
    (parseIndex f v max).1 = (validIndex v max).map Int.ofNat := by
  cases v with
  | none => rfl
  | some v =>
    simp only [parseIndex, validIndex]
    by_cases h1 : v < 0
    · rw [if_pos h1, if_neg (fun h => Int.not_le.mpr h1 h.1)]; rfl
    · by_cases h2 : v > max
      · rw [if_neg h1, if_pos h2, if_neg (fun h => Int.not_le.mpr h2 h.2)]; rfl
      · rw [if_neg h1, if_neg h2, if_pos ⟨Int.not_lt.mp h1, Int.not_lt.mp h2⟩]
        exact congrArg some (Int.toNat_of_nonneg (Int.not_lt.mp h1)).symm

theorem validIndex_le {v : Option Int} {max : Int} {k : Nat} (h : validIndex v max = some k) :
    (k : Int) ≤ max := by
  cases v with
  | none => cases h
  | some v =>
    simp only [validIndex] at h
    split at h
    · cases h; omega
    · cases h

/-- The specification's placement of a child with raw (unvalidated) explicit indexes; 65535 is the model's
    `maxIndex` (`MAX_INDEX` of layout.rs, an arbitrary cap on allocation). -/
def specPlace (ltr : Bool) (n : Nat) (cursor : Nat × Nat) (row col : Option Int) : Nat × Nat :=
  place ltr cursor (validIndex row (if ltr then 65535 else (n : Int) - 1))
    (validIndex col (if ltr then (n : Int) - 1 else 65535))

/-- An explicit index in the wrapping direction is accepted only below the count. -/
theorem specPlace_inFlow {ltr : Bool} {n : Nat} {p : Nat × Nat} (hn : 0 < n) (h : InFlow ltr n p)
    (row col : Option Int) : InFlow ltr n (specPlace ltr n p row col) := by
  unfold specPlace
  cases ltr
  · simp only [Bool.false_eq_true, if_false]
    cases hr : validIndex row ((n : Int) - 1) with
    | none =>
      -- no row given: the cursor's row, or row 0 if a column is given
      cases validIndex col 65535 with
      | none => exact h
      | some _ => exact hn
    | some r =>
      have hr : r < n := by
        have := validIndex_le hr
        omega
      cases validIndex col 65535 <;> exact hr
  · simp only [if_true]
    cases hc : validIndex col ((n : Int) - 1) with
    | none =>
      cases validIndex row 65535 with
      | none => exact h
      | some _ => exact hn
    | some c =>
      have hc : c < n := by
        have := validIndex_le hc
        omega
      cases validIndex row 65535 <;> exact hc

theorem parseNext_spec {ltr : Bool} {n : Nat} {p : Nat × Nat} (hn : 0 < n) (h : InFlow ltr n p)
    (row col : Option Int) :
    (∃ d, Counter.parseNext (ctr ltr n p) row col =
      (((((specPlace ltr n p row col).1 : Int), ((specPlace ltr n p row col).2 : Int)),
        ctr ltr n (advance ltr n (specPlace ltr n p row col))), d))
    ∧ InFlow ltr n (advance ltr n (specPlace ltr n p row col)) := by
  have ha := ctr_advance (specPlace_inFlow hn h row col)
  refine ⟨⟨_, Prod.ext ?_ rfl⟩, ha.2⟩
  have key : (Counter.parseNext (ctr ltr n p) row col).1 = Counter.next (ctr ltr n p)
      ((validIndex row (if ltr then 65535 else (n : Int) - 1)).map Int.ofNat)
      ((validIndex col (if ltr then (n : Int) - 1 else 65535)).map Int.ofNat) := by
    rw [← parseIndex_fst "row", ← parseIndex_fst "column"]
    cases ltr <;> rfl
  rw [key, Counter.next, ctr_reposition]
  exact Prod.ext rfl ha.1

/-- `arr` represents the settings `seen`.  (Hides the core class `Repr` in this namespace.) -/
def Repr (arr : List (Option Int)) (seen : List (Nat × Int)) : Prop :=
  arr.length = recordedLen seen ∧ ∀ i, arr.getD i none = recorded seen i

theorem repr_nil : Repr [] [] := ⟨rfl, fun _ => rfl⟩

theorem recorded_lt {seen : List (Nat × Int)} {j : Nat} {v : Int} (h : recorded seen j = some v) :
    j < recordedLen seen := by
  induction seen with
  | nil => cases h
  | cons p rest ih =>
    obtain ⟨k, w⟩ := p
    simp only [recorded] at h
    simp only [recordedLen]
    split at h
    · omega
    · have := ih h; omega

theorem recorded_append (s t : List (Nat × Int)) (i : Nat) :
    recorded (s ++ t) i = (recorded s i).or (recorded t i) := by
  induction s with
  | nil => rfl
  | cons p rest ih =>
    obtain ⟨k, w⟩ := p
    simp only [List.cons_append, recorded]
    split
    · rfl
    · exact ih

theorem recordedLen_append (s t : List (Nat × Int)) :
    recordedLen (s ++ t) = max (recordedLen s) (recordedLen t) := by
  induction s with
  | nil => exact (Nat.zero_max _).symm
  | cons p rest ih => rw [List.cons_append, recordedLen, ih, recordedLen, Nat.max_assoc]

theorem getD_append_replicate (arr : List (Option Int)) (k i : Nat) :
    (arr ++ List.replicate k none).getD i none = arr.getD i none := by
  simp only [List.getD_eq_getElem?_getD]
  by_cases h : i < arr.length
  · rw [List.getElem?_append_left h]
  · rw [List.getElem?_append_right (by omega), List.getElem?_eq_none (Nat.not_lt.mp h), List.getElem?_replicate]
    split <;> rfl

theorem getD_set (arr : List (Option Int)) (j i : Nat) (x : Option Int) (hj : j < arr.length) :
    (arr.set j x).getD i none = if j = i then x else arr.getD i none := by
  simp only [List.getD_eq_getElem?_getD, List.getElem?_set, hj, if_true]
  split <;> rfl

theorem maybeInsert_recorded {arr : List (Option Int)} {seen : List (Nat × Int)} (h : Repr arr seen)
    {j : Nat} {v0 : Int} (hr : recorded seen j = some v0) (v : Int) :
    maybeInsert arr j (some v) = (arr, if v0 ≠ v then [.mismatch v0] else []) := by
  have hj : j < arr.length := h.1 ▸ recorded_lt hr
  have hg : arr.getD j none = some v0 := (h.2 j).trans hr
  simp only [maybeInsert, Nat.sub_eq_zero_of_le hj, List.replicate_zero, List.append_nil, hg]
  split
  · rfl
  · next hne =>
    have hv : arr[j] = some v := by
      rw [List.getD_eq_getElem?_getD, List.getElem?_eq_getElem hj] at hg
      exact hg.trans (congrArg some (Decidable.of_not_not hne))
    rw [← hv, List.set_getElem_self]

theorem length_pad (arr : List (Option Int)) (j : Nat) :
    (arr ++ List.replicate (j + 1 - arr.length) none).length = max arr.length (j + 1) := by
  rw [List.length_append, List.length_replicate, Nat.max_def]
  split
  · next h => exact Nat.add_sub_cancel' h
  · next h =>
    rw [Nat.sub_eq_zero_of_le (Nat.le_of_not_le h)]
    rfl

theorem maybeInsert_fresh {arr : List (Option Int)} {seen : List (Nat × Int)} (h : Repr arr seen)
    {j : Nat} (hr : recorded seen j = none) (v : Int) :
    (maybeInsert arr j (some v)).2 = [] ∧ Repr (maybeInsert arr j (some v)).1 (seen ++ [(j, v)]) := by
  have hg : (arr ++ List.replicate (j + 1 - arr.length) none).getD j none = none := by
    rw [getD_append_replicate, h.2, hr]
  have hjl : j < (arr ++ List.replicate (j + 1 - arr.length) none).length :=
    length_pad arr j ▸ Nat.lt_of_lt_of_le (Nat.lt_succ_self j) (Nat.le_max_right ..)
  simp only [maybeInsert, hg]
  refine ⟨trivial, ?_, fun i => ?_⟩
  · rw [List.length_set, length_pad, recordedLen_append, h.1]
    rfl
  · rw [getD_set _ _ _ _ hjl, getD_append_replicate, recorded_append, h.2]
    simp only [recorded]
    split
    · next hji => rw [← hji, hr]; rfl
    · exact Option.or_none.symm

/-- The settings recorded after processing `entries` on top of `seen` (first value per index wins; the recursion of
    `Spec.Layout.conflicts.go`). -/
def absorb (seen : List (Nat × Int)) : List (Nat × Int) → List (Nat × Int)
  | [] => seen
  | (j, v) :: rest =>
    match recorded seen j with
    | some _ => absorb seen rest
    | none => absorb (seen ++ [(j, v)]) rest

theorem recorded_absorb (seen entries : List (Nat × Int)) (i : Nat) :
    recorded (absorb seen entries) i = recorded (seen ++ entries) i := by
  induction entries generalizing seen with
  | nil => rw [absorb, List.append_nil]
  | cons p rest ih =>
    obtain ⟨j, v⟩ := p
    simp only [absorb]
    cases hr : recorded seen j with
    | some w =>
      -- dropping a shadowed setting does not change what is recorded
      simp only [ih, recorded_append, recorded]
      split
      · next hji => rw [← hji, hr]; rfl
      · rfl
    | none => simp only [ih, List.append_assoc, List.singleton_append]

theorem absorb_append (seen a b : List (Nat × Int)) : absorb seen (a ++ b) = absorb (absorb seen a) b := by
  induction a generalizing seen with
  | nil => rfl
  | cons p rest ih =>
    obtain ⟨j, v⟩ := p
    simp only [List.cons_append, absorb]
    split <;> exact ih _

def entry (j : Nat) (v : Option Int) : List (Nat × Int) :=
  match v with
  | some x => [(j, x)]
  | none => []

/-- settings `(index of child k, value of child k)` for the children that give a value -/
def entriesOf : List Nat → List (Option Int) → List (Nat × Int)
  | i :: is, v :: vs => entry i v ++ entriesOf is vs
  | _, _ => []

theorem maybeInsert_absorb {arr : List (Option Int)} {seen : List (Nat × Int)} (h : Repr arr seen)
    (j : Nat) (v : Option Int) : Repr (maybeInsert arr j v).1 (absorb seen (entry j v)) := by
  cases v with
  | none => exact h
  | some x =>
    simp only [entry, absorb]
    cases hr : recorded seen j with
    | some v0 => rw [maybeInsert_recorded h hr]; exact h
    | none => exact (maybeInsert_fresh h hr x).2

/-- The specification's cells for raw children `(row, column)` options. -/
def specCells (ltr : Bool) (n : Nat) (cursor : Nat × Nat) : List (Option Int × Option Int) → List (Nat × Nat)
  | [] => []
  | (r, c) :: rest =>
    let p := specPlace ltr n cursor r c
    p :: specCells ltr n (advance ltr n p) rest

theorem specCells_eq_cells (ltr : Bool) (n : Nat) (cursor : Nat × Nat) (l : List (Option Int × Option Int)) :
    specCells ltr n cursor l =
      cells ltr n cursor (l.map fun rc =>
        (validIndex rc.1 (if ltr then 65535 else (n : Int) - 1),
         validIndex rc.2 (if ltr then (n : Int) - 1 else 65535))) := by
  induction l generalizing cursor with
  | nil => rfl
  | cons rc rest ih =>
    obtain ⟨r, c⟩ := rc
    simp only [specCells, List.map_cons, cells, specPlace]
    rw [ih]

/-- **Grid layout, all children at once**: items sit in the specification's cells, spans are copied, and
    each array represents "first value given per index" with the index the code uses:
    column for columnStretch / columnMinimumWidth / **rowMinimumHeight (sic, F9)**, row for rowStretch. -/
theorem gridGo_spec (ltr : Bool) (n : Nat) (hn : 0 < n) (children : List Attached) :
    ∀ (p0 : Nat × Nat), InFlow ltr n p0 → ∀ (attrs : Attributes) (sCMW sCS sRMH sRS : List (Nat × Int)),
      Repr attrs.columnMinimumWidth sCMW → Repr attrs.columnStretch sCS →
      Repr attrs.rowMinimumHeight sRMH → Repr attrs.rowStretch sRS →
    let res := gridGo (ctr ltr n p0) attrs children
    let cs := specCells ltr n p0 (children.map fun a => (a.row, a.column))
    res.2.1 = List.zipWith (fun (p : Nat × Nat) a => Item.ofAttached (some (p.1 : Int)) (some (p.2 : Int)) a) cs children
    ∧ Repr res.1.columnMinimumWidth (absorb sCMW (entriesOf (cs.map (·.2)) (children.map (·.columnMinimumWidth))))
    ∧ Repr res.1.columnStretch (absorb sCS (entriesOf (cs.map (·.2)) (children.map (·.columnStretch))))
    ∧ Repr res.1.rowMinimumHeight (absorb sRMH (entriesOf (cs.map (·.2)) (children.map (·.rowMinimumHeight))))
    ∧ Repr res.1.rowStretch (absorb sRS (entriesOf (cs.map (·.1)) (children.map (·.rowStretch))))
    ∧ res.1.stretch = attrs.stretch := by
  induction children with
  | nil => exact fun _ _ _ _ _ _ _ h1 h2 h3 h4 => ⟨rfl, h1, h2, h3, h4, rfl⟩
  | cons a rest ih =>
    intro p0 hc attrs sCMW sCS sRMH sRS h1 h2 h3 h4
    -- one `Repr … (absorb …)` per array; `absorb_append` splits off this child's settings
    obtain ⟨⟨d, hpn⟩, hinv⟩ := parseNext_spec hn hc a.row a.column
    generalize hp : specPlace ltr n p0 a.row a.column = p at hpn hinv
    obtain ⟨i1, i2, i3, i4, i5, i6⟩ := ih _ hinv
      { attrs with
        columnMinimumWidth := (maybeInsert attrs.columnMinimumWidth p.2 a.columnMinimumWidth).1
        columnStretch := (maybeInsert attrs.columnStretch p.2 a.columnStretch).1
        rowMinimumHeight := (maybeInsert attrs.rowMinimumHeight p.2 a.rowMinimumHeight).1
        rowStretch := (maybeInsert attrs.rowStretch p.1 a.rowStretch).1 }
      _ _ _ _
      (maybeInsert_absorb h1 p.2 a.columnMinimumWidth) (maybeInsert_absorb h2 p.2 a.columnStretch)
      (maybeInsert_absorb h3 p.2 a.rowMinimumHeight) (maybeInsert_absorb h4 p.1 a.rowStretch)
    simp only [gridGo, hpn, Int.toNat_natCast, List.map_cons, specCells, hp, List.zipWith_cons_cons, entriesOf,
      absorb_append]
    exact ⟨by rw [i1], i2, i3, i4, i5, i6⟩

theorem advance_div_mod (ltr : Bool) (n k : Nat) (hn : 0 < n) :
    advance ltr n (if ltr then (k / n, k % n) else (k % n, k / n))
      = (if ltr then ((k + 1) / n, (k + 1) % n) else ((k + 1) % n, (k + 1) / n)) := by
  have e : n * (k / n) + (k % n + 1) = k + 1 :=
    (Nat.add_assoc ..).symm.trans (congrArg (· + 1) (Nat.div_add_mod k n))
  -- quotient and remainder of `k + 1`, by their uniqueness
  by_cases h : k % n + 1 = n
  · have e' : 0 + n * (k / n + 1) = k + 1 := by
      rw [Nat.zero_add, Nat.mul_succ]
      exact (congrArg (n * (k / n) + ·) h.symm).trans e
    have := (Nat.div_mod_unique hn).mpr ⟨e', hn⟩
    cases ltr <;> simp only [advance, h, this, if_true, Bool.false_eq_true, if_false]
  · have := (Nat.div_mod_unique hn).mpr ⟨(Nat.add_comm ..).trans e, Nat.lt_of_le_of_ne (Nat.mod_lt k hn) h⟩
    cases ltr <;> simp only [advance, h, this, if_true, Bool.false_eq_true, if_false]

theorem formGo_spec (children : List Attached) :
    ∀ (p0 : Nat × Nat), InFlow true 2 p0 →
    (formGo (ctr true 2 p0) children).1 =
      List.zipWith (fun (p : Nat × Nat) a => Item.ofAttached (some (p.1 : Int)) (some (p.2 : Int)) a)
        (specCells true 2 p0 (children.map fun a => (a.row, a.column))) children := by
  induction children with
  | nil => intro _ _; rfl
  | cons a rest ih =>
    intro p0 hc
    obtain ⟨⟨d, hpn⟩, hinv⟩ := parseNext_spec (by decide) hc a.row a.column
    simp only [formGo, hpn, List.map_cons, specCells, List.zipWith_cons_cons]
    rw [ih _ hinv]

theorem boxGo_spec (vertical : Bool) (children : List Attached) :
    ∀ (index : Nat) (stretch : List (Option Int)) (seen : List (Nat × Int)), Repr stretch seen →
    Repr (boxGo vertical index stretch children).1
      (absorb seen (entriesOf (List.range' index children.length)
        (children.map fun a => if vertical then a.rowStretch else a.columnStretch))) := by
  induction children with
  | nil => intro _ _ _ h; simpa [boxGo, entriesOf, absorb] using h
  | cons a rest ih =>
    intro index stretch seen h
    simp only [boxGo, List.length_cons, List.range'_succ, List.map_cons, entriesOf, absorb_append]
    exact ih (index + 1) _ _ (maybeInsert_absorb h index _)

end QV.Proofs.Layout
