/-
  C05 (b), statements: if the walk accepts a statement, the specification's statement checker accepts it — every
  expression in it is typed, declarations follow D14, conditions are bool, `case` values compare with the
  discriminant, `break` sits in a switch — and the walk's map of local names agrees with the specification's scope
  afterwards: JavaScript block scoping (D15).  The model mirrors typedexpr.rs as of /repo a011e08, 2a702d4 and 0aff63c:
  each `if` branch, the case block and each clause of it walk with a name map that is dropped afterwards.
-/
import QV.Proofs.TypingSound2

namespace QV.Proofs.TypingSound
open QV.Model QV.Spec.Typing QV.Proofs.TypingRules QV.Proofs.TypingConst QV.Proofs.BuilderInv

@[simp] theorem run_setLocals (l : Locals) (s : WState) : run (setLocals l) s = (some (), { s with locals := l }) := rfl

@[simp] theorem run_failure {α} (s : WState) : run (failure : W α) s = (none, s) := rfl

/-- `BodiesClaim` below with `CasesTyped` written out, of a run instead of a derivation (`sound_bodies`) -/
def BodiesSound (c : Ctx) (bl : Option Nat) (cl : List (Option Expr × List Stmt)) : Prop :=
  ∀ s s' sc sc0 vt bodies, Inv s sc → bl.isSome = true → run (walkBodies c bl cl) s = (some bodies, s') →
    bodies.length = cl.length →
    (∀ e body, (some e, body) ∈ cl → ∃ ct, typeOf (worldOf c) sc0 e = .ok ct ∧
      (binaryType c.env (.cmp .eq) vt ct).isSome = true) →
    Grows s.b s'.b ∧ ∃ o, checkClauses (worldOf c) vt sc0 sc cl = .ok o ∧ Inv s' o.scope

theorem find_declare (sc : Scope) (name n : String) (t : TypeKind) (k : DeclKind) :
    (declare sc name t k).find n = if n = name then some (t, k) else sc.find n := by
  unfold declare Scope.find
  by_cases hn : n = name
  · subst hn; simp
  · have : ¬ name = n := fun e => hn e.symm
    simp [this, hn]

theorem Inv.declare {s : WState} {sc : Scope} (h : Inv s sc) (name : String) (ty : TypeKind) (kind : DeclKind)
    (b' : Builder) (hb : b'.code.locals = s.b.code.locals ++ [ty]) (dg : List String) (uu : List Nat) :
    Inv { b := b', diags := dg, locals := s.locals.insert name (s.b.code.locals.length, kind), userUninit := uu }
      (QV.Spec.Typing.declare sc name ty kind) := by
  intro n
  simp only [get_insert, find_declare]
  by_cases hn : n = name
  · simp only [hn, if_true]
    exact ⟨ty, by simp [hb], rfl⟩
  · simp only [hn, if_false]
    exact h.ext (s' := { s with b := b' }) ⟨rfl, [ty], hb⟩ n

@[simp] theorem locals_visitExpressionStatement (b : Builder) (v : Operand) :
    (visitExpressionStatement b v).code.locals = b.code.locals := by
  simp [visitExpressionStatement]

@[simp] theorem locals_visitIfStatement (b : Builder) (cnd : Operand) (a x : Nat) (y : Option Nat) :
    (visitIfStatement b cnd a x y).code.locals = b.code.locals := by
  unfold visitIfStatement
  cases y <;> simp

@[simp] theorem locals_visitBreakStatement (b : Builder) (l : Nat) :
    (visitBreakStatement b l).code.locals = b.code.locals := by
  simp [visitBreakStatement]

@[simp] theorem locals_visitReturnStatement (b : Builder) (v : Operand) :
    (visitReturnStatement b v).code.locals = b.code.locals := by
  simp [visitReturnStatement]

@[simp] theorem locals_visitSwitchStatement (b : Builder) (cc : List (Operand × Nat)) (bodies : List Nat) (dp : Option Nat)
    (hr er : Nat) : (visitSwitchStatement b cc bodies dp hr er).code.locals = b.code.locals :=
  visitSwitchStatement_preserves (P := fun x => x.code.locals = b.code.locals) (fun _ _ _ h => by simpa using h)
    (fun _ _ h => h) rfl ..

/-- `bl` is the walk's break label, so `bl.isSome` is the specification's `inSwitch`; `last`/`prev` only steer the
    collection of result types, hence ∀ -/
def StmtClaim (c : Ctx) (bl : Option Nat) (st : Stmt) (s s' : WState) : Prop :=
  ∀ sc, Inv s sc → Grows s.b s'.b ∧ ∀ last prev, ∃ o, checkStmt (worldOf c) bl.isSome last prev sc st = .ok o ∧ Inv s' o.scope

def StmtsClaim (c : Ctx) (bl : Option Nat) (ss : List Stmt) (s s' : WState) : Prop :=
  ∀ sc, Inv s sc → Grows s.b s'.b ∧ ∀ last prev, ∃ o, checkStmts (worldOf c) bl.isSome last prev sc ss = .ok o ∧ Inv s' o.scope

/-- the `case` values typed in `sc0` and comparable with the discriminant (of type `vt`) by `==` (D19) -/
def CasesTyped (c : Ctx) (sc0 : Scope) (vt : Ty) (cl : List (Option Expr × List Stmt)) : Prop :=
  ∀ e body, (some e, body) ∈ cl → ∃ ct, typeOf (worldOf c) sc0 e = .ok ct ∧ (binaryType c.env (.cmp .eq) vt ct).isSome = true

def BodiesClaim (c : Ctx) (bl : Option Nat) (cl : List (Option Expr × List Stmt)) (s s' : WState) : Prop :=
  ∀ sc sc0 vt, Inv s sc → bl.isSome = true → CasesTyped c sc0 vt cl →
    Grows s.b s'.b ∧ ∃ o, checkClauses (worldOf c) vt sc0 sc cl = .ok o ∧ Inv s' o.scope

/-- a block, branch or clause is left: the name map is the one from before (`s1` has it), the declarations made inside
    are dropped; `b'` is the builder afterwards -/
theorem Ext.leave {s s1 s4 : WState} {b' : Builder} (hl : s1.locals = s.locals) (hg : Grows s.b b') :
    Ext s { s4 with b := b', locals := s1.locals } := ⟨hl, hg⟩

theorem stmts_step {c : Ctx} {bl : Option Nat} {st : Stmt} {rest : List Stmt} {s s1 s' : WState}
    (h1 : StmtClaim c bl st s s1) (h2 : StmtsClaim c bl rest s1 s') : StmtsClaim c bl (st :: rest) s s' := by
  intro sc hinv
  obtain ⟨hg1, hall1⟩ := h1 sc hinv
  refine ⟨?_, fun last prev => ?_⟩
  · obtain ⟨o, ho, hi⟩ := hall1 false false
    exact hg1.trans (h2 o.scope hi).1
  · cases rest with
    | nil =>
      -- the last statement: `checkStmts` hands it the flags, and the empty rest keeps the scope
      obtain ⟨o, ho, hi⟩ := hall1 last prev
      obtain ⟨o2, ho2, hi2⟩ := (h2 o.scope hi).2 false false
      simp only [checkStmts, Except.ok.injEq] at ho2
      subst ho2
      exact ⟨o, by simp only [checkStmts, ho], hi2⟩
    | cons st2 rest2 =>
      obtain ⟨o, ho, hi⟩ := hall1 false prev
      obtain ⟨o2, ho2, hi2⟩ := (h2 o.scope hi).2 last (prev || producesValue st)
      exact ⟨{ o2 with returns := o.returns ++ o2.returns }, by simp only [checkStmts, ho, ho2], hi2⟩

theorem bodies_step {c : Ctx} {bl : Option Nat} {cv : Option Expr} {body : List Stmt} {rest : List (Option Expr × List Stmt)}
    {s s1 s' : WState} (h1 : StmtsClaim c bl body s s1) (h2 : BodiesClaim c bl rest (marked { s1 with locals := s.locals }) s') :
    BodiesClaim c bl ((cv, body) :: rest) s s' := by
  intro sc sc0 vt hinv hbl hcases
  obtain ⟨hg1, hall1⟩ := h1 sc hinv
  -- `checkClauses` checks a body by `checkStmts w true false true`
  obtain ⟨o, ho, _⟩ := hall1 false true
  have hx := (Ext.leave (s4 := s1) rfl hg1).trans (Ext.marked _)
  obtain ⟨hg3, o3, ho3, hi3⟩ := h2 sc sc0 vt (hinv.ext hx) hbl (fun e b hm => hcases e b (by simp [hm]))
  refine ⟨hx.grows.trans hg3, { o3 with returns := o.returns ++ o3.returns }, ?_, hi3⟩
  rw [hbl] at ho
  cases cv with
  | none => simp only [checkClauses, ho, ho3]
  | some e =>
    obtain ⟨ct, hct, hbt⟩ := hcases e body (by simp)
    simp only [checkClauses, hct, worldOf_env, hbt, if_true, ho, ho3]

theorem stmts_stop (c : Ctx) (bl : Option Nat) (s : WState) : StmtsClaim c bl [] s s :=
  fun sc hinv => ⟨Grows.refl _, fun last prev =>
    ⟨{ scope := sc, tails := if last then [emptyTail prev] else [] }, by simp only [checkStmts], hinv⟩⟩

theorem bodies_done (c : Ctx) (bl : Option Nat) (s : WState) : BodiesClaim c bl [] s s :=
  fun sc sc0 vt hinv _ _ => ⟨Grows.refl _, { scope := sc }, by simp only [checkClauses], hinv⟩

theorem _root_.QV.Proofs.BuilderInv.DeclsRun.sound {c : Ctx} {kind : DeclKind} {ds : List Decl} {s s' : WState}
    (h : DeclsRun c kind ds s s') :
    ∀ sc, Inv s sc → Grows s.b s'.b ∧ ∃ sc', checkDecls (worldOf c) kind sc ds = .ok sc' ∧ Inv s' sc' := by
  induction h with
  | nil => exact fun sc hinv => ⟨Grows.refl _, sc, rfl, hinv⟩
  | @init d rest s e v s1 ty l b1 a b2 s' hv hr hty h2 h3 _ ih =>
    intro sc hinv
    obtain ⟨hx, hte⟩ := hr.sound sc hinv
    obtain ⟨hnv, rfl, hb1⟩ := visitLocalDeclaration_ok h2
    obtain ⟨has, _, hg2⟩ := visitLocalAssignment_ok (b := b1) (l := s1.b.code.locals.length) (t := ty) (by simp [hb1]) h3
    have hi6 := (hinv.ext hx).declare d.name ty kind b1 hb1 s1.diags s1.userUninit
    obtain ⟨hg, sc', hsc', hinv'⟩ := ih _ (hi6.ext (s' := { s1 with b := b2, locals := _ }) ⟨rfl, hg2⟩)
    refine ⟨(hx.grows.trans ⟨[ty], hb1⟩).trans (hg2.trans hg), sc', ?_, hinv'⟩
    cases ha : d.ty with
    | some n =>
      have := annotated_of_annotatedType (by simpa only [DeclTy, ha] using hty)
      simp [checkDecls, checkDecl, hv, ha, hte, Except.map, this, hnv, has, hsc']
    | none =>
      simp only [DeclTy, ha, toConcreteType_eq] at hty
      cases hc : concreteOf v.typeDesc with
      | none => simp [hc] at hty
      | some t =>
        simp only [hc, Except.ok.injEq] at hty
        subst hty
        simp [checkDecls, checkDecl, hv, ha, hte, Except.map, hc, hnv, has, hsc']
  | @uninit d rest s ty l b1 s' hv hk hty h2 _ ih =>
    -- D14: no initial value, so not `const`, and the type is annotated
    intro sc hinv
    obtain ⟨hnv, rfl, hb1⟩ := visitLocalDeclaration_ok h2
    obtain ⟨hg, sc', hsc', hinv'⟩ := ih _ (hinv.declare d.name ty kind b1 hb1 s.diags (s.userUninit ++ [s.b.code.locals.length]))
    refine ⟨Grows.trans ⟨[ty], hb1⟩ hg, sc', ?_, hinv'⟩
    cases ha : d.ty with
    | none => simp only [DeclTy, ha] at hty
    | some n =>
      have := annotated_of_annotatedType (by simpa only [DeclTy, ha] using hty)
      simp [checkDecls, checkDecl, hv, ha, hk, this, hnv, hsc']

theorem _root_.QV.Proofs.BuilderInv.CondsRun.sound {c : Ctx} {left : Operand} {cl : Clauses} {s s' : WState}
    {conds : List (Operand × Nat)} (h : CondsRun c left cl s conds s') :
    ∀ sc, Inv s sc → Ext s s' ∧ CasesTyped c sc left.typeDesc cl := by
  induction h with
  | nil => exact fun sc _ => ⟨Ext.refl _, by simp [CasesTyped]⟩
  | default _ ih =>
    intro sc hinv
    obtain ⟨hext, hall⟩ := ih sc hinv
    exact ⟨hext, fun e b hm => hall e b (by simpa using hm)⟩
  | case hr hv _ ih =>
    intro sc hinv
    obtain ⟨hx, ht1⟩ := hr.sound sc hinv
    obtain ⟨hb, hg⟩ := visitBinaryExpression_ok (by intro o hx; cases hx) hv
    have hx := (hx.item hg).trans (Ext.marked _)
    obtain ⟨hext', hall⟩ := ih sc (hinv.ext hx)
    refine ⟨hx.trans hext', fun e b hm => ?_⟩
    simp at hm
    rcases hm with ⟨rfl, rfl⟩ | hm
    · exact ⟨_, ht1, by rw [hb]; rfl⟩
    · exact hall e b hm

theorem _root_.QV.Proofs.BuilderInv.StmtRun.sound {c : Ctx} {bl : Option Nat} {st : Stmt} {s s' : WState}
    (h : StmtRun c bl st s s') : StmtClaim c bl st s s' := by
  induction h using StmtRun.rec (motive_2 := fun bl ss s s' _ => StmtsClaim c bl ss s s')
    (motive_3 := fun bl cl s _ s' _ => BodiesClaim c bl cl s s') with
  | @expr bl e s v s1 hr =>
    intro sc hinv
    obtain ⟨hx, ht1⟩ := hr.sound sc hinv
    have hx := hx.item (Grows.of_eq (locals_visitExpressionStatement s1.b v))
    exact ⟨hx.grows, fun last prev =>
      ⟨{ scope := sc, tails := if last then [.value (strDefault v.typeDesc)] else [] }, by simp only [checkStmt, ht1], hinv.ext hx⟩⟩
  | @block bl ss s s2 _ ih =>
    intro sc hinv
    obtain ⟨hg, hall⟩ := ih sc hinv
    have hx := Ext.leave (s4 := s2) rfl hg
    refine ⟨hg, fun last prev => ?_⟩
    obtain ⟨o, ho, _⟩ := hall last prev
    exact ⟨{ o with scope := sc }, by simp only [checkStmt, ho], hinv.ext hx⟩
  | lexical hd =>
    intro sc hinv
    obtain ⟨hg, sc', hsc', hinv'⟩ := hd.sound sc hinv
    exact ⟨hg, fun last prev =>
      ⟨{ scope := sc', tails := if last then [emptyTail prev] else [] }, by simp only [checkStmt, hsc'], hinv'⟩⟩
  | @if_ bl cnd a s cv s1 s4 b' hr _ hcb hb' ih =>
    intro sc hinv
    obtain ⟨x1, ht1⟩ := hr.sound sc hinv
    have x2 := x1.trans (Ext.marked _)
    obtain ⟨hga, halla⟩ := ih sc (hinv.ext x2)
    have hx := Ext.leave (s4 := s4) x1.locals ((x2.grows.trans hga).trans (c := b') (Grows.of_eq (by rw [hb']; simp)))
    refine ⟨hx.grows, fun last prev => ?_⟩
    obtain ⟨oa, hoa, _⟩ := halla last prev
    exact ⟨{ scope := sc, returns := oa.returns, tails := oa.tails ++ (if last then [emptyTail prev] else []) },
      by simp [checkStmt, ifOut, ht1, hoa, hcb], hinv.ext hx⟩
  | @ifElse bl cnd a n s cv s1 s4 s8 b' hr _ _ hcb hb' iha ihb =>
    intro sc hinv
    obtain ⟨x1, ht1⟩ := hr.sound sc hinv
    have x2 := x1.trans (Ext.marked _)
    obtain ⟨hga, halla⟩ := iha sc (hinv.ext x2)
    -- the name map from before the `if`
    have x6 := (Ext.leave (s4 := s4) x1.locals (x2.grows.trans hga)).trans (Ext.marked _)
    obtain ⟨hgb, hallb⟩ := ihb sc (hinv.ext x6)
    have hx := Ext.leave (s4 := s8) x1.locals ((x6.grows.trans hgb).trans (c := b') (Grows.of_eq (by rw [hb']; simp)))
    refine ⟨hx.grows, fun last prev => ?_⟩
    obtain ⟨oa, hoa, _⟩ := halla last prev
    obtain ⟨ob, hob, _⟩ := hallb last prev
    exact ⟨{ scope := sc, returns := oa.returns ++ ob.returns, tails := oa.tails ++ ob.tails },
      by simp [checkStmt, ifElseOut, ht1, hoa, hob, hcb], hinv.ext hx⟩
  | @switch bl v cl s left s1 conds s2 bodies s6 b' hmd hr hconds _ _ _ hb' ih =>
    intro sc hinv
    obtain ⟨hx, ht1⟩ := hr.sound sc hinv
    obtain ⟨hext2, hcases⟩ := hconds.sound sc (hinv.ext hx)
    have hx2 := hx.trans hext2
    have hx4 := (hx2.trans (Ext.marked _)).trans (Ext.marked _)
    obtain ⟨hg6, o, ho, _⟩ := ih sc sc _ (hinv.ext hx4) rfl hcases
    have hx' := Ext.leave (s4 := s6) hx2.locals ((hx4.grows.trans hg6).trans (c := b') (Grows.of_eq (by rw [hb']; simp)))
    exact ⟨hx'.grows, fun last prev => ⟨{ o with scope := sc, tails := if last then [.unspecified] else [] },
      by simp only [checkStmt, hmd, if_false, ht1, ho], hinv.ext hx'⟩⟩
  | @break_ l s =>
    intro sc hinv
    have hx := (Ext.refl s).item (Grows.of_eq (locals_visitBreakStatement s.b l))
    exact ⟨hx.grows, fun last prev =>
      ⟨{ scope := sc, tails := if last then [.unspecified] else [] }, by simp [checkStmt], hinv.ext hx⟩⟩
  | @return_ bl e s v s1 hr =>
    intro sc hinv
    obtain ⟨hx, ht1⟩ := hr.sound sc hinv
    have hx := hx.item (Grows.of_eq (locals_visitReturnStatement s1.b v))
    exact ⟨hx.grows, fun last prev =>
      ⟨{ scope := sc, returns := [strDefault v.typeDesc] }, by simp only [checkStmt, ht1], hinv.ext hx⟩⟩
  | @returnVoid bl s =>
    intro sc hinv
    have hx := (Ext.refl s).item (Grows.of_eq (locals_visitReturnStatement s.b .void))
    exact ⟨hx.grows, fun last prev => ⟨{ scope := sc, returns := [.void] }, by simp only [checkStmt], hinv.ext hx⟩⟩
  | stop => exact stmts_stop _ _ _
  | step _ _ _ ih1 ih2 => exact stmts_step ih1 ih2
  | done => exact bodies_done _ _ _
  | body _ _ ih1 ih2 => exact bodies_step ih1 ih2

theorem _root_.QV.Proofs.BuilderInv.StmtsRun.sound {c : Ctx} {bl : Option Nat} {ss : List Stmt} {s s' : WState}
    (h : StmtsRun c bl ss s s') : StmtsClaim c bl ss s s' :=
  h.induct (motive := StmtsClaim c bl) (stmts_stop c bl) fun h1 ih => stmts_step h1.sound ih

theorem _root_.QV.Proofs.BuilderInv.BodiesRun.sound {c : Ctx} {bl : Option Nat} {cl : Clauses} {s s' : WState}
    {bodies : List Nat} (h : BodiesRun c bl cl s bodies s') : BodiesClaim c bl cl s s' :=
  h.induct (motive := fun cl s _ s' => BodiesClaim c bl cl s s') (bodies_done c bl) fun h1 ih => bodies_step h1.sound ih

theorem sound_stmt (c : Ctx) (bl : Option Nat) (st : Stmt) (s s' : WState) (sc : Scope) (hinv : Inv s sc)
    (h : BuilderInv.run (walkStmt c bl st) s = (some (), s')) :
    Grows s.b s'.b ∧ ∀ last prev, ∃ o, checkStmt (worldOf c) bl.isSome last prev sc st = .ok o ∧ Inv s' o.scope :=
  (BuilderInv.StmtRun.of_run h).sound sc hinv

theorem sound_bodies (c : Ctx) (bl : Option Nat) : (cl : List (Option Expr × List Stmt)) → BodiesSound c bl cl :=
  fun cl s s' sc sc0 vt bodies hinv hbl h hlen hcases =>
    ((BuilderInv.bodiesRun c bl cl s bodies s' h).2 hlen).sound sc sc0 vt hinv hbl hcases

/-- the scope after a compound statement is the scope before it (specification, D15) -/
theorem checkStmt_scope_compound {w : World} {inSwitch last prev : Bool} {sc : Scope} {st : Stmt} {o : Out}
    (hst : (∃ ss, st = .block ss) ∨ (∃ cnd a b, st = .if_ cnd a b) ∨ (∃ v cl, st = .switch v cl))
    (h : checkStmt w inSwitch last prev sc st = .ok o) : o.scope = sc := by
  rcases hst with ⟨ss, rfl⟩ | ⟨cnd, a, b, rfl⟩ | ⟨v, cl, rfl⟩
  · simp only [checkStmt] at h
    split at h <;> simp at h
    rw [← h]
  · cases b with
    | none =>
      simp only [checkStmt, ifOut] at h
      split at h
      · simp at h
      · split at h
        · simp at h
        · split at h <;> simp at h
          rw [← h]
    | some bs =>
      simp only [checkStmt, ifElseOut] at h
      split at h
      · simp at h
      · split at h
        · simp at h
        · split at h
          · simp at h
          · split at h <;> simp at h
            rw [← h]
  · simp only [checkStmt] at h
    split at h
    · simp at h
    · split at h
      · simp at h
      · split at h <;> simp at h
        rw [← h]

/-- after a block, an `if` or a `switch` the walk's name map agrees with the scope from BEFORE the statement: a name
    declared in the block, in a branch or in a clause is not visible afterwards (and nothing that was visible is lost) -/
theorem compound_scope_restored (c : Ctx) (bl : Option Nat) (st : Stmt)
    (hst : (∃ ss, st = .block ss) ∨ (∃ cnd a b, st = .if_ cnd a b) ∨ (∃ v cl, st = .switch v cl))
    (s s' : WState) (sc : Scope) (hinv : Inv s sc) (h : BuilderInv.run (walkStmt c bl st) s = (some (), s')) :
    Inv s' sc := by
  obtain ⟨_, hall⟩ := sound_stmt c bl st s s' sc hinv h
  obtain ⟨o, ho, hi⟩ := hall false false
  rw [checkStmt_scope_compound hst ho] at hi
  exact hi

theorem Inv.visible_iff {s : WState} {sc : Scope} (h : Inv s sc) (n : String) :
    (s.locals.get? n).isSome = (sc.find n).isSome := by
  have := h n
  cases hg : s.locals.get? n with
  | none => simp [hg] at this; simp [this]
  | some p =>
    rcases p with ⟨l, k⟩
    simp [hg] at this
    obtain ⟨t, _, h2⟩ := this
    simp [h2]

/-- from the top: if `tir::build` / `build_callback` produce code for a statement program, the specification's statement
    checker accepts the statement in the empty scope (every expression typed, declarations, conditions, case values,
    `break` placement, scoping) — whatever the flags that only steer the collection of result types -/
theorem build_stmt_sound (c : Ctx) (callback : Bool) (st : Stmt) (h : (build c callback (.stmt st)).code.isSome = true)
    (last prev : Bool) : ∃ o, checkStmt (worldOf c) false last prev [] st = .ok o := by
  obtain ⟨s1, hrun⟩ := run_of_build h
  obtain ⟨o, ho, _⟩ := (sound_stmt c none st {} s1 [] inv_init hrun).2 last prev
  exact ⟨o, ho⟩

theorem callback_stmt_sound (c : Ctx) (desc : MethodInfo) (st : Stmt) (h : acceptsCallback c desc (.stmt st) = true)
    (sigArgs : List TypeKind) : checkCallback (worldOf c) sigArgs (.stmt st) = .wellTyped := by
  have hcode : (build c true (.stmt st)).code.isSome = true := by
    unfold acceptsCallback at h
    cases hc : (build c true (.stmt st)).code with
    | none => simp [hc] at h
    | some code => rfl
  obtain ⟨o, ho⟩ := build_stmt_sound c true st hcode false false
  simp only [checkCallback, ho]

/-- `resultType` only ever fails with `resultsDisagree` -/
theorem resultType_go_error {env : Env} : ∀ (us : List Ty) (k : Ty) (e : Err),
    resultType.go env k us = .error e → e = .resultsDisagree
  | [], k, e, h => by simp [resultType.go] at h
  | u :: us, k, e, h => by
    simp only [resultType.go] at h
    split at h
    · exact resultType_go_error us _ _ h
    · cases h
      rfl

/-- once the statement checker accepts, `checkBinding` can only object to the result clause D16 -/
theorem checkBinding_of_checkStmt {w : World} {propTy : TypeKind} {st : Stmt} {o : Out}
    (ho : checkStmt w false true false [] st = .ok o) :
    checkBinding w propTy (.stmt st) = .wellTyped ∨ checkBinding w propTy (.stmt st) = .unspecified ∨
    checkBinding w propTy (.stmt st) = .illTyped .resultsDisagree ∨
    checkBinding w propTy (.stmt st) = .illTyped .resultMismatch := by
  simp only [checkBinding, ho]
  split
  · exact Or.inr (Or.inl rfl)
  · split
    · rename_i e he
      have : e = .resultsDisagree := by
        revert he
        generalize (o.returns ++ List.map _ o.tails) = rs
        intro he
        cases rs with
        | nil => simp [resultType] at he
        | cons t ts => exact resultType_go_error ts t e he
      subst this
      exact Or.inr (Or.inr (Or.inl rfl))
    · split
      · exact Or.inl rfl
      · exact Or.inr (Or.inr (Or.inr rfl))

/-- a binding given as a statement: accepted ⇒ only the RESULT clause (D16) can fail, which the checker decides on the IR
    and the specification on the source; of `h` only "code is produced" is used -/
theorem binding_stmt_sound (c : Ctx) (propTy : TypeKind) (st : Stmt) (h : acceptsBinding c propTy (.stmt st) = true) :
    checkBinding (worldOf c) propTy (.stmt st) = .wellTyped ∨ checkBinding (worldOf c) propTy (.stmt st) = .unspecified ∨
    checkBinding (worldOf c) propTy (.stmt st) = .illTyped .resultsDisagree ∨
    checkBinding (worldOf c) propTy (.stmt st) = .illTyped .resultMismatch := by
  have hcode : (build c false (.stmt st)).code.isSome = true := by
    unfold acceptsBinding at h
    cases hc : (build c false (.stmt st)).code with
    | none => simp [hc] at h
    | some code => rfl
  obtain ⟨o, ho⟩ := build_stmt_sound c false st hcode true false
  exact checkBinding_of_checkStmt ho

end QV.Proofs.TypingSound
