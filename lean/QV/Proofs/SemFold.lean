/-
  What the two folding visitors answer on integer and Boolean constants (`visitUnary_const`,
  `visitBinary_shape`), folding of integer constants agrees with the reference semantics (on top of the theorems of
  QV.Props.C03 about the folder, which is why a `Props` file is imported here), `unop` keeps typed values typed,
  `finalize_completion_values` on a start block with a completion value, the reference semantics of `o.p`.
-/
import QV.Proofs.SemVisit
import QV.Proofs.Finalize
import QV.Props.C03

namespace QV.Proofs.SemFold
open QV.Model QV.Model.IrSem QV.Proofs.SemIr QV.Proofs.SemVisit
open QV.Spec.Sem (Val World Host Ev Ty STy coerceTo binop unop)

theorem tokOf_toOp (op : BinaryOp) : (QV.Spec.Sem.tokOf op).toOp = some op := by
  cases op with
  | arith o => cases o <;> rfl
  | bitwise o => cases o <;> rfl
  | shift o => cases o <;> rfl
  | logical o => cases o <;> rfl
  | cmp o => cases o <;> rfl

theorem binop_cint (F : FloatOps) (op : BinaryOp) (hlog : ∀ lop, op ≠ .logical lop) (a c : Int) :
    binop F op (.cint a) (.cint c) = QV.Spec.Sem.constBinary F op a c := by
  cases op with
  | logical lop => exact absurd rfl (hlog lop)
  | arith o => simp [binop, QV.Spec.Sem.unify]
  | bitwise o => simp [binop, QV.Spec.Sem.unify]
  | shift o => simp [binop]
  | cmp o => simp [binop, QV.Spec.Sem.unify]

/-- a constant of the type of integer constants is an integer: with `TypingConst.cevalBinary_type`, what the folder answers on
    two integers under an arithmetic operator or a shift -/
theorem integer_of_typeDesc {v : ConstantValue} (h : some TypeDesc.constInteger = some v.typeDesc) : ∃ k, v = .integer k := by
  cases v with
  | integer k => exact ⟨k, rfl⟩
  | _ => cases h

/-- `visitUnaryExpression` on an integer or Boolean constant emits no code; on an integer it answers `+`, `-` (through
    `checked`) and `~`, on a Boolean only `!` -/
theorem visitUnary_const {F : FloatOps} {b b' : Builder} {op : UnaryOp} {c : ConstantValue} {res : Operand}
    (h : visitUnaryExpression F b op (.const c) = .ok (res, b')) :
    b' = b ∧ match c with
      | .integer x => op = .plus ∧ res = .const (.integer x) ∨
          op = .minus ∧ QV.Spec.ConstSem.representable (-x) = true ∧ res = .const (.integer (-x)) ∨
          op = .bitNot ∧ res = .const (.integer (-x - 1))
      | .bool x => op = .logNot ∧ res = .const (.bool (!x))
      | _ => True := by
  obtain ⟨hb, v, he, rfl⟩ := QV.Proofs.TypingConst.visitUnary_const_ok h
  refine ⟨hb, ?_⟩
  cases c with
  | integer x =>
    cases op with
    | plus => cases he; exact .inl ⟨rfl, rfl⟩
    | minus =>
      rcases QV.Proofs.ConstFold.checked_cases (-x) with ⟨hr, hc, _⟩ | ⟨_, hc, _⟩
      · cases he.symm.trans hc; exact .inr (.inl ⟨rfl, hr, rfl⟩)
      · cases he.symm.trans hc
    | bitNot => cases he; exact .inr (.inr ⟨rfl, rfl⟩)
    | logNot => cases he
  | bool x =>
    cases op with
    | logNot => cases he; exact ⟨rfl, rfl⟩
    | _ => cases he
  | _ => trivial

def IntOrBool : ConstantValue → Prop
  | .integer _ | .bool _ => True
  | _ => False

/-- what `visitBinaryExpression` can answer on two constants, each an integer or a Boolean: two integers give a Boolean
    under a comparison and an integer under every other operator; two Booleans are accepted by the bit operators and
    the comparisons only; a mixed pair is refused -/
inductive FoldShape (op : BinaryOp) : ConstantValue → ConstantValue → Operand → Prop
  | int (x y k : Int) : (∀ c, op ≠ .cmp c) → FoldShape op (.integer x) (.integer y) (.const (.integer k))
  | intCmp (x y : Int) (c : CmpOp) (v : Bool) : op = .cmp c → FoldShape op (.integer x) (.integer y) (.const (.bool v))
  | boolBit (x y : Bool) (o : BitOp) : op = .bitwise o →
      FoldShape op (.bool x) (.bool y) (.const (.bool (match o with | .and => x && y | .xor => x != y | .or => x || y)))
  | boolCmp (x y : Bool) (o : CmpOp) : op = .cmp o →
      FoldShape op (.bool x) (.bool y) (.const (.bool (cmpBy o (· == ·) (fun x y => !x && y) x y)))

/-- on two such constants the visitor emits no code and answers as `FoldShape` lists -/
theorem visitBinary_shape {F : FloatOps} {env : Env} {b b' : Builder} {op : BinaryOp} {cl cr : ConstantValue}
    {res : Operand} (hlog : ∀ lop, op ≠ .logical lop) (hl : IntOrBool cl) (hr : IntOrBool cr)
    (h : visitBinaryExpression F env b op (.const cl) (.const cr) = .ok (res, b')) :
    b' = b ∧ FoldShape op cl cr res := by
  obtain ⟨hb, v, he, rfl⟩ := QV.Proofs.TypingConst.visitBinary_const_ok hlog h
  -- below, `&&` and `||` go by `hlog`: the dispatch `cevalBinary` has a dummy answer there
  refine ⟨hb, ?_⟩
  cases cl with
  | integer x =>
    cases cr with
    | integer y =>
      have ht := QV.Proofs.TypingConst.cevalBinary_type F env _ _ _ v hlog he
      cases op with
      | arith o => obtain ⟨k, rfl⟩ := integer_of_typeDesc ht; exact .int x y k nofun
      | shift o => obtain ⟨k, rfl⟩ := integer_of_typeDesc ht; exact .int x y k nofun
      | bitwise o => cases he; exact .int x y _ nofun
      | cmp o => cases he; exact .intCmp x y o _ rfl
      | logical lop => exact absurd rfl (hlog lop)
    | bool y =>
      cases op with
      | logical lop => exact absurd rfl (hlog lop)
      | _ => cases he
    | _ => exact hr.elim
  | bool x =>
    cases cr with
    | bool y =>
      cases op with
      | bitwise o => cases he; exact .boolBit x y o rfl
      | cmp o => cases he; exact .boolCmp x y o rfl
      | logical lop => exact absurd rfl (hlog lop)
      | _ => cases he
    | integer y =>
      cases op with
      | logical lop => exact absurd rfl (hlog lop)
      | _ => cases he
    | _ => exact hr.elim
  | _ => exact hl.elim

/-- folding of a binary operator on integer constants: no code is emitted and the operand produced denotes the
    value the reference semantics gives to the operator application -/
theorem fold_agrees_spec (ic : ICtx) (L : IrSem.Locals) (F : FloatOps) (env : Env) (b : Builder) (op : BinaryOp)
    (hlog : ∀ lop, op ≠ .logical lop) (a c : Int) (ha : QV.Spec.ConstSem.representable a = true)
    (res : Operand) (b' : Builder)
    (h : visitBinaryExpression F env b op (.const (.integer a)) (.const (.integer c)) = .ok (res, b')) :
    b' = b ∧ ∃ v, evalOperand ic L res = some v ∧ binop F op (.cint a) (.cint c) = some v := by
  obtain ⟨hb, cst, rfl, _, hval⟩ :=
    QV.Props.C03.fold_binary_sound F env b (QV.Spec.Sem.tokOf op) op (tokOf_toOp op) hlog (.integer a) (.integer c) ha res b' h
  refine ⟨hb, ?_⟩
  rw [binop_cint F op hlog]
  unfold QV.Spec.Sem.constBinary
  rw [show QV.Spec.ConstSem.binary F (QV.Spec.Sem.tokOf op) (.int a) (.int c) = _ from hval]
  -- the constant is an integer or a truth value, and `evalOperand` reads it as `constBinary` does
  obtain ⟨_, hs⟩ := visitBinary_shape (cl := .integer a) (cr := .integer c) hlog trivial trivial h
  cases hs <;> exact ⟨_, rfl, rfl⟩

/-- the same for unary operators on an integer constant -/
theorem fold_unary_agrees_spec (ic : ICtx) (L : IrSem.Locals) (F : FloatOps) (b : Builder) (op : UnaryOp) (a : Int)
    (ha : QV.Spec.ConstSem.representable a = true) (res : Operand) (b' : Builder)
    (h : visitUnaryExpression F b op (.const (.integer a)) = .ok (res, b')) :
    b' = b ∧ ∃ v, evalOperand ic L res = some v ∧ unop F op (.cint a) = some v := by
  obtain ⟨hb, ⟨rfl, rfl⟩ | ⟨rfl, hr, rfl⟩ | ⟨rfl, rfl⟩⟩ := visitUnary_const h
  · exact ⟨hb, _, rfl, rfl⟩
  · exact ⟨hb, _, rfl, by simp [unop, hr]⟩
  · exact ⟨hb, _, rfl, rfl⟩

theorem unop_not_cint (F : FloatOps) (op : UnaryOp) (a v : Val) (ha : isCint a = false) (h : unop F op a = some v) :
    isCint v = false := by
  unfold unop at h
  -- by the rows of the table in `unop`: the first three are those of an untyped constant
  split at h
  · cases ha
  · cases ha
  · cases ha
  all_goals first | (cases h; rfl) | (rw [mkInt_eq h]; rfl) | cases h

/-- `finalize_completion_values` when the start block has a completion value (the program is an expression statement,
    or ends in one in its last block): the value becomes `return value`, nothing else changes -/
theorem return_of_completion (code : CodeBody) (startRef : Nat) (start : BasicBlock) (a : Operand)
    (hb : code.blocks[startRef]? = some start) (ht : start.terminator = none) (hc : start.completionValue = some a) :
    finalizeCompletionValues code startRef =
      ({ code with blocks := code.blocks.set startRef { start with completionValue := none, terminator := some (.ret a) } },
       none) := by
  rw [QV.Proofs.Finalize.finalizeCompletionValues_completion hb hc, ht]
  rfl

theorem spec_member_ident (c : QV.Spec.Sem.Ctx) (o p : String) (s : QV.Spec.Sem.St) :
    QV.Spec.Sem.evalExpr c (.member (.ident o) p) s =
      match QV.Spec.Sem.resolveIdent c o s with
      | some r => (match QV.Spec.Sem.memberRef c r p s with | some (.val v) => some (v, s) | _ => none)
      | none => none := by
  rw [QV.Spec.Sem.evalExpr.eq_def]
  simp only
  rw [QV.Spec.Sem.evalRef.eq_def]
  simp only
  cases QV.Spec.Sem.resolveIdent c o s <;> rfl

end QV.Proofs.SemFold
