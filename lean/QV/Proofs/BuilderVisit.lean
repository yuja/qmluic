/-
  What every `visit_*` function of tir/builder.rs does to the builder, without any invariant.  The visitors that emit
  straight-line code through `Straight` (one of three effects: code unchanged, one `emit_result`, one `push_statement`; the locals
  read by what is emitted lie among the locals `R` read by the values given), one `visitX_straight` each: the skeleton
  (`Straight.same`, BuilderSkeleton), define before use (`Straight.ds`, BuilderClaims) and the shape of the statements
  (`Straight.ste`, BuilderStatements) are read off the three effects.  The visitors of declarations and those that wire
  control flow as sequences of the primitives (`…_eff`).
-/
import QV.Proofs.BuilderPrim
import QV.Model.Cfg

namespace QV.Proofs.BuilderInv
open QV.Model QV.Model.Cfg

@[simp] theorem reads_ensure (a : Operand) : operandReads (ensureConcreteString a) = operandReads a := by
  unfold ensureConcreteString
  split <;> simp [operandReads]

theorem reads_map_ensure (els : List Operand) (x : Nat) (hx : x ∈ (els.map ensureConcreteString).flatMap operandReads) :
    x ∈ els.flatMap operandReads := by
  simp only [List.mem_flatMap, List.mem_map] at hx ⊢
  obtain ⟨a, ⟨e, he, rfl⟩, hxa⟩ := hx
  exact ⟨e, he, by simpa using hxa⟩

theorem reads_nonlocal {o : Operand} (h : ∀ n t, o ≠ .local n t) : operandReads o = [] := by
  cases o <;> simp [operandReads]
  exact absurd rfl (h _ _)

/-- the property-dependency pass panics ("invald read_property", sic, tir/propdep.rs) on a `readProperty` whose object is of
    pointer type and a constant, which only the null constant is: the builder never emits one -/
def NotNull (a : Operand) : Prop := a ≠ .const .nullPointer

theorem notNull_local (x : Nat) (t : TypeKind) : NotNull (.local x t) := by intro h; cases h

theorem notNull_ensure {a : Operand} (h : NotNull a) : NotNull (ensureConcreteString a) := by
  unfold ensureConcreteString
  split
  · intro hx; cases hx
  · exact h

def GoodRv : Rvalue → Prop
  | .readProperty a _ => NotNull a
  | _ => True

/-- no observe statement, no `readProperty` of the null constant -/
def GoodSt : Statement → Prop
  | .assign _ r => GoodRv r
  | .exec r => GoodRv r
  | .observeProperty .. => False

/-- `a` and `b'` come from `b` by one `emit_result` of `rv`, the panic flag aside -/
def Emitted (b : Builder) (rv : Rvalue) (a : Operand) (b' : Builder) : Prop :=
  ∃ (b0 : Builder) (ty : TypeKind), b0.code = b.code ∧ b0.emitResult ty rv = (a, b')

theorem Emitted.intro {b b' : Builder} {ty : TypeKind} {rv : Rvalue} {a : Operand} (h : b.emitResult ty rv = (a, b')) :
    Emitted b rv a b' := ⟨b, ty, rfl, h⟩

/-- a visitor step that adds no block and closes none: from `b` and values that read the locals `R` it yields `a`, `b'` -/
inductive Straight (R : List Nat) (b : Builder) : Operand → Builder → Prop
  /-- nothing emitted: a folded constant, a local looked up, a cast that is the identity -/
  | pure {a : Operand} {b' : Builder} (hc : b'.code = b.code) (ha : ∀ x ∈ operandReads a, x ∈ R) : Straight R b a b'
  | emit {rv : Rvalue} {a : Operand} {b' : Builder} (he : Emitted b rv a b') (hr : ∀ x ∈ rvalueReads rv, x ∈ R)
      (hg : GoodRv rv) : Straight R b a b'
  | push {st : Statement} (hr : ∀ x ∈ stmtReads st, x ∈ R) (hg : GoodSt st) : Straight R b .void (b.pushStatement st)

theorem Straight.const {R : List Nat} {b b' : Builder} {k : ConstantValue} (hc : b'.code = b.code) :
    Straight R b (.const k) b' := .pure hc (fun x hx => by simp [operandReads] at hx)

theorem Straight.mono {R R' : List Nat} {b b' : Builder} {a : Operand} (h : Straight R b a b') (hs : ∀ x ∈ R, x ∈ R') :
    Straight R' b a b' := by
  cases h with
  | pure hc ha => exact .pure hc (fun x hx => hs x (ha x hx))
  | emit he hr hg => exact .emit he (fun x hx => hs x (hr x hx)) hg
  | push hr hg => exact .push (fun x hx => hs x (hr x hx)) hg

theorem visitInteger_straight {b b' : Builder} {v : Nat} {a : Operand} (h : visitInteger b v = .ok (a, b')) :
    Straight [] b a b' := by
  unfold visitInteger at h
  split at h <;> cases h
  exact .const rfl

theorem visitArray_straight {env : Env} {b b' : Builder} {els : List Operand} {a : Operand}
    (h : visitArray env b els = .ok (a, b')) : Straight (els.flatMap operandReads) b a b' := by
  unfold visitArray at h
  simp only at h
  split at h
  · cases h; exact .const rfl
  · split at h
    · cases h
    · split at h
      · cases h
      · simp at h
        exact .emit (.intro h) (reads_map_ensure els) trivial

theorem visitLocalRef_straight {b b' : Builder} {l : Nat} {a : Operand} (h : visitLocalRef b l = .ok (a, b')) :
    Straight [l] b a b' := by
  unfold visitLocalRef at h
  split at h <;> cases h
  · exact .pure rfl (fun x hx => by simpa [operandReads] using hx)
  · exact .pure rfl (fun x hx => by simp [operandReads] at hx)

theorem visitLocalDeclaration_eff {b b' : Builder} {ty : TypeKind} {n : Nat}
    (h : visitLocalDeclaration b ty = .ok (n, b')) : b' = (b.alloca ty).2 := by
  unfold visitLocalDeclaration at h
  split at h <;> simp at h
  rename_i heq
  rw [← h.2, heq]

theorem visitLocalAssignment_eff {env : Env} {b b' : Builder} {l : Nat} {r a : Operand}
    (h : visitLocalAssignment env b l r = .ok (a, b')) :
    a = .void ∧ (b.code.locals[l]? = none ∧ b'.code = b.code ∨
      b' = b.pushStatement (.assign l (.copy (ensureConcreteString r)))) := by
  unfold visitLocalAssignment at h
  split at h
  · rename_i heq
    simp at h; exact ⟨h.1.symm, .inl ⟨heq, by rw [← h.2]; rfl⟩⟩
  · simp only at h
    split at h <;> simp at h
    exact ⟨h.1.symm, .inr h.2.symm⟩

theorem visitLocalAssignment_straight {env : Env} {b b' : Builder} {l : Nat} {r a : Operand}
    (h : visitLocalAssignment env b l r = .ok (a, b')) : Straight (operandReads r) b a b' := by
  obtain ⟨rfl, ⟨_, hc⟩ | rfl⟩ := visitLocalAssignment_eff h
  · exact .pure hc (fun x hx => by simp [operandReads] at hx)
  · exact .push (fun x hx => by simpa [stmtReads, rvalueReads] using hx) trivial

theorem visitObjectProperty_straight {b b' : Builder} {o a : Operand} {p : PropInfo}
    (h : visitObjectProperty b o p = .ok (a, b')) (ho : NotNull o) : Straight (operandReads o) b a b' := by
  unfold visitObjectProperty at h
  split at h <;> simp at h
  exact .emit (.intro h) (fun x hx => by simpa [rvalueReads] using hx) (notNull_ensure ho)

theorem visitObjectPropertyAssignment_straight {env : Env} {b b' : Builder} {o r a : Operand} {p : PropInfo}
    (h : visitObjectPropertyAssignment env b o p r = .ok (a, b')) : Straight (operandReads o ++ operandReads r) b a b' := by
  unfold visitObjectPropertyAssignment at h
  split at h
  · simp at h
  · simp only at h
    split at h <;> simp at h
    exact .emit (.intro h) (fun x hx => by simpa [rvalueReads] using hx) trivial

theorem visitObjectSubscript_straight {b b' : Builder} {o i a : Operand} (h : visitObjectSubscript b o i = .ok (a, b')) :
    Straight (operandReads o ++ operandReads i) b a b' := by
  unfold visitObjectSubscript at h
  split at h <;> simp at h
  exact .emit (.intro h) (fun x hx => by simpa [rvalueReads] using hx) trivial

theorem visitObjectSubscriptAssignment_straight {env : Env} {b b' : Builder} {o i r a : Operand}
    (h : visitObjectSubscriptAssignment env b o i r = .ok (a, b')) :
    Straight (operandReads o ++ operandReads i ++ operandReads r) b a b' := by
  unfold visitObjectSubscriptAssignment at h
  split at h
  · simp at h
  · split at h <;> simp at h
    obtain ⟨rfl, rfl⟩ := h
    exact .push (fun x hx => by simpa [stmtReads, rvalueReads] using hx) trivial

theorem visitObjectMethodCall_straight {env : Env} {b b' : Builder} {o a : Operand} {ms : List MethodInfo} {args : List Operand}
    (h : visitObjectMethodCall env b o ms args = .ok (a, b')) : Straight (args.flatMap operandReads ++ operandReads o) b a b' := by
  unfold visitObjectMethodCall at h
  simp only at h
  split at h <;> simp at h
  refine .emit (.intro h) (fun x hx => ?_) trivial
  simp only [rvalueReads, List.mem_append, reads_ensure] at hx ⊢
  exact hx.symm.imp_left (reads_map_ensure args x)

theorem visitBuiltinCall_straight {env : Env} {b b' : Builder} {f : Builtin} {args : List Operand} {a : Operand}
    (h : visitBuiltinCall env b f args = .ok (a, b')) : Straight (args.flatMap operandReads) b a b' := by
  unfold visitBuiltinCall at h
  cases f with
  | consoleLog lv => simp at h; exact .emit (.intro h) (fun x hx => hx) trivial
  | tr =>
    simp only at h
    split at h
    · split at h <;> simp at h
      exact .emit (.intro h) (fun x hx => hx) trivial
    · simp at h
  | max | min =>
    simp only at h
    split at h
    · split at h
      · simp at h
      · split at h <;> simp at h
        exact .emit (.intro h) (fun x hx => by simpa [rvalueReads] using hx) trivial
    · simp at h

theorem emitUnary_eff {b b' : Builder} {op : UnaryOp} {arg a : Operand}
    (h : emitUnaryExpression b op arg = .ok (a, b')) : Emitted b (.unary op (ensureConcreteString arg)) a b' := by
  unfold emitUnaryExpression at h
  simp only at h
  split at h <;> simp at h
  exact .intro h

theorem visitUnaryExpression_straight {F : FloatOps} {b b' : Builder} {op : UnaryOp} {arg a : Operand}
    (h : visitUnaryExpression F b op arg = .ok (a, b')) : Straight (operandReads arg) b a b' := by
  unfold visitUnaryExpression at h
  split at h
  · simp only at h
    split at h <;> cases h
    exact .const rfl
  · exact .emit (emitUnary_eff h) (fun x hx => by simpa [rvalueReads] using hx) trivial

theorem emitBinary_eff {env : Env} {b b' : Builder} {op : BinaryOp} {l r a : Operand}
    (h : emitBinaryExpression env b op l r = .ok (a, b')) :
    Emitted b (.binary op (ensureConcreteString l) (ensureConcreteString r)) a b' := by
  unfold emitBinaryExpression at h
  simp only at h
  split at h
  · cases h
  · rename_i tyR ty b0 heq
    simp at h
    refine ⟨b0, ty, ?_, h⟩
    -- the type check answers with `b` in every arm but that of `&&`/`||`, where it answers with `b.fail _`
    have key : ∀ (p : Except ExprError TypeKind × Builder), p.2.code = b.code → p = (.ok ty, b0) → b0.code = b.code :=
      fun p hp he => by rw [he] at hp; exact hp
    cases op <;> simp only at heq <;> refine key _ ?_ heq
    all_goals (repeat' split) <;> rfl

theorem visitBinaryExpression_straight {F : FloatOps} {env : Env} {b b' : Builder} {op : BinaryOp} {l r a : Operand}
    (h : visitBinaryExpression F env b op l r = .ok (a, b')) : Straight (operandReads l ++ operandReads r) b a b' := by
  unfold visitBinaryExpression at h
  split at h
  · simp only at h
    split at h
    · rename_i v b0 heq
      cases h
      refine .const ?_
      cases op <;> simp at heq
      all_goals rw [← heq.2]
      -- left: the arm of `&&`/`||`, where the constant comes with `b.fail _`
      rfl
    · cases h
  · exact .emit (emitBinary_eff h) (fun x hx => by simpa [rvalueReads] using hx) trivial

theorem visitAsExpression_straight {env : Env} {b b' : Builder} {v a : Operand} {ty : TypeKind}
    (h : visitAsExpression env b v ty = .ok (a, b')) : Straight (operandReads v) b a b' := by
  unfold visitAsExpression at h
  simp only at h
  split at h <;> simp at h
  · obtain ⟨rfl, rfl⟩ := h
    exact .pure rfl (fun x hx => by simpa using hx)
  all_goals exact .emit (.intro h) (fun x hx => by simpa [rvalueReads] using hx) trivial

/-- `visit_function_parameter`: a local is allocated (`b1`) and the parameter count set to the number of locals -/
theorem visitFunctionParameter_eff {b b' : Builder} {ty : TypeKind} {n : Nat} (h : visitFunctionParameter b ty = .ok (n, b')) :
    ∃ b0 b1 : Builder, b0.code = b.code ∧ b1 = (b0.alloca ty).2 ∧ b1.code.locals.length = b0.code.locals.length + 1 ∧
      n = b0.code.locals.length ∧ b' = { b1 with code := { b1.code with parameterCount := b1.code.locals.length } } := by
  unfold visitFunctionParameter at h
  simp only at h
  generalize hb0 : (if b.code.locals.length ≠ b.code.parameterCount then
    b.fail "function parameters must be declared prior to any local declarations" else b) = b0 at h
  have hc0 : b0.code = b.code := by rw [← hb0]; exact ite_fail_code _ _ _
  by_cases hv : ty = .void
  · subst hv
    simp [Builder.alloca] at h
  · have hal : b0.alloca ty = (some (.local b0.code.locals.length ty), (b0.alloca ty).2) := by simp [Builder.alloca, hv]
    rw [hal] at h
    simp at h
    exact ⟨b0, _, hc0, rfl, by simp [Builder.alloca, hv], h.1.symm, h.2.symm⟩

/-- a branch of `?:`, `&&`, `||` stores its value into the result temporary, if there is one, and closes its block -/
def storeAt (sink : Option Operand) (t : Terminator) (b : Builder) (src : Operand) (ref : Nat) : Builder :=
  (match sink with
    | some (.local n _) => b.pushStatementAt ref (.assign n (.copy src))
    | _ => b).finalizeAt ref t

/-- `visit_binary_logical_expression` as a sequence of the primitives: the left block stores the value that short-circuits
    and branches, the right block stores its operand and jumps to the join block -/
theorem visitBinaryLogicalExpression_eff (b : Builder) (op : LogicOp) (l r : Operand) (lr rr : Nat) :
    ∃ (b0 : Builder) (init : Bool) (T F : Nat), b0.code = b.code ∧
      ((T = lr + 1 ∧ F = rr + 1) ∨ (T = rr + 1 ∧ F = lr + 1)) ∧
      visitBinaryLogicalExpression b op l lr r rr = (.local b0.code.locals.length .bool,
        storeAt (some (.local b0.code.locals.length .bool)) (.br (rr + 1))
          (storeAt (some (.local b0.code.locals.length .bool)) (.brCond l T F) (b0.alloca .bool).2 (.const (.bool init)) lr) r rr) := by
  unfold visitBinaryLogicalExpression
  generalize hb0 : (if l.typeDesc ≠ .bool ∨ r.typeDesc ≠ .bool then b.fail "logical operand must be bool" else b) = b0
  have hc0 : b0.code = b.code := by rw [← hb0]; exact ite_fail_code _ _ _
  have ha : b0.alloca .bool = (some (.local b0.code.locals.length .bool), (b0.alloca .bool).2) := by
    simp [Builder.alloca, TypeKind.bool, TypeKind.void]
  cases op with
  | and =>
    simp only []
    rw [ha]
    exact ⟨b0, false, _, _, hc0, .inl ⟨rfl, rfl⟩, rfl⟩
  | or =>
    simp only []
    rw [ha]
    exact ⟨b0, true, _, _, hc0, .inr ⟨rfl, rfl⟩, rfl⟩

theorem visitTernaryExpression_eff {env : Env} {b b' : Builder} {c x y res : Operand} {cr xr yr : Nat}
    (h : visitTernaryExpression env b c cr x xr y yr = .ok (res, b')) :
    ∃ ty, res = (b.alloca ty).1.getD .void ∧
      b' = storeAt (b.alloca ty).1 (.br (yr + 1)) (storeAt (b.alloca ty).1 (.br (yr + 1))
        ((b.alloca ty).2.finalizeAt cr (.brCond c (cr + 1) (xr + 1))) (ensureConcreteString x) xr) (ensureConcreteString y) yr := by
  unfold visitTernaryExpression at h
  simp only at h
  split at h
  · simp at h
  · simp at h
    exact ⟨_, h.1.symm, h.2.symm⟩

theorem removeAt_eq {α} : ∀ (xs : List α) (p : Nat), removeAt xs p = (xs[p]?).map fun x => (x, xs.eraseIdx p)
  | [], _ => rfl
  | _ :: _, 0 => rfl
  | x :: xs, p + 1 => by
    rw [removeAt, removeAt_eq xs p, List.getElem?_cons_succ]
    cases xs[p]? <;> rfl

/-- `case_body_start_refs`: the block after the exit block for the first body, the block after each body for the next -/
def switchStarts (bodies : List Nat) (er : Nat) : List Nat :=
  if bodies.isEmpty then [] else (er + 1) :: (bodies.dropLast.map (· + 1))

/-- the blocks that `visit_switch_statement` jumps to besides the case conditions: what holds of the block after the exit block and
    of the block after every body holds of every start reference and of the block after the last body (the exit block stands in
    for the last body when there is none) -/
theorem switchTargets_forall {P : Nat → Prop} {bodies : List Nat} {er : Nat} (he : P (er + 1)) (hb : ∀ r ∈ bodies, P (r + 1)) :
    (∀ x ∈ switchStarts bodies er, P x) ∧ P (bodies.getLast?.getD er + 1) := by
  refine ⟨fun x h => ?_, ?_⟩
  · unfold switchStarts at h
    split at h
    · cases h
    · rcases List.mem_cons.1 h with rfl | h
      · exact he
      · obtain ⟨a, ha, rfl⟩ := List.mem_map.1 h
        exact hb a (List.dropLast_subset _ ha)
  · cases hgl : bodies.getLast? with
    | none => exact he
    | some r => exact hb r (List.mem_of_getLast? hgl)

theorem length_switchStarts (bodies : List Nat) (er : Nat) : (switchStarts bodies er).length = bodies.length := by
  unfold switchStarts
  cases bodies with
  | nil => rfl
  | cons x xs => simp

/-- `visit_switch_statement` as a sequence of the primitives; `ds` is the start of the default body, taken out of the
    start references if its position is in range -/
theorem visitSwitchStatement_eff (b : Builder) (conds : List (Operand × Nat)) (bodies : List Nat) (dp : Option Nat) (hr er : Nat) :
    ∃ ds starts b1, b1.code = b.code ∧ (∀ d, ds = some d → d ∈ switchStarts bodies er) ∧
      (∀ x ∈ starts, x ∈ switchStarts bodies er) ∧
      (match dp with
        | none => starts.length = bodies.length
        | some p => p < bodies.length → starts.length + 1 = bodies.length) ∧
      visitSwitchStatement b conds bodies dp hr er =
        ((bodies.foldl (fun b bodyRef => b.finalizeAt bodyRef (.br (bodyRef + 1)))
          (visitSwitchStatement.connect (bodies.getLast?.getD er) ds starts
            (if conds.length ≠ starts.length then b1.fail "assert_eq!(case_conditions.len(), case_body_start_refs.len())" else b1) 0
            (conds.zip starts))).finalizeAt hr (.br (er + 1))).finalizeAt er (.br (bodies.getLast?.getD er + 1)) := by
  unfold visitSwitchStatement
  simp only []
  have hlen0 := length_switchStarts bodies er
  unfold switchStarts at hlen0 ⊢
  -- the term generalised is the body of `switchStarts`, which transcribes `let starts0` of `Model.visitSwitchStatement`:
  -- if the two part, `generalize` abstracts nothing and the `rfl`s below are what fails
  generalize (if bodies.isEmpty then [] else (er + 1) :: (bodies.dropLast.map (· + 1))) = starts0 at hlen0
  cases dp with
  | none => exact ⟨none, starts0, b, rfl, fun d hd => (nomatch hd), fun x hx => hx, hlen0, rfl⟩
  | some p =>
    simp only
    rw [removeAt_eq]
    cases hg : starts0[p]? with
    | none =>
      refine ⟨none, starts0, b.fail _, rfl, fun d hd => (nomatch hd), fun x hx => hx, fun hp => ?_, rfl⟩
      rw [List.getElem?_eq_none_iff] at hg
      omega
    | some d =>
      have hp := (List.getElem?_eq_some_iff.1 hg).1
      exact ⟨some d, starts0.eraseIdx p, b, rfl, fun _ hd => by cases hd; exact List.mem_of_getElem? hg,
        fun _ => List.mem_of_mem_eraseIdx, fun _ => by rw [List.length_eraseIdx_of_lt hp]; omega, rfl⟩

end QV.Proofs.BuilderInv
