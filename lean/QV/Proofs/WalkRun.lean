/-
  The AST walk (QV.Model.Walk) as a relation: what a successful run of `walkExpr`, `walkStmt` and their companions consists of,
  one constructor for each way a construct can be accepted.  The theorems `exprRun`, `stmtRun`, … turn a run of the monadic
  code into a derivation, once; what is proved about every accepted program (the builder invariants of C06 and C02, the
  typing soundness of C05) is proved by induction over derivations, through the recursors, and never looks at the `do`
  blocks of `walkExpr` and `walkStmt`; the simulation of C01 reads each form off its derivation by `cases`.  These theorems
  have the form `∀ s, Ok (walkX …) s (XRun … s)` (`Ok m s Q`: every successful outcome of `m` from `s` satisfies `Q`);
  `simp only [walkX, wps]` passes `Ok` through the `do` blocks (WalkAttr).  Name resolution (`processIdentifier`,
  `processItemProperty`, …) and `interToRvalue` stay as runs in the premises: each consumer says what it needs of them, the
  look-ups in the form `Reads m P` (they change no state), `interToRvalue` as a straight-line step.
  Before the relation stand the facts about the model that several consumers share: the name map (`get_insert`), what
  `visit_local_declaration` answers, and what `visit_switch_statement` preserves.
  `mark_branch_point` appears as the function `marked`; the label it returns is `currentRef` of the builder it is applied to.
  The namespace is `QV.Proofs.BuilderInv`, that of the builder invariants (QV.Proofs.Builder*), which use `run` and the relation unqualified.
-/
import QV.Model.Walk
import QV.Proofs.WalkAttr

namespace QV.Proofs.BuilderInv
open QV.Model

/-- the walk `m` started in state `s`: its result, `none` after a failure, and the state it leaves.  It is `m.run s`
    (`OptionT.run`, `StateT.run`) under a name of its own, so that the equations below can be stated and used by `rw` -/
def run {α} (m : W α) (s : WState) : Option α × WState := m s

@[simp] theorem run_pure {α} (a : α) (s : WState) : run (pure a : W α) s = (some a, s) := rfl

theorem run_bind {α β} (m : W α) (f : α → W β) (s : WState) :
    run (m >>= f) s = (match run m s with
      | (some a, s1) => run (f a) s1
      | (none, s1) => (none, s1)) := by
  show (m >>= f) s = _
  simp only [bind, OptionT.bind, OptionT.mk, StateT.bind, run]
  -- both sides are a `match` on `m s`: once its value is named they agree by computation
  rcases m s with ⟨_ | a, s1⟩
  · rfl
  · rfl

@[simp] theorem run_err {α} (msg : String) (s : WState) :
    run (err msg : W α) s = (none, { s with diags := s.diags ++ [msg] }) := rfl
@[simp] theorem run_getB (s : WState) : run getB s = (some s.b, s) := rfl
@[simp] theorem run_setB (b : Builder) (s : WState) : run (setB b) s = (some (), { s with b := b }) := rfl
@[simp] theorem run_getLocals (s : WState) : run getLocals s = (some s.locals, s) := rfl
@[simp] theorem run_setLocals (l : Locals) (s : WState) : run (setLocals l) s = (some (), { s with locals := l }) := rfl
@[simp] theorem run_failure {α} (s : WState) : run (failure : W α) s = (none, s) := rfl
theorem run_attempt {α} (x : W α) (s : WState) : run (attempt x) s = (some (run x s).1, (run x s).2) := rfl

theorem bind_ok {α β} {m : W α} {f : α → W β} {s s' : WState} {r : β}
    (h : run (m >>= f) s = (some r, s')) : ∃ a s1, run m s = (some a, s1) ∧ run (f a) s1 = (some r, s') := by
  rw [run_bind] at h
  rcases hm : run m s with ⟨o, s1⟩
  rw [hm] at h
  cases o with
  | none => simp at h
  | some a => exact ⟨a, s1, rfl, h⟩

theorem attempt_ok {α} {x : W α} {s s1 : WState} {r : Option α} (h : run (attempt x) s = (some r, s1)) :
    run x s = (r, s1) := by
  rw [run_attempt] at h
  simp at h
  exact Prod.ext h.1 h.2

/-- `m` only reads the state (a failure adds a diagnostic), and `P` holds of what it yields: the look-ups of name resolution.
    In terms of `Ok` below it is `∀ s, Ok m s fun r s' => s' = s ∧ P r`. -/
def Reads {α} (m : W α) (P : α → Prop) : Prop := ∀ ⦃s s' r⦄, run m s = (some r, s') → s' = s ∧ P r

theorem Reads.pure {α} {P : α → Prop} {x : α} (h : P x) : Reads (pure x : W α) P := by
  intro s s' r hr
  cases hr
  exact ⟨rfl, h⟩

theorem Reads.err {α} {P : α → Prop} (msg : String) : Reads (err msg : W α) P := by
  intro s s' r hr
  cases hr

theorem Reads.ite {α} {P : α → Prop} {p : Prop} [Decidable p] {x y : W α} (hx : p → Reads x P) (hy : ¬ p → Reads y P) :
    Reads (if p then x else y) P := by
  split
  · exact hx ‹_›
  · exact hy ‹_›

/-- `HashMap::insert`, then `get` -/
theorem get_insert (m : Locals) (name n : String) (v : Nat × DeclKind) :
    (m.insert name v).get? n = if n = name then some v else m.get? n := by
  unfold Locals.insert Locals.get?
  by_cases hn : n = name
  · subst hn; simp
  · have : ¬ name = n := fun e => hn e.symm
    simp only [List.find?_cons, this, decide_false, hn, if_false, List.find?_filter]
    -- the entries the `filter` drops are under `name`, those `find?` looks for under `n`
    congr 2
    funext x
    by_cases hx : x.1 = n
    · simp [hx, hn]
    · simp [hx]

theorem locals_get_mem {m : Locals} {name : String} {v : Nat × DeclKind} (h : m.get? name = some v) : ∃ e ∈ m, e.2 = v := by
  obtain ⟨e, hf, he⟩ := Option.map_eq_some_iff.1 h
  exact ⟨e, List.mem_of_find?_eq_some hf, he⟩

theorem mem_insert {m : Locals} {name : String} {v : Nat × DeclKind} {e : String × (Nat × DeclKind)}
    (h : e ∈ m.insert name v) : e = (name, v) ∨ e ∈ m := by
  unfold Locals.insert at h
  simp only [List.mem_cons, List.mem_filter] at h
  rcases h with h | h
  · exact Or.inl h
  · exact Or.inr h.1

theorem visitLocalDeclaration_ok {b b' : Builder} {ty : TypeKind} {n : Nat}
    (h : visitLocalDeclaration b ty = .ok (n, b')) :
    ty ≠ .void ∧ n = b.code.locals.length ∧ b'.code.locals = b.code.locals ++ [ty] := by
  unfold visitLocalDeclaration Builder.alloca at h
  by_cases hv : ty = .void
  · simp [hv] at h
  · simp [hv] at h
    obtain ⟨rfl, rfl⟩ := h
    exact ⟨hv, rfl, rfl⟩

/-- `visit_switch_statement` only finalizes blocks, after two `assert`s that may record a panic: what those two steps
    preserve, it preserves -/
theorem visitSwitchStatement_preserves {P : Builder → Prop} (hfin : ∀ b i t, P b → P (b.finalizeAt i t))
    (hfail : ∀ b m, P b → P (b.fail m)) {b : Builder} (h : P b) (cc : List (Operand × Nat)) (bodies : List Nat)
    (dp : Option Nat) (hr er : Nat) : P (visitSwitchStatement b cc bodies dp hr er) := by
  have connect (l ds starts) : ∀ xs b i, P b → P (visitSwitchStatement.connect l ds starts b i xs) := by
    intro xs
    induction xs with
    | nil => exact fun b i h => h
    | cons x rest ih => exact fun b i h => ih _ _ (hfin _ _ _ h)
  have fold : ∀ (bodies : List Nat) b, P b → P (bodies.foldl (fun b r => b.finalizeAt r (.br (r + 1))) b) := by
    intro bodies
    induction bodies with
    | nil => exact fun b h => h
    | cons x xs ih => exact fun b h => ih _ (hfin _ _ _ h)
  have assert (c : Prop) [Decidable c] (m : String) {b1 : Builder} (h1 : P b1) : P (if c then b1.fail m else b1) := by
    split
    · exact hfail _ _ h1
    · exact h1
  unfold visitSwitchStatement
  -- left: the builder after the first of the two `assert`s, where the start of the default body is taken out of the start references
  refine hfin _ _ _ (hfin _ _ _ (fold _ _ (connect _ _ _ _ _ _ (assert _ _ ?_))))
  split
  · exact h
  · split
    · exact h
    · exact hfail _ _ h

theorem getB_bind_bind {α β} {f : Builder → W α} {k : α → W β} {s s' : WState} {r : β}
    (h : run (do let b ← getB; let a ← f b; k a) s = (some r, s')) :
    ∃ a s1, run (do let b ← getB; f b) s = (some a, s1) ∧ run (k a) s1 = (some r, s') := by
  obtain ⟨b, s0, h1, h2⟩ := bind_ok h
  cases h1
  obtain ⟨a, s1, h3, h4⟩ := bind_ok h2
  exact ⟨a, s1, by rw [run_bind, run_getB]; exact h3, h4⟩

/-- the state after `mark_branch_point`; the label it returns is `s.b.currentRef` -/
def marked (s : WState) : WState := { s with b := s.b.newBlock.2 }

@[simp] theorem marked_b (s : WState) : (marked s).b = s.b.newBlock.2 := rfl

abbrev Clauses := List (Option Expr × List Stmt)

/-- a value taken from an intermediate is an lvalue if it is a local variable: `member` and `subscript` -/
def valueKind : Inter → ExprKind
  | .local .. => .lvalue
  | _ => .rvalue

mutual

inductive ExprRun (c : Ctx) : Expr → WState → Inter → WState → Prop
  | ident {n s i s'} : run (processIdentifier c n) s = (some i, s') → ExprRun c (.ident n) s i s'
  | this {cls name s} : c.thisObj = some (cls, name) → ExprRun c .this s (.item (.namedObject name cls)) s
  | integer {v s a b'} : visitInteger s.b v = .ok (a, b') → ExprRun c (.integer v) s (.item a) { s with b := b' }
  | float {v s} : ExprRun c (.float v) s (.item (.const (.float v))) s
  | string {v s} : ExprRun c (.string v) s (.item (.const (.cstring v))) s
  | bool {v s} : ExprRun c (.bool v) s (.item (.const (.bool v))) s
  | null {s} : ExprRun c .null s (.item (.const .nullPointer)) s
  | array {ns s els s1 a b'} : RvalsRun c ns s els s1 → visitArray c.env s1.b els = .ok (a, b') →
      ExprRun c (.array ns) s (.item a) { s1 with b := b' }
  | member {o n s x s1 it s2 i s'} : ExprRun c o s x s1 → run (interToRvalue x) s1 = (some it, s2) →
      run (processItemProperty c it n (valueKind x)) s2 = (some i, s') → ExprRun c (.member o n) s i s'
  | memberNamespace {o n s k s1 i s'} : ExprRun c o s (.builtinNamespace k) s1 →
      run (processNamespaceName k n) s1 = (some i, s') → ExprRun c (.member o n) s i s'
  | memberType {o n s t s1 i s'} : ExprRun c o s (.type t) s1 →
      run (processTypeMember c t n) s1 = (some i, s') → ExprRun c (.member o n) s i s'
  | subscript {o ix s x s1 it s2 idx s'} : ExprRun c o s x s1 → run (interToRvalue x) s1 = (some it, s2) →
      RvalRun c ix s2 idx s' → ExprRun c (.subscript o ix) s (.boundSubscript it idx (valueKind x)) s'
  | callMethod {f args s argv s1 it ms s2 a b'} : RvalsRun c args s argv s1 → ExprRun c f s1 (.boundMethod it ms) s2 →
      visitObjectMethodCall c.env s2.b it ms argv = .ok (a, b') → ExprRun c (.call f args) s (.item a) { s2 with b := b' }
  | callBuiltin {f args s argv s1 bf s2 a b'} : RvalsRun c args s argv s1 → ExprRun c f s1 (.builtinFunction bf) s2 →
      visitBuiltinCall c.env s2.b bf argv = .ok (a, b') → ExprRun c (.call f args) s (.item a) { s2 with b := b' }
  | assignLocal {l r s lc s1 rv s2 a b'} : ExprRun c l s (.local lc .let_) s1 → RvalRun c r s1 rv s2 →
      visitLocalAssignment c.env s2.b lc rv = .ok (a, b') → ExprRun c (.assign l r) s (.item a) { s2 with b := b' }
  | assignProperty {l r s it p rk s1 rv s2 a b'} : ExprRun c l s (.boundProperty it p rk) s1 → RvalRun c r s1 rv s2 →
      rk ≠ .gadget .rvalue → visitObjectPropertyAssignment c.env s2.b it p rv = .ok (a, b') →
      ExprRun c (.assign l r) s (.item a) { s2 with b := b' }
  | assignSubscript {l r s it ix s1 rv s2 a b'} : ExprRun c l s (.boundSubscript it ix .lvalue) s1 →
      RvalRun c r s1 rv s2 → visitObjectSubscriptAssignment c.env s2.b it ix rv = .ok (a, b') →
      ExprRun c (.assign l r) s (.item a) { s2 with b := b' }
  | unary {tok a s arg s1 op x b'} : RvalRun c a s arg s1 → tok.toOp = some op →
      visitUnaryExpression c.F s1.b op arg = .ok (x, b') → ExprRun c (.unary tok a) s (.item x) { s1 with b := b' }
  | binary {tok l r s left s1 right s2 op x b'} : RvalRun c l s left s1 → RvalRun c r s1 right s2 → tok.toOp = some op →
      (∀ lo, op ≠ .logical lo) → visitBinaryExpression c.F c.env s2.b op left right = .ok (x, b') →
      ExprRun c (.binary tok l r) s (.item x) { s2 with b := b' }
  | logical {tok l r s left s1 right s3 lo it b'} : RvalRun c l s left s1 → RvalRun c r (marked s1) right s3 →
      tok.toOp = some (.logical lo) → left.typeDesc = .bool → right.typeDesc = .bool →
      visitBinaryLogicalExpression (marked s3).b lo left s1.b.currentRef right s3.b.currentRef = (it, b') →
      ExprRun c (.binary tok l r) s (.item it) { marked s3 with b := b' }
  | as_ {v ty s val s1 k x b'} : RvalRun c v s val s1 → c.annotatedType (joinWith "::" ty) = some k →
      visitAsExpression c.env s1.b val k = .ok (x, b') → ExprRun c (.as_ v ty) s (.item x) { s1 with b := b' }
  | ternary {cnd a b s cv s1 av s3 bv s5 x b'} : RvalRun c cnd s cv s1 → RvalRun c a (marked s1) av s3 →
      RvalRun c b (marked s3) bv s5 → cv.typeDesc = .bool →
      visitTernaryExpression c.env (marked s5).b cv s1.b.currentRef av s3.b.currentRef bv s5.b.currentRef = .ok (x, b') →
      ExprRun c (.ternary cnd a b) s (.item x) { marked s5 with b := b' }

/-- the successful runs of `walkRvalue`.  The run itself is kept beside its parts: the hypotheses of C01's step theorems
    speak of runs of sub-expressions, not of derivations -/
inductive RvalRun (c : Ctx) : Expr → WState → Operand → WState → Prop
  | mk {e s i s1 a s'} : ExprRun c e s i s1 → run (interToRvalue i) s1 = (some a, s') →
      run (walkRvalue c e) s = (some a, s') → RvalRun c e s a s'

inductive RvalsRun (c : Ctx) : List Expr → WState → List Operand → WState → Prop
  | nil {s} : RvalsRun c [] s [] s
  | cons {e es s a s1 as s'} : RvalRun c e s a s1 → RvalsRun c es s1 as s' → RvalsRun c (e :: es) s (a :: as) s'

end

/-- the type of a declared variable: the annotated one or, without annotation, that of the initialiser -/
def DeclTy (c : Ctx) (annotation : Option (List String)) (value : Option Operand) (ty : TypeKind) : Prop :=
  match annotation, value with
  | some n, _ => c.annotatedType (joinWith "::" n) = some ty
  | none, some v => toConcreteType v.typeDesc = .ok ty
  | none, none => False

inductive DeclsRun (c : Ctx) (kind : DeclKind) : List Decl → WState → WState → Prop
  | nil {s} : DeclsRun c kind [] s s
  | init {d rest s e v s1 ty l b1 a b2 s'} : d.value = some e → RvalRun c e s v s1 → DeclTy c d.ty (some v) ty →
      visitLocalDeclaration s1.b ty = .ok (l, b1) → visitLocalAssignment c.env b1 l v = .ok (a, b2) →
      DeclsRun c kind rest { s1 with b := b2, locals := s1.locals.insert d.name (l, kind) } s' →
      DeclsRun c kind (d :: rest) s s'
  | uninit {d rest s ty l b1 s'} : d.value = none → kind ≠ .const_ → DeclTy c d.ty none ty →
      visitLocalDeclaration s.b ty = .ok (l, b1) →
      DeclsRun c kind rest
        { s with b := b1, locals := s.locals.insert d.name (l, kind), userUninit := s.userUninit ++ [l] } s' →
      DeclsRun c kind (d :: rest) s s'

/-- the runs of `walkCaseConditions` in which no `case` was skipped: the conditions with the labels of their blocks -/
inductive CondsRun (c : Ctx) (left : Operand) : Clauses → WState → List (Operand × Nat) → WState → Prop
  | nil {s} : CondsRun c left [] s [] s
  | default {body rest s conds s'} : CondsRun c left rest s conds s' → CondsRun c left ((none, body) :: rest) s conds s'
  | case {v body rest s right s3 cnd b' conds s'} : RvalRun c v s right s3 →
      visitBinaryExpression c.F c.env s3.b (.cmp .eq) left right = .ok (cnd, b') →
      CondsRun c left rest (marked { s3 with b := b' }) conds s' →
      CondsRun c left ((some v, body) :: rest) s ((cnd, b'.currentRef) :: conds) s'

mutual

/-- the successful runs of `walkStmt`, `bl` the label `break` jumps to.  The visitors that wire control flow stand in an
    equation for `b'`: as an index of the constructor the unifier would unfold them -/
inductive StmtRun (c : Ctx) : Option Nat → Stmt → WState → WState → Prop
  | expr {bl e s v s1} : RvalRun c e s v s1 →
      StmtRun c bl (.expr e) s { s1 with b := visitExpressionStatement s1.b v }
  | block {bl ss s s2} : StmtsRun c bl ss s s2 → StmtRun c bl (.block ss) s { s2 with locals := s.locals }
  | lexical {bl kind ds s s'} : DeclsRun c kind ds s s' → StmtRun c bl (.lexical kind ds) s s'
  | if_ {bl cnd a s cv s1 s4 b'} : RvalRun c cnd s cv s1 → StmtRun c bl a (marked s1) s4 → cv.typeDesc = .bool →
      b' = visitIfStatement (marked s4).b cv s1.b.currentRef s4.b.currentRef none →
      StmtRun c bl (.if_ cnd a none) s { s4 with b := b', locals := s1.locals }
  | ifElse {bl cnd a n s cv s1 s4 s8 b'} : RvalRun c cnd s cv s1 → StmtRun c bl a (marked s1) s4 →
      StmtRun c bl n (marked { s4 with locals := s1.locals }) s8 → cv.typeDesc = .bool →
      b' = visitIfStatement (marked s8).b cv s1.b.currentRef s4.b.currentRef (some s8.b.currentRef) →
      StmtRun c bl (.if_ cnd a (some n)) s { s8 with b := b', locals := s1.locals }
  | switch {bl v cl s left s1 conds s2 bodies s6 b'} : ¬ (cl.filter (·.1.isNone)).length > 1 → RvalRun c v s left s1 →
      CondsRun c left cl s1 conds s2 → BodiesRun c (some (marked s2).b.currentRef) cl (marked (marked s2)) bodies s6 →
      (cl.filter (·.1.isSome)).length = conds.length → cl.length = bodies.length →
      b' = visitSwitchStatement s6.b conds bodies (cl.findIdx? (·.1.isNone)) s2.b.currentRef (marked s2).b.currentRef →
      StmtRun c bl (.switch v cl) s { s6 with b := b', locals := s2.locals }
  | break_ {l s} : StmtRun c (some l) (.break_ false) s { s with b := visitBreakStatement s.b l }
  | return_ {bl e s v s1} : RvalRun c e s v s1 →
      StmtRun c bl (.return_ (some e)) s { s1 with b := visitReturnStatement s1.b v }
  | returnVoid {bl s} : StmtRun c bl (.return_ none) s { s with b := visitReturnStatement s.b .void }

/-- the runs of `walkStmts` in which every statement was accepted; the run is kept as in `RvalRun` -/
inductive StmtsRun (c : Ctx) : Option Nat → List Stmt → WState → WState → Prop
  | stop {bl s} : StmtsRun c bl [] s s
  | step {bl st rest s s1 s'} : StmtRun c bl st s s1 → StmtsRun c bl rest s1 s' →
      run (walkStmts c bl (st :: rest)) s = (some true, s') → StmtsRun c bl (st :: rest) s s'

/-- the runs of `walkBodies` in which every body was accepted: the labels of the blocks the bodies end in -/
inductive BodiesRun (c : Ctx) : Option Nat → Clauses → WState → List Nat → WState → Prop
  | done {bl s} : BodiesRun c bl [] s [] s
  | body {bl cv body rest s s1 others s'} : StmtsRun c bl body s s1 →
      BodiesRun c bl rest (marked { s1 with locals := s.locals }) others s' →
      BodiesRun c bl ((cv, body) :: rest) s (s1.b.currentRef :: others) s'

end

/-- the runs of the parameter loop of `walkCallbackFunction` in which every parameter was declared.  A parameter that is
    redefined or lacks its annotation is passed over with a diagnostic; the count of the declared ones then rejects the
    function. -/
inductive ParamsRun (c : Ctx) : List (String × Option (List String)) → WState → WState → Prop
  | nil {s} : ParamsRun c [] s s
  | param {name t rest s k l b1 s'} : (s.locals.get? name).isSome = false → c.annotatedType (joinWith "::" t) = some k →
      visitFunctionParameter s.b k = .ok (l, b1) →
      ParamsRun c rest { s with b := b1, locals := s.locals.insert name (l, .let_) } s' →
      ParamsRun c ((name, some t) :: rest) s s'

/-- the body of a callback function as the statement it is walked as -/
def bodyStmt : FnBody → Stmt
  | .expr e => .expr e
  | .stmt st => st

inductive ProgramRun (c : Ctx) : Bool → Program → WState → WState → Prop
  | stmt {cb st s s'} : StmtRun c none st s s' → ProgramRun c cb (.stmt st) s s'
  | function {f s s2 s'} : f.named = false → ParamsRun c f.params { s with locals := [] } s2 →
      StmtRun c none (bodyStmt f.body) s2 s' → ProgramRun c true (.function f) s s'

/-! The list-shaped members of the mutual families by themselves, their element relation taken as given: for what follows
    from facts about `RvalRun`, `StmtRun`, `StmtsRun` that are already proved. -/

theorem RvalsRun.induct {c : Ctx} {motive : List Expr → WState → List Operand → WState → Prop} (nil : ∀ s, motive [] s [] s)
    (cons : ∀ {e es s a s1 as s'}, RvalRun c e s a s1 → motive es s1 as s' → motive (e :: es) s (a :: as) s') :
    ∀ {es s as s'}, RvalsRun c es s as s' → motive es s as s'
  | [], _, _, _, h => by cases h; exact nil _
  | _ :: _, _, _, _, h => by cases h with | cons h1 h2 => exact cons h1 (RvalsRun.induct nil cons h2)

theorem StmtsRun.induct {c : Ctx} {bl : Option Nat} {motive : List Stmt → WState → WState → Prop} (stop : ∀ s, motive [] s s)
    (step : ∀ {st rest s s1 s'}, StmtRun c bl st s s1 → motive rest s1 s' → motive (st :: rest) s s') :
    ∀ {ss s s'}, StmtsRun c bl ss s s' → motive ss s s'
  | [], _, _, h => by cases h; exact stop _
  | _ :: _, _, _, h => by cases h with | step h1 h2 _ => exact step h1 (StmtsRun.induct stop step h2)

theorem BodiesRun.induct {c : Ctx} {bl : Option Nat} {motive : Clauses → WState → List Nat → WState → Prop}
    (done : ∀ s, motive [] s [] s)
    (body : ∀ {cv body rest s s1 others s'}, StmtsRun c bl body s s1 →
      motive rest (marked { s1 with locals := s.locals }) others s' → motive ((cv, body) :: rest) s (s1.b.currentRef :: others) s') :
    ∀ {cl s bodies s'}, BodiesRun c bl cl s bodies s' → motive cl s bodies s'
  | [], _, _, _, h => by cases h; exact done _
  | _ :: _, _, _, _, h => by cases h with | body h1 h2 => exact body h1 (BodiesRun.induct done body h2)

theorem RvalRun.run_eq {c : Ctx} {e : Expr} {s s' : WState} {a : Operand} (h : RvalRun c e s a s') :
    run (walkRvalue c e) s = (some a, s') := by
  cases h with | mk _ _ h => exact h

theorem StmtsRun.run_eq {c : Ctx} {bl : Option Nat} {ss : List Stmt} {s s' : WState} (h : StmtsRun c bl ss s s') :
    run (walkStmts c bl ss) s = (some true, s') := by
  cases h with
  | stop => simp only [walkStmts]; rfl
  | step _ _ h => exact h

/-- the arm `some binary` of `walkExpr`, written out (it overlaps the arm `some (.logical op)`) -/
theorem walkExpr_binary (c : Ctx) {tok : BinaryToken} {op : BinaryOp} {l r : Expr} (htok : tok.toOp = some op)
    (hlog : ∀ lop, op ≠ .logical lop) :
    walkExpr c (.binary tok l r) = (do
      let left ← walkRvalue c l
      let right ← walkRvalue c r
      return .item (← consume (visitBinaryExpression c.F c.env (← getB) op left right))) := by
  rw [walkExpr]
  -- the arm's equation asks that `op` is no `.logical _`: `simp` finds `hlog`
  simp only [htok]

/-- every successful outcome of `m` from `s` satisfies `Q`.  A theorem `∀ s, Ok (walkX …) s (XRun … s)` is used as the
    function it unfolds to, from `s`, `r`, `s'` and `run (walkX …) s = (some r, s')` to `XRun … s r s'`.  Its cases are written
    from the goal towards the constructor.  `simp only [walkX, wps]` passes `Ok` through the `do` block up to the first
    recursive call `m` and leaves `Ok m s fun a s1 => …`; `Ok.mono` with the theorem for `m` passes the call and names its
    result, the state after it and its derivation.  What a step that can fail requires has by then become a hypothesis
    (`a.typeDesc = .bool → …`, `∀ a b', visitX … = .ok (a, b') → …`), in the order of the constructor's premises, so that
    after the last call the constructor closes the goal.  A `match` on data is passed by `cases`; its failing arms are
    `Ok (err _) …`, which is `True`.  A case whose constructor keeps a run (`member`, `subscript`, `RvalRun.mk`,
    `StmtsRun.step`) takes the run apart by `bind_ok` instead. -/
def Ok {α} (m : W α) (s : WState) (Q : α → WState → Prop) : Prop := ∀ r s', run m s = (some r, s') → Q r s'

theorem Ok.mono {α} {m : W α} {s : WState} {P Q : α → WState → Prop} (h : Ok m s P) (hpq : ∀ r s', P r s' → Q r s') :
    Ok m s Q := fun r s' hr => hpq r s' (h r s' hr)

@[wps low] theorem ok_bind {α β} {m : W α} {f : α → W β} {s : WState} {Q : β → WState → Prop} :
    Ok (m >>= f) s Q ↔ Ok m s fun a s1 => Ok (f a) s1 Q := by
  constructor
  · intro h a s1 h1 r s' h2
    exact h r s' (by rw [run_bind, h1]; exact h2)
  · intro h r s' hr
    obtain ⟨a, s1, h1, h2⟩ := bind_ok hr
    exact h a s1 h1 r s' h2

section
variable {α β : Type} {s : WState} {Q : β → WState → Prop}

@[wps] theorem ok_pure {a : β} : Ok (pure a : W β) s Q ↔ Q a s :=
  ⟨fun h => h a s rfl, fun h r s' hr => by cases hr; exact h⟩
@[wps] theorem ok_err {msg : String} : Ok (err msg : W β) s Q ↔ True := ⟨fun _ => trivial, fun _ r s' hr => by cases hr⟩
@[wps] theorem ok_failure : Ok (failure : W β) s Q ↔ True := ⟨fun _ => trivial, fun _ r s' hr => by cases hr⟩
@[wps] theorem ok_setB {b : Builder} {Q : Unit → WState → Prop} : Ok (setB b) s Q ↔ Q () { s with b := b } :=
  ⟨fun h => h () _ rfl, fun h r s' hr => by cases hr; exact h⟩
@[wps] theorem ok_getB_bind {k : Builder → W β} : Ok (getB >>= k) s Q ↔ Ok (k s.b) s Q := Iff.rfl
@[wps] theorem ok_getLocals_bind {k : Locals → W β} : Ok (getLocals >>= k) s Q ↔ Ok (k s.locals) s Q := Iff.rfl
@[wps] theorem ok_setLocals_bind {l : Locals} {k : Unit → W β} :
    Ok (setLocals l >>= k) s Q ↔ Ok (k ()) { s with locals := l } Q := Iff.rfl
@[wps] theorem ok_modify_bind {f : WState → WState} {k : Unit → W β} : Ok ((modify f : W Unit) >>= k) s Q ↔ Ok (k ()) (f s) Q :=
  Iff.rfl
@[wps] theorem ok_pushDiag_bind {msg : String} {k : Unit → W β} :
    Ok (pushDiag msg >>= k) s Q ↔ Ok (k ()) { s with diags := s.diags ++ [msg] } Q := Iff.rfl
@[wps] theorem ok_mark_bind {k : Nat → W β} : Ok (markBranchPoint >>= k) s Q ↔ Ok (k s.b.currentRef) (marked s) Q := Iff.rfl

/-- `attempt x` never fails: what follows is run after a success of `x` and after a failure of `x` -/
@[wps] theorem ok_attempt_bind {x : W α} {k : Option α → W β} :
    Ok (attempt x >>= k) s Q ↔ (Ok x s fun a s1 => Ok (k (some a)) s1 Q) ∧ ∀ s1, run x s = (none, s1) → Ok (k none) s1 Q := by
  constructor
  · intro h
    exact ⟨fun a s1 h1 r s' h2 => h r s' (by rw [run_bind, run_attempt, h1]; exact h2),
      fun s1 h1 r s' h2 => h r s' (by rw [run_bind, run_attempt, h1]; exact h2)⟩
  · intro h r s' hr
    rw [run_bind, run_attempt] at hr
    rcases hx : run x s with ⟨_ | a, s1⟩
    · rw [hx] at hr; exact h.2 s1 hx r s' hr
    · rw [hx] at hr; exact h.1 a s1 hx r s' hr

@[wps] theorem ok_cond {a : Operand} {Q : Unit → WState → Prop} :
    Ok (checkConditionType a) s Q ↔ (a.typeDesc = .bool → Q () s) := by
  unfold checkConditionType
  split
  · exact ok_pure.trans ⟨fun h _ => h, fun h => h ‹_›⟩
  · exact ok_err.trans ⟨fun _ h => absurd h ‹_›, fun _ => trivial⟩

@[wps] theorem ok_consume {v : VisitResult} {Q : Operand → WState → Prop} :
    Ok (consume v) s Q ↔ ∀ a b', v = .ok (a, b') → Q a { s with b := b' } := by
  constructor
  · rintro h a b' rfl; exact h a _ rfl
  · intro h a s1 h1
    cases v with
    | error e => cases h1
    | ok p => cases h1; exact h _ _ rfl

@[wps] theorem ok_consumeLocal {v : Except ExprError (Nat × Builder)} {Q : Nat → WState → Prop} :
    Ok (consumeLocal v) s Q ↔ ∀ a b', v = .ok (a, b') → Q a { s with b := b' } := by
  constructor
  · rintro h a b' rfl; exact h a _ rfl
  · intro h a s1 h1
    cases v with
    | error e => cases h1
    | ok p => cases h1; exact h _ _ rfl

@[wps] theorem ok_annot {c : Ctx} {cs : List String} {Q : TypeKind → WState → Prop} :
    Ok (processTypeAnnotation c cs) s Q ↔ ∀ t, c.annotatedType (joinWith "::" cs) = some t → Q t s := by
  unfold processTypeAnnotation
  cases c.annotatedType (joinWith "::" cs) with
  | none => exact ok_err.trans ⟨fun _ _ h => (nomatch h), fun _ => trivial⟩
  | some ty => exact ok_pure.trans ⟨fun h t e => by cases e; exact h, fun h => h ty rfl⟩

end

theorem getB_consume {s : WState} {f : Builder → VisitResult} :
    Ok (do let b ← getB; consume (f b)) s fun a s' => ∃ b', f s.b = .ok (a, b') ∧ s' = { s with b := b' } :=
  ok_getB_bind.2 (ok_consume.2 fun _ b' e => ⟨b', e, rfl⟩)

theorem annot_ok {c : Ctx} {cs : List String} {s : WState} :
    Ok (processTypeAnnotation c cs) s fun k s' => c.annotatedType (joinWith "::" cs) = some k ∧ s' = s :=
  ok_annot.2 fun _ ht => ⟨ht, rfl⟩

/-- `rvalRun` from its part for `walkExpr`: the form in which the induction over expressions uses it -/
theorem rvalRun_of {c : Ctx} {e : Expr} (ih : ∀ s, Ok (walkExpr c e) s (ExprRun c e s)) (s : WState) :
    Ok (walkRvalue c e) s (RvalRun c e s) := by
  intro a s' h
  have h' := h
  simp only [walkRvalue] at h'
  obtain ⟨i, s1, h1, h2⟩ := bind_ok h'
  exact .mk (ih _ _ _ h1) h2 h

theorem exprRun_binary {c : Ctx} {tok : BinaryToken} {l r : Expr} {s : WState}
    (ihl : ∀ s, Ok (walkRvalue c l) s (RvalRun c l s)) (ihr : ∀ s, Ok (walkRvalue c r) s (RvalRun c r s)) :
    Ok (walkExpr c (.binary tok l r)) s (ExprRun c (.binary tok l r) s) := by
  cases hop : tok.toOp with
  | none => simp only [walkExpr, hop, wps]
  | some op =>
    by_cases hlog : ∃ lo, op = .logical lo
    · obtain ⟨lo, rfl⟩ := hlog
      simp only [walkExpr, hop, wps]
      refine (ihl _).mono fun left s1 r1 => (ihr _).mono fun right s3 r2 hbl hbr => ?_
      generalize hV : visitBinaryLogicalExpression (marked s3).b lo left s1.b.currentRef right s3.b.currentRef = V
      rcases V with ⟨it, bV⟩
      simp only [wps]
      exact .logical r1 r2 hop hbl hbr hV
    · have hlog' : ∀ lo, op ≠ .logical lo := fun lo e => hlog ⟨lo, e⟩
      rw [walkExpr_binary c hop hlog']
      simp only [wps]
      exact (ihl _).mono fun left s1 r1 => (ihr _).mono fun right s2 r2 a b' h => .binary r1 r2 hop hlog' h

mutual

theorem exprRun (c : Ctx) : (e : Expr) → ∀ s, Ok (walkExpr c e) s (ExprRun c e s)
  | .ident n => fun s i s' h => .ident (by simpa only [walkExpr] using h)
  | .this => by
    intro s
    simp only [walkExpr]
    split
    · exact ok_pure.2 (.this ‹_›)
    · exact ok_err.2 trivial
  | .integer v => by intro s; simp only [walkExpr, wps]; exact fun a b' h => .integer h
  | .float v => by intro s; simp only [walkExpr, wps]; exact .float
  | .string v => by intro s; simp only [walkExpr, wps]; exact .string
  | .bool v => by intro s; simp only [walkExpr, wps]; exact .bool
  | .null => by intro s; simp only [walkExpr, wps]; exact .null
  | .function => by intro s; simp only [walkExpr, wps]
  | .array es => by
    intro s
    simp only [walkExpr, wps]
    exact (rvalsRun c es _).mono fun els s1 r1 a b' h => .array r1 h
  | .member o n => by
    intro s i s' h
    simp only [walkExpr] at h
    obtain ⟨x, s1, h1, h2⟩ := bind_ok h
    have r1 := exprRun c o _ _ _ h1
    cases x with
    | builtinNamespace k => exact .memberNamespace r1 h2
    | type t => exact .memberType r1 h2
    | boundMethod | builtinFunction => cases h2
    | item it => exact .member r1 (by rfl) h2
    | «local» | boundProperty | boundSubscript => obtain ⟨it, s2, h3, h4⟩ := getB_bind_bind h2; exact .member r1 h3 h4
  | .subscript o ix => by
    intro s i s' h
    simp only [walkExpr] at h
    obtain ⟨ok, s2, hA, hB⟩ := bind_ok h
    obtain ⟨idx, s3, h3, h4⟩ := bind_ok hB
    cases h4
    obtain ⟨x, s1, h1, h2⟩ := bind_ok hA
    have r1 := exprRun c o _ _ _ h1
    have r3 := rvalRun_of (exprRun c ix) _ _ _ h3
    -- the object as a value: `interToRvalue`, written out in the model with the kind of the value beside it
    cases x with
    | item it => cases h2; exact .subscript r1 (by rfl) r3
    | «local» | boundProperty | boundSubscript =>
      obtain ⟨it, s2', h5, h6⟩ := getB_bind_bind h2
      cases h6
      exact .subscript r1 h5 r3
    | boundMethod | builtinFunction | builtinNamespace | type => cases h2
  | .call f args => by
    intro s
    simp only [walkExpr, wps]
    refine (rvalsRun c args _).mono fun argv s1 r1 => (exprRun c f _).mono fun x s2 r2 => ?_
    cases x with
    | boundMethod it ms => simp only [wps]; exact fun a b' h => .callMethod r1 r2 h
    | builtinFunction bf => simp only [wps]; exact fun a b' h => .callBuiltin r1 r2 h
    | _ => simp only [wps]
  | .assign l r => by
    intro s
    simp only [walkExpr, wps]
    refine (exprRun c l _).mono fun x s1 r1 => (rvalRun_of (exprRun c r) _).mono fun rv s2 r2 => ?_
    cases x with
    | «local» lc k =>
      cases k with
      | const_ => simp only [wps]
      | let_ => simp only [wps]; exact fun a b' h => .assignLocal r1 r2 h
    | boundProperty it p rk =>
      simp only
      split
      · simp only [wps]
      · simp only [wps]; exact fun a b' h => .assignProperty r1 r2 ‹_› h
    | boundSubscript it jx k =>
      simp only
      split
      · subst ‹k = .lvalue›
        simp only [wps]; exact fun a b' h => .assignSubscript r1 r2 h
      · simp only [wps]
    | _ => simp only [wps]
  | .unary tok a => by
    intro s
    simp only [walkExpr, wps]
    refine (rvalRun_of (exprRun c a) _).mono fun arg s1 r1 => ?_
    split
    · simp only [wps]
    · simp only [wps]; exact fun x b' h => .unary r1 ‹_› h
  | .binary tok l r => fun _ => exprRun_binary (rvalRun_of (exprRun c l)) (rvalRun_of (exprRun c r))
  | .as_ v ty => by
    intro s
    simp only [walkExpr, wps]
    exact (rvalRun_of (exprRun c v) _).mono fun val s1 r1 k hk x b' h => .as_ r1 hk h
  | .ternary cnd a b => by
    intro s
    simp only [walkExpr, wps]
    exact (rvalRun_of (exprRun c cnd) _).mono fun cv s1 r1 => (rvalRun_of (exprRun c a) _).mono fun av s3 r2 =>
      (rvalRun_of (exprRun c b) _).mono fun bv s5 r3 hc x b' h => .ternary r1 r2 r3 hc h

theorem rvalsRun (c : Ctx) : (es : List Expr) → ∀ s, Ok (walkRvalues c es) s (RvalsRun c es s)
  | [] => by intro s; simp only [walkRvalues, wps]; exact .nil
  | e :: es => by
    intro s
    simp only [walkRvalues, wps]
    exact (rvalRun_of (exprRun c e) _).mono fun a s1 r1 => (rvalsRun c es _).mono fun as s' r2 => .cons r1 r2

end

theorem rvalRun (c : Ctx) (e : Expr) : ∀ s, Ok (walkRvalue c e) s (RvalRun c e s) := rvalRun_of (exprRun c e)

theorem declsRun (c : Ctx) (kind : DeclKind) : (ds : List Decl) → ∀ s, Ok (walkDecls c kind ds) s fun _ s' => DeclsRun c kind ds s s'
  | [] => by intro s; simp only [walkDecls, wps]; exact .nil
  | d :: rest => by
    intro s
    simp only [walkDecls, wps]
    -- the first two steps are `match`es on `d.value` / `d.ty`, not calls: their runs are taken apart by hand
    intro rvalue s1 h1 ty s2 h5
    have e2 : s2 = s1 ∧ DeclTy c d.ty rvalue ty := by
      split at h5
      · rename_i n hd
        exact ⟨(annot_ok _ _ h5).2, by simpa only [DeclTy, hd] using (annot_ok _ _ h5).1⟩
      · rename_i hd
        split at h5
        · split at h5 <;> cases h5
          rename_i hv
          exact ⟨rfl, by simpa only [DeclTy, hd] using hv⟩
        · cases h5
    obtain ⟨rfl, hty⟩ := e2
    intro l b1 h11
    cases hv : d.value with
    | some e =>
      simp only [hv] at h1
      obtain ⟨v, s1', h3, h4⟩ := bind_ok h1
      cases h4
      simp only [wps]
      exact fun a b2 h21 => (declsRun c kind rest _).mono fun _ s' r =>
        .init hv (rvalRun c e _ _ _ h3) hty h11 h21 r
    | none =>
      simp only [hv] at h1
      split at h1
      · cases h1
      · cases h1
        simp only [wps]
        exact (declsRun c kind rest _).mono fun _ s' r => .uninit hv ‹_› hty h11 r

/-! A clause whose walk fails is skipped by the `filter_map`s; the length check of `switch` then forces that none was. -/

theorem condsRun (c : Ctx) (left : Operand) : (cl : Clauses) → ∀ s, Ok (walkCaseConditions c left cl) s fun conds s' =>
    conds.length ≤ (cl.filter (·.1.isSome)).length ∧
      (conds.length = (cl.filter (·.1.isSome)).length → CondsRun c left cl s conds s')
  | [] => by intro s; simp only [walkCaseConditions, wps]; exact ⟨Nat.le_refl _, fun _ => .nil⟩
  | (none, body) :: rest => by
    intro s
    simp only [walkCaseConditions]
    exact (condsRun c left rest s).mono fun conds s' h => ⟨h.1, fun hlen => .default (h.2 hlen)⟩
  | (some v, body) :: rest => by
    intro s
    simp only [walkCaseConditions, wps]
    have hf : ((some v, body) :: rest : Clauses).filter (·.1.isSome) = (some v, body) :: rest.filter (·.1.isSome) := rfl
    rw [hf]
    constructor
    · exact (rvalRun c v _).mono fun right s3 r1 cnd b' h7 => (condsRun c left rest _).mono fun others s2 h =>
        ⟨Nat.succ_le_succ h.1, fun hlen => .case r1 h7 (h.2 (Nat.succ.inj hlen))⟩
    · exact fun s1 _ => (condsRun c left rest _).mono fun others s2 h =>
        ⟨Nat.le_succ_of_le h.1, fun hlen => absurd (hlen ▸ h.1) (Nat.not_succ_le_self _)⟩

theorem stmtRun_if {c : Ctx} {bl : Option Nat} {cnd : Expr} {a : Stmt} {b : Option Stmt}
    (ha : ∀ s, Ok (walkStmt c bl a) s fun _ s' => StmtRun c bl a s s')
    (hb : ∀ n, b = some n → ∀ s, Ok (walkStmt c bl n) s fun _ s' => StmtRun c bl n s s') (s : WState) :
    Ok (walkStmt c bl (.if_ cnd a b)) s fun _ s' => StmtRun c bl (.if_ cnd a b) s s' := by
  -- `and_true`, `implies_true`: after a failure inside `attempt` what follows ends in `failure`
  simp only [walkStmt, wps, and_true, implies_true]
  refine (rvalRun c cnd _).mono fun cv s1 ra => (ha _).mono fun _ s4 r4 => ?_
  cases b with
  | none =>
    simp only [wps]
    exact fun hc => .if_ (s1 := s1) (s4 := s4) ra r4 hc rfl
  | some bs =>
    simp only [wps, and_true, implies_true]
    exact (hb bs rfl _).mono fun _ s8 r8 hc => .ifElse (s1 := s1) (s4 := s4) (s8 := s8) ra r4 r8 hc rfl

theorem stmtRun_switch {c : Ctx} {bl : Option Nat} {v : Expr} {cl : Clauses}
    (hb : ∀ er s, Ok (walkBodies c (some er) cl) s fun bodies s' =>
      bodies.length ≤ cl.length ∧ (bodies.length = cl.length → BodiesRun c (some er) cl s bodies s'))
    (s : WState) : Ok (walkStmt c bl (.switch v cl)) s fun _ s' => StmtRun c bl (.switch v cl) s s' := by
  simp only [walkStmt]
  by_cases hmd : (cl.filter (·.1.isNone)).length > 1
  · rw [if_pos hmd]; exact ok_err.2 trivial
  · rw [if_neg hmd]
    simp only [wps, and_true, implies_true]
    refine (rvalRun c v _).mono fun left s1 r1 => (condsRun c left cl _).mono fun conds s2 r2 =>
      (hb _ _).mono fun bodies s6 r3 => ?_
    split
    · rename_i hlen
      -- the last two steps by their rules as they stand: once `simp` has normalised the state, matching it against the
      -- constructor's is slow
      refine ok_getB_bind.2 (ok_setB.2 ?_)
      exact .switch (s2 := s2) (s6 := s6) hmd r1 (r2.2 hlen.1.symm) (r3.2 hlen.2.symm) hlen.1 hlen.2 rfl
    · exact ok_failure.2 trivial

theorem bodiesRun_cons {c : Ctx} {bl : Option Nat} {cv : Option Expr} {body : List Stmt} {rest : Clauses}
    (hs : ∀ s, Ok (walkStmts c bl body) s fun ok s' => ok = true → StmtsRun c bl body s s')
    (hr : ∀ s, Ok (walkBodies c bl rest) s fun bodies s' =>
      bodies.length ≤ rest.length ∧ (bodies.length = rest.length → BodiesRun c bl rest s bodies s'))
    (s : WState) : Ok (walkBodies c bl ((cv, body) :: rest)) s fun bodies s' =>
      bodies.length ≤ rest.length + 1 ∧ (bodies.length = rest.length + 1 → BodiesRun c bl ((cv, body) :: rest) s bodies s') := by
  simp only [walkBodies, wps]
  intro ok s1 h1
  cases ok with
  | false =>
    simp only [Bool.false_eq_true, if_false]
    exact (hr _).mono fun bodies _ h => ⟨Nat.le_succ_of_le h.1, fun hlen => absurd (hlen ▸ h.1) (Nat.not_succ_le_self _)⟩
  | true =>
    simp only [if_true, wps]
    exact (hr _).mono fun others s' r =>
      ⟨Nat.succ_le_succ r.1, fun hlen => .body (s1 := s1) (hs _ _ _ h1 rfl) (r.2 (Nat.succ.inj hlen))⟩

mutual

theorem stmtRun (c : Ctx) (bl : Option Nat) : (st : Stmt) → ∀ s, Ok (walkStmt c bl st) s fun _ s' => StmtRun c bl st s s'
  | .expr e => by
    intro s
    simp only [walkStmt, wps]
    exact (rvalRun c e _).mono fun v s1 r1 => .expr r1
  | .lexical kind ds => by
    intro s
    simp only [walkStmt]
    exact (declsRun c kind ds s).mono fun _ s' r => .lexical r
  | .break_ labeled => by
    intro s
    simp only [walkStmt]
    cases labeled with
    | true => exact ok_err.2 trivial
    | false =>
      simp only [Bool.false_eq_true, if_false]
      cases bl with
      | none => exact ok_err.2 trivial
      | some l => simp only [wps]; exact .break_
  | .return_ e => by
    intro s
    cases e with
    | none => simp only [walkStmt, wps]; exact .returnVoid
    | some x => simp only [walkStmt, wps]; exact (rvalRun c x _).mono fun v s1 r1 => .return_ r1
  | .block ss => by
    intro s
    simp only [walkStmt, wps]
    refine (stmtsRun c bl ss _).mono fun ok s2 r => ?_
    cases ok with
    | false => exact ok_failure.2 trivial
    | true => exact ok_pure.2 (.block (r rfl))
  | .if_ cnd a b => by
    -- `n` has to come from matching on `b`: obtained from an equation, the call on it is not structural
    cases b with
    | none => exact stmtRun_if (stmtRun c bl a) (by intro n hn; cases hn)
    | some n => exact stmtRun_if (stmtRun c bl a) (by intro m hm; cases hm; exact stmtRun c bl n)
  | .switch v cl => stmtRun_switch (fun er => bodiesRun c (some er) cl)

theorem stmtsRun (c : Ctx) (bl : Option Nat) : (ss : List Stmt) → ∀ s, Ok (walkStmts c bl ss) s fun ok s' =>
    ok = true → StmtsRun c bl ss s s'
  | [] => by intro s; simp only [walkStmts, wps]; exact fun _ => .stop
  | st :: rest => by
    intro s ok s' h hok
    subst hok
    have h' := h
    simp only [walkStmts] at h'
    obtain ⟨r, s1, h1, h2⟩ := bind_ok h'
    have hx := attempt_ok h1
    cases r with
    | none =>
      obtain ⟨u, s2, h3, h4⟩ := bind_ok h2
      cases h4
    | some u => exact .step (stmtRun c bl st _ _ _ hx) (stmtsRun c bl rest _ _ _ h2 rfl) h

theorem bodiesRun (c : Ctx) (bl : Option Nat) : (cl : Clauses) → ∀ s, Ok (walkBodies c bl cl) s fun bodies s' =>
    bodies.length ≤ cl.length ∧ (bodies.length = cl.length → BodiesRun c bl cl s bodies s')
  | [] => by intro s; simp only [walkBodies, wps]; exact ⟨Nat.le_refl _, fun _ => .done⟩
  | (cv, body) :: rest => bodiesRun_cons (stmtsRun c bl body) (bodiesRun c bl rest)

end

theorem StmtRun.of_run {c : Ctx} {bl : Option Nat} {st : Stmt} {s s' : WState}
    (h : run (walkStmt c bl st) s = (some (), s')) : StmtRun c bl st s s' := stmtRun c bl st s () s' h

theorem StmtsRun.of_run {c : Ctx} {bl : Option Nat} {ss : List Stmt} {s s' : WState}
    (h : run (walkStmts c bl ss) s = (some true, s')) : StmtsRun c bl ss s s' := stmtsRun c bl ss s true s' h rfl

/-- the loop counts the parameters it declares; a run that has declared them all is a derivation -/
theorem paramsRun (c : Ctx) : (ps : List (String × Option (List String))) → ∀ n s,
    Ok (walkCallbackFunction.params c n ps) s fun m s' => m ≤ n + ps.length ∧ (m = n + ps.length → ParamsRun c ps s s')
  | [] => by intro n s; simp only [walkCallbackFunction.params, wps]; exact ⟨Nat.le_refl _, fun _ => .nil⟩
  | (name, ty) :: rest => by
    intro n s
    -- a parameter passed over is missing from the count
    have skip : ∀ s1, Ok (walkCallbackFunction.params c n rest) s1 fun m s' =>
        m ≤ n + (rest.length + 1) ∧ (m = n + (rest.length + 1) → ParamsRun c ((name, ty) :: rest) s s') :=
      fun s1 => (paramsRun c rest n s1).mono fun m _ h => ⟨Nat.le_succ_of_le h.1, fun hm => by have := h.1; omega⟩
    simp only [walkCallbackFunction.params, wps, List.length_cons]
    split
    · simp only [wps]; exact skip _
    · rename_i hnew
      cases ty with
      | none => simp only [wps]; exact skip _
      | some t =>
        simp only [wps]
        exact fun k hk l b1 h9 => (paramsRun c rest _ _).mono fun m s' r =>
          ⟨by have := r.1; omega, fun hm => .param (Bool.eq_false_iff.2 hnew) hk h9 (r.2 (by omega))⟩

theorem programRun {c : Ctx} {callback : Bool} {p : Program} {s s' : WState}
    (h : run (walkProgram c callback p) s = (some (), s')) : ProgramRun c callback p s s' := by
  cases p with
  | stmt st => exact .stmt (.of_run h)
  | function f =>
    simp only [walkProgram] at h
    cases callback with
    | false => cases h
    | true =>
      simp only [if_true, walkCallbackFunction] at h
      split at h
      · cases h
      · rename_i hnamed
        obtain ⟨u, s1, h1, h2⟩ := bind_ok h
        cases h1
        obtain ⟨n, s2, h3, h4⟩ := bind_ok h2
        split at h4
        · cases h4
        · have hn : n = f.params.length := Decidable.of_not_not ‹_›
          subst hn
          refine .function (Bool.eq_false_iff.2 hnamed) ((paramsRun c f.params _ _ _ _ h3).2 (Nat.zero_add _).symm)
            (stmtRun c none _ _ () _ ?_)
          cases hb : f.body with
          | expr e => simpa only [hb, bodyStmt, walkStmt] using h4
          | stmt st => simpa only [hb, bodyStmt] using h4

end QV.Proofs.BuilderInv
