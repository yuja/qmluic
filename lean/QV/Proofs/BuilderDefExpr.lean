/-
  C06, define-before-use: the induction over the expression walk.
  The claim `ins` is extended whenever the walk opens a block (`mark_branch_point`): a block that starts a branch
  claims what its branching block knows; a join block claims that plus the result temporary of the construct.
  The induction is run on builders (`DStep`): an expression changes neither the name map nor the variables declared without
  initialiser (`ExprRun.keeps`), so both are parameters; `EStep.of_dstep` returns to the states.
  The steps: `DS` (BuilderClaims) is a builder step under one claim, `BStep` one that extends the claim, `DStep` a `BStep` from
  every claim that fits; `EStep`, `SStep` (BuilderDefStmt) are `BStep` on the walk's states, for an expression and a statement;
  `LeB` orders the pairs of builder and claim.  Indices follow the states of `WalkRun`'s constructors (`st1`, `L12` from 1 to 2);
  those that have no name there are the states after a `mark_branch_point`.
-/
import QV.Proofs.BuilderClaims
import QV.Proofs.BuilderNames

namespace QV.Proofs.BuilderInv
open QV.Model QV.Model.Cfg

/-- the variables the user declared without initialiser so far -/
def UU (s : WState) : Nat → Prop := fun x => x ∈ s.userUninit

/-- the claim fits the state: the builder invariants hold, and every variable in the name map is assigned at the
    current point (or was declared without initialiser) -/
structure DPre (s : WState) (ins : Ins) : Prop where
  inv : Inv s.b
  d : DInv (UU s) ins s.b
  loc : ∀ e ∈ s.locals, UU s e.2.1 ∨ Cur ins s.b e.2.1

/-- a later builder with an extended claim: old blocks keep their claim and know at least as much -/
structure LeB (b : Builder) (ins : Ins) (b' : Builder) (ins' : Ins) : Prop where
  mono : len b ≤ len b'
  ext : ∀ i, i < len b → ins' i = ins i
  om : ∀ i, i < len b → ∀ x, Out ins b i x → Out ins' b' i x

theorem LeB.refl (b : Builder) (ins : Ins) : LeB b ins b ins := ⟨Nat.le_refl _, fun _ _ => rfl, fun _ _ _ h => h⟩

theorem LeB.trans {a b c : Builder} {i1 i2 i3 : Ins} (h1 : LeB a i1 b i2) (h2 : LeB b i2 c i3) : LeB a i1 c i3 :=
  ⟨Nat.le_trans h1.mono h2.mono,
   fun i hi => (h2.ext i (Nat.lt_of_lt_of_le hi h1.mono)).trans (h1.ext i hi),
   fun i hi x hx => h2.om i (Nat.lt_of_lt_of_le hi h1.mono) x (h1.om i hi x hx)⟩

theorem LeB.of_ds {U : Nat → Prop} {ins : Ins} {b b' : Builder} (h : DS U ins b b') : LeB b ins b' ins :=
  ⟨by rw [h.eq]; exact Nat.le_refl _, fun _ _ => rfl, fun i _ x hx => h.om i x hx⟩

theorem LeB.newBlock (b : Builder) (ins : Ins) (S : Nat → Prop) : LeB b ins b.newBlock.2 (upd ins (len b) S) :=
  ⟨by simp, fun i hi => upd_ne ins S (by omega), fun i hi x hx => (Out.newBlock_old S (by omega)).2 hx⟩

/-- the effect of walking an expression: the claim `ins` is extended to `ins'` -/
structure EStep (s : WState) (ins : Ins) (s' : WState) (ins' : Ins) : Prop where
  pre : DPre s' ins'
  le : LeB s.b ins s'.b ins'
  /-- what was known at the current point still is (`Cur` is monotone) -/
  m : ∀ x, Cur ins s.b x → Cur ins' s'.b x
  locs : s'.locals = s.locals
  uueq : s'.userUninit = s.userUninit

theorem EStep.refl {s : WState} {ins : Ins} (hp : DPre s ins) : EStep s ins s ins :=
  ⟨hp, LeB.refl _ _, fun _ h => h, rfl, rfl⟩

theorem EStep.trans {s1 s2 s3 : WState} {i1 i2 i3 : Ins} (h1 : EStep s1 i1 s2 i2) (h2 : EStep s2 i2 s3 i3) : EStep s1 i1 s3 i3 :=
  ⟨h2.pre, h1.le.trans h2.le, fun x hx => h2.m x (h1.m x hx), h2.locs.trans h1.locs, h2.uueq.trans h1.uueq⟩

theorem UU_eq {s s' : WState} (h : s'.userUninit = s.userUninit) : UU s' = UU s := by unfold UU; rw [h]

theorem EStep.of_ds {s : WState} {ins : Ins} {b' : Builder} (hp : DPre s ins) (hs : Same s.b b') (hd : DS (UU s) ins s.b b') :
    EStep s ins { s with b := b' } ins :=
  ⟨⟨hs.adv.inv hp.inv, hd.d, fun e he => by
      rcases hp.loc e he with h | h
      · exact Or.inl h
      · exact Or.inr (hd.cur h)⟩,
   LeB.of_ds hd, fun x hx => hd.cur hx, rfl, rfl⟩

theorem cur_newBlock {b : Builder} {ins : Ins} (S : Nat → Prop) (x : Nat) :
    Cur (upd ins (len b) S) b.newBlock.2 x ↔ (S x ∨ x < np b) := by
  unfold Cur
  have : len b.newBlock.2 - 1 = len b := by simp
  rw [this]
  exact Out.newBlock_new S

/-- a pending branch point: block `l` knows `K` at its end, and the block after it exists and claims `S` -/
structure Pend (ins : Ins) (b : Builder) (l : Nat) (K S : Nat → Prop) : Prop where
  lt : l + 1 < len b
  knows : ∀ z, K z → Out ins b l z
  claim : ∀ z, ins (l + 1) z → S z

theorem Pend.le {ins ins' : Ins} {b b' : Builder} {l : Nat} {K S : Nat → Prop} (h : Pend ins b l K S)
    (L : LeB b ins b' ins') : Pend ins' b' l K S :=
  ⟨Nat.lt_of_lt_of_le h.lt L.mono, fun z hz => L.om l (Nat.lt_of_succ_lt h.lt) z (h.knows z hz),
   L.ext _ h.lt ▸ h.claim⟩

theorem Pend.mono {ins : Ins} {b : Builder} {l : Nat} {K K' S : Nat → Prop} (h : Pend ins b l K S)
    (hk : ∀ z, K' z → K z) : Pend ins b l K' S :=
  ⟨h.lt, fun z hz => h.knows z (hk z hz), h.claim⟩

/-- `mark_branch_point` with the claim `S` for the new block (nothing jumps to it yet, so it may claim anything): the block
    that was current is pending with what it knew, the new current block knows `S` -/
theorem mark_claimB {U : Nat → Prop} {ins : Ins} {b : Builder} (hi : Inv b) (hd : DInv U ins b) (S : Nat → Prop) :
    DInv U (upd ins (len b) S) b.newBlock.2 ∧ LeB b ins b.newBlock.2 (upd ins (len b) S) ∧
      Pend (upd ins (len b) S) b.newBlock.2 b.currentRef (Cur ins b) S ∧ ∀ z, S z → Cur (upd ins (len b) S) b.newBlock.2 z := by
  have hpos := hi.pos
  have L := LeB.newBlock b ins S
  have hcr : b.currentRef = len b - 1 := rfl
  refine ⟨hd.newBlock S hi, L, ⟨by rw [hcr, len_newBlock]; omega, fun z hz => L.om _ (by omega) z hz, ?_⟩,
    fun z hz => (cur_newBlock S z).2 (Or.inl hz)⟩
  rw [hcr, Nat.sub_add_cancel hpos, upd_same]
  exact fun _ h => h

/-- a later builder with an extended claim under which the invariants hold again and nothing known is forgotten; `EStep` is
    this on states, with `DPre.loc` and the two equations -/
structure BStep (U : Nat → Prop) (b : Builder) (ins : Ins) (b' : Builder) (ins' : Ins) : Prop where
  inv : Inv b'
  d : DInv U ins' b'
  le : LeB b ins b' ins'
  m : ∀ x, Cur ins b x → Cur ins' b' x

theorem BStep.refl {U : Nat → Prop} {b : Builder} {ins : Ins} (hi : Inv b) (hd : DInv U ins b) : BStep U b ins b ins :=
  ⟨hi, hd, LeB.refl _ _, fun _ h => h⟩

theorem BStep.trans {U : Nat → Prop} {a b c : Builder} {i1 i2 i3 : Ins} (h1 : BStep U a i1 b i2) (h2 : BStep U b i2 c i3) :
    BStep U a i1 c i3 := ⟨h2.inv, h2.d, h1.le.trans h2.le, fun x hx => h2.m x (h1.m x hx)⟩

theorem BStep.of_ds {U : Nat → Prop} {b b' : Builder} {ins : Ins} (hi : Inv b) (hs : Same b b') (h : DS U ins b b') :
    BStep U b ins b' ins := ⟨hs.adv.inv hi, h.d, LeB.of_ds h, fun _ hx => h.cur hx⟩

/-- the claim of the induction: from `b`, with the variables of the name map `L` assigned at the current point (or declared
    without initialiser, `U`), the claim can be extended to `b'` so that the locals `R` may be read there -/
structure DStep (U : Nat → Prop) (L : Locals) (b b' : Builder) (R : List Nat) : Prop where
  run : ∀ ins, Inv b → DInv U ins b → (∀ e ∈ L, U e.2.1 ∨ Cur ins b e.2.1) →
    ∃ ins', BStep U b ins b' ins' ∧ ∀ x ∈ R, ¬ U x → Cur ins' b' x

theorem DStep.name {U : Nat → Prop} {L : Locals} {b : Builder} {R : List Nat} (h : ∀ x ∈ R, ∃ e ∈ L, e.2.1 = x) :
    DStep U L b b R := by
  refine ⟨fun _ hi hd hloc => ⟨_, .refl hi hd, fun x hx hu => ?_⟩⟩
  obtain ⟨e, he, rfl⟩ := h x hx
  exact (hloc e he).resolve_left hu

theorem DStep.nil {U : Nat → Prop} {L : Locals} {b : Builder} : DStep U L b b [] := .name fun _ hx => nomatch hx

/-- one after the other: what the first yields may still be read after the second -/
theorem DStep.seq {U : Nat → Prop} {L : Locals} {b b1 b2 : Builder} {R1 R2 : List Nat} (h1 : DStep U L b b1 R1)
    (h2 : DStep U L b1 b2 R2) : DStep U L b b2 (R1 ++ R2) := by
  refine ⟨fun ins hi hd hloc => ?_⟩
  obtain ⟨ins1, st1, ok1⟩ := h1.run ins hi hd hloc
  obtain ⟨ins2, st2, ok2⟩ := h2.run ins1 st1.inv st1.d (fun e he => (hloc e he).imp_right (st1.m _))
  exact ⟨ins2, st1.trans st2, fun x hx hu => (List.mem_append.1 hx).elim (fun h => st2.m x (ok1 x h hu)) (fun h => ok2 x h hu)⟩

theorem DStep.straight {U : Nat → Prop} {L : Locals} {b b1 b2 : Builder} {R : List Nat} {a : Operand} (h : DStep U L b b1 R)
    (st : Straight R b1 a b2) : DStep U L b b2 (operandReads a) := by
  refine ⟨fun ins hi hd hloc => ?_⟩
  obtain ⟨ins1, st1, ok1⟩ := h.run ins hi hd hloc
  obtain ⟨hds, ha⟩ := st.ds st1.d st1.inv.pos ok1
  exact ⟨ins1, st1.trans (.of_ds st1.inv st.same hds), ha⟩

/-- `l && r`, `l || r`: the block of the right operand claims what the left one knows; the join block claims that and the
    result -/
theorem DStep.logical {U : Nat → Prop} {L : Locals} {b b1 b3 b' : Builder} {op : LogicOp} {l r it : Operand}
    (h1 : DStep U L b b1 (operandReads l)) (h2 : DStep U L b1.newBlock.2 b3 (operandReads r))
    (hV : visitBinaryLogicalExpression b3.newBlock.2 op l b1.currentRef r b3.currentRef = (it, b')) :
    DStep U L b b' (operandReads it) := by
  refine ⟨fun ins hi hd hloc => ?_⟩
  obtain ⟨ins1, st1, ok1⟩ := h1.run ins hi hd hloc
  obtain ⟨hd2, L12, P1, hD2⟩ := mark_claimB st1.inv st1.d (Cur ins1 b1)
  obtain ⟨ins3, st3, ok3⟩ := h2.run _ ((adv_newBlock b1).inv st1.inv) hd2 (fun e he => (hloc e he).imp_right fun h => hD2 _ (st1.m _ h))
  obtain ⟨hd4, L34, P2, hD4⟩ := mark_claimB st3.inv st3.d (fun z => Cur ins1 b1 z ∨ z ∈ operandReads it)
  have Pl := (P1.le st3.le).le L34
  have hds := visitLogical_d (U := U) hV hd4 (Nat.lt_of_succ_lt Pl.lt) (Nat.lt_of_succ_lt P2.lt)
    (fun x hx hu => Pl.knows x (ok1 x hx hu)) (fun x hx hu => P2.knows x (ok3 x hx hu))
    (fun x hx => Pl.knows x (Pl.claim x hx))
    (fun x hx => (P2.claim x hx).imp_left fun h => ⟨Pl.knows x h, P2.knows x (st3.m x (hD2 x h))⟩)
  exact ⟨_, ⟨(visitBinaryLogicalExpression_ctl Pl.lt P2.lt hV).adv.inv ((adv_newBlock b3).inv st3.inv), hds.d,
    st1.le.trans ((L12.trans st3.le).trans (L34.trans (LeB.of_ds hds))),
    fun z hz => hds.cur (hD4 z (Or.inl (st1.m z hz)))⟩, fun x hx _ => hds.cur (hD4 x (Or.inr hx))⟩

/-- `c ? x : y`: both branch blocks claim what the condition block knows; the join block claims that and the result -/
theorem DStep.ternary {U : Nat → Prop} {L : Locals} {b b1 b3 b5 b' : Builder} {env : Env} {c x y res : Operand}
    (h1 : DStep U L b b1 (operandReads c)) (h2 : DStep U L b1.newBlock.2 b3 (operandReads x))
    (h3 : DStep U L b3.newBlock.2 b5 (operandReads y))
    (hV : visitTernaryExpression env b5.newBlock.2 c b1.currentRef x b3.currentRef y b5.currentRef = .ok (res, b')) :
    DStep U L b b' (operandReads res) := by
  refine ⟨fun ins hi hd hloc => ?_⟩
  obtain ⟨ins1, st1, ok1⟩ := h1.run ins hi hd hloc
  have hloc1 : ∀ e ∈ L, U e.2.1 ∨ Cur ins1 b1 e.2.1 := fun e he => (hloc e he).imp_right (st1.m _)
  obtain ⟨hd2, L12, P1, hD2⟩ := mark_claimB st1.inv st1.d (Cur ins1 b1)
  obtain ⟨ins3, st3, ok3⟩ := h2.run _ ((adv_newBlock b1).inv st1.inv) hd2 (fun e he => (hloc1 e he).imp_right (hD2 _))
  obtain ⟨hd4, L34, P2, hD4⟩ := mark_claimB st3.inv st3.d (Cur ins1 b1)
  obtain ⟨ins5, st5, ok5⟩ := h3.run _ ((adv_newBlock b3).inv st3.inv) hd4 (fun e he => (hloc1 e he).imp_right (hD4 _))
  obtain ⟨hd6, L56, P3, hD6⟩ := mark_claimB st5.inv st5.d (fun z => Cur ins1 b1 z ∨ z ∈ operandReads res)
  have L36 := (L34.trans st5.le).trans L56
  have Pc := (P1.le st3.le).le L36
  have Pa := (P2.le st5.le).le L56
  have hds := visitTernary_d (U := U) hV hd6 (Nat.lt_of_succ_lt Pa.lt) (Nat.lt_of_succ_lt P3.lt)
    (fun z hz hu => Pc.knows z (ok1 z hz hu)) (fun z hz hu => Pa.knows z (ok3 z hz hu)) (fun z hz hu => P3.knows z (ok5 z hz hu))
    (fun z hz => Pc.knows z (Pc.claim z hz))
    (fun z hz => Pc.knows z (Pa.claim z hz))
    (fun z hz => (P3.claim z hz).imp_left fun h => ⟨Pa.knows z (st3.m z (hD2 z h)), P3.knows z (st5.m z (hD4 z h))⟩)
  exact ⟨_, ⟨(visitTernaryExpression_ctl Pc.lt Pa.lt P3.lt hV).adv.inv ((adv_newBlock b5).inv st5.inv), hds.d,
    st1.le.trans ((L12.trans st3.le).trans (L36.trans (LeB.of_ds hds))),
    fun z hz => hds.cur (hD6 z (Or.inl (st1.m z hz)))⟩, fun z hz _ => hds.cur (hD6 z (Or.inr hz))⟩

/-- walking an expression extends the claim so that the invariants hold again and what the expression denotes may be used -/
theorem ExprRun.d {U : Nat → Prop} {c : Ctx} {e : Expr} {s s' : WState} {i : Inter} (h : ExprRun c e s i s') :
    DStep U s.locals s.b s'.b (interReads i) := by
  induction h using ExprRun.rec
    (motive_2 := fun _ s a s' _ => DStep U s.locals s.b s'.b (operandReads a))
    (motive_3 := fun _ s as s' _ => DStep U s.locals s.b s'.b (as.flatMap operandReads)) with
  | ident h =>
    obtain ⟨rfl, ⟨l, k, hget, rfl⟩ | hst⟩ := processIdentifier_ok h
    · refine .name fun x hx => ?_
      obtain ⟨e, he, hev⟩ := locals_get_mem hget
      exact ⟨e, he, by rw [hev]; exact (List.mem_singleton.1 hx).symm⟩
    · rw [hst.reads]; exact .nil
  | this | float | string | bool | null => exact .nil
  | integer h => exact DStep.nil.straight (visitInteger_straight h)
  | array _ h2 ih => exact ih.straight (visitArray_straight h2)
  | member h1 h2 h3 ih =>
    obtain ⟨rfl, _, hb⟩ := processItemProperty_reads h3
    obtain ⟨b', rfl, st⟩ := interToRvalue_straight h1.wf h2
    rw [hb.reads]
    exact ih.straight st
  | memberNamespace _ h2 ih => obtain ⟨rfl, hst⟩ := processNamespaceName_reads h2; rw [hst.reads]; exact ih
  | memberType _ h2 ih => obtain ⟨rfl, hst⟩ := processTypeMember_reads h2; rw [hst.reads]; exact ih
  | subscript h1 h2 _ ih1 ih3 =>
    obtain ⟨b', rfl, st⟩ := interToRvalue_straight h1.wf h2
    exact (ih1.straight st).seq (h1.keeps.1 ▸ ih3)
  | callMethod h1 _ h3 ih1 ih2 => exact (ih1.seq (h1.keeps.1 ▸ ih2)).straight (visitObjectMethodCall_straight h3)
  | callBuiltin h1 _ h3 ih1 ih2 =>
    exact (ih1.seq (h1.keeps.1 ▸ ih2)).straight ((visitBuiltinCall_straight h3).mono fun _ => List.mem_append_left _)
  | assignLocal h1 _ h3 ih1 ih2 =>
    exact (ih1.seq (h1.keeps.1 ▸ ih2)).straight ((visitLocalAssignment_straight h3).mono fun _ => List.mem_append_right _)
  | assignProperty h1 _ _ h3 ih1 ih2 => exact (ih1.seq (h1.keeps.1 ▸ ih2)).straight (visitObjectPropertyAssignment_straight h3)
  | assignSubscript h1 _ h3 ih1 ih2 => exact (ih1.seq (h1.keeps.1 ▸ ih2)).straight (visitObjectSubscriptAssignment_straight h3)
  | unary _ _ h2 ih => exact ih.straight (visitUnaryExpression_straight h2)
  | binary h1 _ _ _ h3 ih1 ih2 => exact (ih1.seq (h1.keeps.1 ▸ ih2)).straight (visitBinaryExpression_straight h3)
  | logical h1 _ _ _ _ hV ih1 ih2 => exact ih1.logical (h1.keeps.1 ▸ ih2) hV
  | as_ _ _ h2 ih => exact ih.straight (visitAsExpression_straight h2)
  | ternary h1 h2 _ _ hV ih1 ih2 ih3 => exact ih1.ternary (h1.keeps.1 ▸ ih2) ((h1.keeps.trans h2.keeps).1 ▸ ih3) hV
  | mk h1 h2 _ ih =>
    obtain ⟨b', rfl, st⟩ := interToRvalue_straight h1.wf h2
    exact ih.straight st
  | nil => exact .nil
  | cons h1 _ ih1 ih2 => exact ih1.seq (h1.keeps.1 ▸ ih2)

theorem RvalRun.d {U : Nat → Prop} {c : Ctx} {e : Expr} {s s' : WState} {a : Operand} (h : RvalRun c e s a s') :
    DStep U s.locals s.b s'.b (operandReads a) := by
  obtain ⟨i, s1, b', h1, rfl, st⟩ := h.split
  exact h1.d.straight st

theorem EStep.of_dstep {s s' : WState} {ins : Ins} {R : List Nat} (hp : DPre s ins) (k : Keeps s s')
    (h : DStep (UU s) s.locals s.b s'.b R) : ∃ ins', EStep s ins s' ins' ∧ ∀ x ∈ R, ¬ UU s' x → Cur ins' s'.b x := by
  obtain ⟨ins', st, ok⟩ := h.run ins hp.inv hp.d hp.loc
  have hu := UU_eq k.2
  refine ⟨ins', ⟨⟨st.inv, by rw [hu]; exact st.d, fun e he => ?_⟩, st.le, st.m, k.1, k.2⟩, by rw [hu]; exact ok⟩
  rw [k.1] at he
  rw [hu]
  exact (hp.loc e he).imp_right (st.m _)

/-- the value of an accepted expression may be read where the walk has arrived -/
theorem RvalRun.estep {c : Ctx} {e : Expr} {s s' : WState} {a : Operand} {ins : Ins} (h : RvalRun c e s a s') (hp : DPre s ins) :
    ∃ ins', EStep s ins s' ins' ∧ OpOk (UU s') ins' s'.b a := EStep.of_dstep hp h.keeps h.d

def RvalsD (c : Ctx) (es : List Expr) : Prop :=
  ∀ s s' as ins, DPre s ins → run (walkRvalues c es) s = (some as, s') →
    ∃ ins', EStep s ins s' ins' ∧ ∀ a ∈ as, OpOk (UU s') ins' s'.b a

theorem d_rvalues (c : Ctx) : (es : List Expr) → RvalsD c es := fun es s s' as ins hp h =>
  have hr := rvalsRun c es s as s' h
  have ⟨hk, hd⟩ := hr.induct (motive := fun _ s as s' => Keeps s s' ∧ DStep (UU s) s.locals s.b s'.b (as.flatMap operandReads))
    (fun _ => ⟨.refl _, .nil⟩)
    (fun h1 ih => ⟨h1.keeps.trans ih.1, h1.d.seq (by rw [← h1.keeps.1, ← UU_eq h1.keeps.2]; exact ih.2)⟩)
  have ⟨ins', e1, ok⟩ := EStep.of_dstep hp hk hd
  ⟨ins', e1, fun a ha x hx => ok x (List.mem_flatMap.2 ⟨a, ha, hx⟩)⟩

end QV.Proofs.BuilderInv
