/-
  The walk (Model/Walk.lean) for the simulation of C01 and for QV.Proofs.ConstWalk (C03).  A successful walk is a
  derivation of QV.Proofs.WalkRun, from which the chain reads what the walk of a form consists of; `run_unary`,
  `run_binary`, `run_expr_stmt` are equations that include the failing runs (ConstWalk needs the last).
  `Grows` is what a walk of the straight-line fragment does to the builder: statements appended to the open current
  block, fresh locals, everything else untouched.  The result of an operator with a typed operand is never an untyped
  constant (`*_not_cint`).
-/
import QV.Proofs.SemVisit
import QV.Proofs.WalkRun

namespace QV.Proofs.SemWalk
open QV.Model QV.Model.IrSem QV.Proofs.SemIr QV.Proofs.SemVisit
open QV.Spec.Sem (Val World Host Ev Ty STy coerceTo binop unop)

theorem run_bind {α β} (x : W α) (f : α → W β) (s : WState) :
    (x >>= f).run s = match x.run s with
      | (some a, s1) => (f a).run s1
      | (none, s1) => (none, s1) :=
  BuilderInv.run_bind x f s

/-- a successful walk as a derivation (`QV.Proofs.WalkRun`): what the walk of each form consists of is read off by `cases`;
    the sub-walks come back as runs through `RvalRun.run_eq`, `StmtsRun.run_eq` -/
theorem rvalRun {wc : Ctx} {e : Expr} {s s' : WState} {a : Operand} (h : (walkRvalue wc e).run s = (some a, s')) :
    BuilderInv.RvalRun wc e s a s' :=
  BuilderInv.rvalRun wc e s a s' h

theorem stmtRun {wc : Ctx} {st : Stmt} {s s' : WState} (h : (walkStmt wc none st).run s = (some (), s')) :
    BuilderInv.StmtRun wc none st s s' :=
  BuilderInv.StmtRun.of_run h

theorem stmtsRun {wc : Ctx} {ss : List Stmt} {s s' : WState} (h : (walkStmts wc none ss).run s = (some true, s')) :
    BuilderInv.StmtsRun wc none ss s s' :=
  BuilderInv.StmtsRun.of_run h

theorem run_pure {α} (a : α) (s : WState) : (pure a : W α).run s = (some a, s) := rfl

theorem run_getB (s : WState) : getB.run s = (some s.b, s) := rfl
theorem run_getLocals (s : WState) : getLocals.run s = (some s.locals, s) := rfl
theorem run_setB (b : Builder) (s : WState) : (setB b).run s = (some (), { s with b := b }) := rfl

theorem run_consume_ok (a : Operand) (b : Builder) (s : WState) :
    (consume (.ok (a, b))).run s = (some a, { s with b := b }) := rfl

/-- `b'` is `b` with the statements `ss` appended to the open current block and fresh locals appended; nothing else
    (no other block, no terminator, no panic flag, no parameter) changed -/
structure Grows (b : Builder) (ss : List Statement) (b' : Builder) : Prop where
  panic : b'.panic = b.panic
  locals : ∃ tys, b'.code.locals = b.code.locals ++ tys
  blocks : ∃ blk, b.code.blocks[b.currentRef]? = some blk ∧ blk.terminator = none ∧
    b'.code.blocks = b.code.blocks.set b.currentRef { blk with statements := blk.statements ++ ss }
  params : b'.code.parameterCount = b.code.parameterCount
  deps : b'.code.staticDeps = b.code.staticDeps
  obs : b'.code.observerCount = b.code.observerCount

theorem Grows.refl (b : Builder) (blk : BasicBlock) (ho : OpenAt b blk) : Grows b [] b := by
  obtain ⟨hb, ht⟩ := ho
  refine ⟨rfl, ⟨[], by simp⟩, ⟨blk, hb, ht, ?_⟩, rfl, rfl, rfl⟩
  obtain ⟨hi, rfl⟩ := List.getElem?_eq_some_iff.1 hb
  simp only [List.append_nil]
  exact (List.set_getElem_self hi).symm

theorem Grows.currentRef {b b' : Builder} {ss : List Statement} (h : Grows b ss b') : b'.currentRef = b.currentRef := by
  obtain ⟨blk, _, _, hbl⟩ := h.blocks
  simp [Builder.currentRef, hbl]

theorem Grows.open {b b' : Builder} {ss : List Statement} (h : Grows b ss b') :
    ∃ blk', OpenAt b' blk' := by
  obtain ⟨blk, hb, ht, hbl⟩ := h.blocks
  refine ⟨{ blk with statements := blk.statements ++ ss }, ?_, ht⟩
  rw [h.currentRef, hbl]
  exact getElem?_set_self' _ _ _ _ hb

theorem Grows.trans {b1 b2 b3 : Builder} {s1 s2 : List Statement} (h1 : Grows b1 s1 b2) (h2 : Grows b2 s2 b3) :
    Grows b1 (s1 ++ s2) b3 := by
  obtain ⟨t1, hl1⟩ := h1.locals
  obtain ⟨t2, hl2⟩ := h2.locals
  obtain ⟨blk1, hb1, ht1, hbl1⟩ := h1.blocks
  obtain ⟨blk2, hb2, ht2, hbl2⟩ := h2.blocks
  refine ⟨h2.panic.trans h1.panic, ⟨t1 ++ t2, by rw [hl2, hl1, List.append_assoc]⟩, ⟨blk1, hb1, ht1, ?_⟩,
    h2.params.trans h1.params, h2.deps.trans h1.deps, h2.obs.trans h1.obs⟩
  rw [h1.currentRef, hbl1, getElem?_set_self' _ _ _ _ hb1] at hb2
  injection hb2 with hb2
  subst hb2
  rw [hbl2, h1.currentRef, hbl1]
  simp [List.set_set, List.append_assoc]

theorem grows_emit (b : Builder) (blk : BasicBlock) (ty : TypeKind) (rv : Rvalue) (hty : ty ≠ .void) (ho : OpenAt b blk) :
    (b.emitResult ty rv).1 = .local b.code.locals.length ty ∧
    Grows b [.assign b.code.locals.length rv] (b.emitResult ty rv).2 ∧
    (b.emitResult ty rv).2.code.locals = b.code.locals ++ [ty] := by
  rw [emitResult_nonvoid b ty rv blk hty ho]
  exact ⟨rfl, ⟨rfl, ⟨[ty], rfl⟩, ⟨blk, ho.1, ho.2, rfl⟩, rfl, rfl, rfl⟩, rfl⟩

theorem run_unary (wc : Ctx) (tok : UnaryToken) (a : Expr) (s : WState) :
    (walkRvalue wc (.unary tok a)).run s =
      match (walkRvalue wc a).run s with
      | (none, s1) => (none, s1)
      | (some arg, s1) =>
        match tok.toOp with
        | none => (none, { s1 with diags := s1.diags ++ [s!"unsupported operation '{tok.symbol}'"] })
        | some u =>
          match visitUnaryExpression wc.F s1.b u arg with
          | .ok (x, b) => (some x, { s1 with b := b })
          | .error e => (none, { s1 with diags := s1.diags ++ [e.message] }) := by
  rw [walkRvalue, walkExpr]
  simp only [run_bind]
  cases h : (walkRvalue wc a).run s with
  | mk r s1 =>
    cases r with
    | none => rfl
    | some arg =>
      simp only
      cases tok.toOp with
      | none => rfl
      | some u =>
        simp only [run_bind, run_getB]
        cases hv : visitUnaryExpression wc.F s1.b u arg with
        | error e => rfl
        | ok xb => cases xb; rfl

theorem run_binary (wc : Ctx) (tok : BinaryToken) (op : BinaryOp) (l r : Expr) (s : WState)
    (htok : tok.toOp = some op) (hlog : ∀ lop, op ≠ .logical lop) :
    (walkRvalue wc (.binary tok l r)).run s =
      match (walkRvalue wc l).run s with
      | (none, s1) => (none, s1)
      | (some left, s1) =>
        match (walkRvalue wc r).run s1 with
        | (none, s2) => (none, s2)
        | (some right, s2) =>
          match visitBinaryExpression wc.F wc.env s2.b op left right with
          | .ok (x, b) => (some x, { s2 with b := b })
          | .error e => (none, { s2 with diags := s2.diags ++ [e.message] }) := by
  -- the four classes of operators other than `&&`, `||` share one arm of `walk_expr`
  rw [walkRvalue, BuilderInv.walkExpr_binary wc htok hlog]
  simp only [run_bind]
  cases h1 : (walkRvalue wc l).run s with
  | mk r1 s1 =>
    cases r1 with
    | none => rfl
    | some left =>
      simp only
      cases h2 : (walkRvalue wc r).run s1 with
      | mk r2 s2 =>
        cases r2 with
        | none => rfl
        | some right =>
          simp only [run_getB]
          cases hv : visitBinaryExpression wc.F wc.env s2.b op left right with
          | error e => rfl
          | ok xb => cases xb; rfl

theorem run_unary_some {wc : Ctx} {tok : UnaryToken} {a : Expr} {s s' : WState} {x : Operand}
    (h : (walkRvalue wc (.unary tok a)).run s = (some x, s')) :
    ∃ arg s1 u b, (walkRvalue wc a).run s = (some arg, s1) ∧ tok.toOp = some u ∧
      visitUnaryExpression wc.F s1.b u arg = .ok (x, b) ∧ s' = { s1 with b := b } := by
  cases rvalRun h with | mk h1 h2 _ =>
  cases h1 with | @unary _ _ _ arg s1 u _ b ha htok hv =>
  cases h2
  exact ⟨arg, s1, u, b, ha.run_eq, htok, hv, rfl⟩

theorem run_binary_some {wc : Ctx} {tok : BinaryToken} {op : BinaryOp} {l r : Expr} {s s' : WState} {x : Operand}
    (htok : tok.toOp = some op) (hlog : ∀ lop, op ≠ .logical lop)
    (h : (walkRvalue wc (.binary tok l r)).run s = (some x, s')) :
    ∃ left s1 right s2 b, (walkRvalue wc l).run s = (some left, s1) ∧ (walkRvalue wc r).run s1 = (some right, s2) ∧
      visitBinaryExpression wc.F wc.env s2.b op left right = .ok (x, b) ∧ s' = { s2 with b := b } := by
  cases rvalRun h with | mk h1 h2 _ =>
  cases h1 with
  | @binary _ _ _ _ left s1 right s2 _ _ b hl hr htok' _ hv =>
    cases htok.symm.trans htok'
    cases h2
    exact ⟨left, s1, right, s2, b, hl.run_eq, hr.run_eq, hv, rfl⟩
  | logical _ _ htok' => exact absurd (Option.some.inj (htok.symm.trans htok')) (hlog _)

theorem run_integer (wc : Ctx) (v : Nat) (s s' : WState) (op : Operand)
    (h : (walkRvalue wc (.integer v)).run s = (some op, s')) :
    op = .const (.integer v) ∧ s' = s ∧ (v : Int) ≤ i64Max := by
  cases rvalRun h with | mk h1 h2 _ =>
  cases h1 with | integer hv =>
  cases h2
  unfold visitInteger at hv
  split at hv
  · cases hv
    exact ⟨rfl, rfl, ‹_›⟩
  · cases hv

theorem run_bool (wc : Ctx) (v : Bool) (s : WState) :
    (walkRvalue wc (.bool v)).run s = (some (.const (.bool v)), s) := by
  rw [walkRvalue, walkExpr]
  rfl

/-- a read `o.p` of an object id that no variable in scope shadows: one `readProperty` statement through `emit_result` -/
theorem run_read (wc : Ctx) (o p cls : String) (ci : ClassInfo) (pinfo : PropInfo) (s s' : WState) (op : Operand)
    (hl : s.locals.get? o = none)
    (h1 : wc.objects.find? (·.1 = o) = some (o, cls)) (h2 : wc.env.findClass cls = some ci)
    (h3 : ci.props.find? (·.name = p) = some pinfo)
    (h : (walkRvalue wc (.member (.ident o) p)).run s = (some op, s')) :
    op = (s.b.emitResult pinfo.ty (.readProperty (.namedObject o cls) pinfo)).1 ∧
    s' = { s with b := (s.b.emitResult pinfo.ty (.readProperty (.namedObject o cls) pinfo)).2 } := by
  rw [walkRvalue, walkExpr, walkExpr] at h
  simp only [run_bind, processIdentifier, run_getLocals, hl, Ctx.getRef, h1,
    processRef, run_pure, processItemProperty, toConcreteType, Operand.typeDesc, Ctx.classOfType, h2, h3,
    TypeKind.isPointer, interToRvalue, run_getB, visitObjectProperty, ensureConcreteString] at h
  cases hr : pinfo.readable with
  | true =>
    simp only [hr, Bool.not_true, Bool.false_eq_true, ↓reduceIte] at h
    injection h with h1 h2
    injection h1 with h1
    exact ⟨h1.symm, h2.symm⟩
  | false =>
    simp only [hr, Bool.not_false, ↓reduceIte] at h
    have : ((consume (Except.error ExprError.unreadableProperty)).run s).1 = none := rfl
    rw [h] at this
    simp at this

/-- an identifier that names a variable in scope -/
theorem run_ident_local {wc : Ctx} {x : String} {s : WState} {n : Nat} {k : DeclKind} (h : s.locals.get? x = some (n, k)) :
    BuilderInv.run (processIdentifier wc x) s = (some (.local n k), s) := by
  unfold processIdentifier
  rw [BuilderInv.run_bind, BuilderInv.run_getLocals]
  simp only [h]
  rfl

/-- a read of a variable in scope: no statement, the variable's local is the operand -/
theorem run_var (wc : Ctx) (x : String) (n : Nat) (k : DeclKind) (ty : TypeKind) (s s' : WState) (op : Operand)
    (hl : s.locals.get? x = some (n, k)) (hty : s.b.code.locals[n]? = some ty)
    (h : (walkRvalue wc (.ident x)).run s = (some op, s')) : op = .local n ty ∧ s' = s := by
  rw [walkRvalue, walkExpr] at h
  simp only [run_bind, processIdentifier, run_getLocals, hl, run_pure, interToRvalue, run_getB, visitLocalRef, hty,
    run_consume_ok] at h
  injection h with h1 h2
  injection h1 with h1
  exact ⟨h1.symm, h2.symm⟩

theorem run_expr_stmt (wc : Ctx) (e : Expr) (s : WState) :
    (walkStmt wc none (.expr e)).run s =
      match (walkRvalue wc e).run s with
      | (some op, s1) => (some (), { s1 with b := visitExpressionStatement s1.b op })
      | (none, s1) => (none, s1) := by
  rw [walkStmt]
  simp only [run_bind]
  cases (walkRvalue wc e).run s with
  | mk r s1 => cases r <;> rfl

theorem mkInt_not_cint {x : Int} {v : Val} (h : QV.Spec.Sem.mkInt x = some v) : isCint v = false := by
  rw [mkInt_eq h]; rfl

/-- every row of `arithInt` goes through `mkInt` -/
theorem arithInt_not_cint {o : ArithOp} {x y : Int} {v : Val} (h : QV.Spec.Sem.arithInt o x y = some v) :
    isCint v = false := by
  cases o with
  | add | sub | mul => exact mkInt_not_cint h
  | div =>
    simp only [QV.Spec.Sem.arithInt] at h
    split at h
    · cases h
    · exact mkInt_not_cint h
  | rem =>
    simp only [QV.Spec.Sem.arithInt] at h
    split at h
    · cases h
    · split at h
      · exact mkInt_not_cint h
      · cases h

/-- every row of `arithUint` builds a `uint` (`mkUintWrap` or directly) -/
theorem arithUint_not_cint {o : ArithOp} {x y : Nat} {v : Val} (h : QV.Spec.Sem.arithUint o x y = some v) :
    isCint v = false := by
  cases o with
  | add | sub | mul => cases h; rfl
  | div | rem =>
    simp only [QV.Spec.Sem.arithUint] at h
    split at h
    · cases h
    · cases h; rfl

/-- a shift gives an `int` through `mkInt` or directly, or a `uint` -/
theorem shiftVal_not_cint {o : ShiftOp} {l : Val} {n : Int} {v : Val} (h : QV.Spec.Sem.shiftVal o l n = some v) :
    isCint v = false := by
  unfold QV.Spec.Sem.shiftVal at h
  split at h
  · cases h
  · split at h
    · exact mkInt_not_cint h
    · cases h; rfl
    · cases h; rfl
    · cases h; rfl
    · cases h

/-- `unify` hands back unchanged the operand that is not an untyped constant -/
theorem unify_not_both_cint {l r a b : Val} (h : QV.Spec.Sem.unify l r = some (a, b)) (hd : isCint l = false ∨ isCint r = false) :
    isCint a = false ∨ isCint b = false := by
  unfold QV.Spec.Sem.unify at h
  split at h
  · rcases hd with hd | hd <;> cases hd
  · obtain ⟨_, _, h⟩ := Option.map_eq_some_iff.mp h
    cases h
    exact hd.elim (fun hd => nomatch hd) Or.inr
  · obtain ⟨_, _, h⟩ := Option.map_eq_some_iff.mp h
    cases h
    exact hd.elim Or.inl (fun hd => nomatch hd)
  · cases h
    exact hd

theorem binop_dyn_not_cint (F : FloatOps) (op : BinaryOp) (l r v : Val) (h : binop F op l r = some v)
    (hd : isCint l = false ∨ isCint r = false) : isCint v = false := by
  unfold binop at h
  split at h
  · cases h
  · split at h
    · rcases hd with hd | hd <;> cases hd
    · split at h
      · exact shiftVal_not_cint h
      · cases h
  · split at h
    · cases h
    · rename_i a b hu
      have hab := unify_not_both_cint hu hd
      -- by the rows of the table in `binop`: only the first, on two untyped constants, can give an untyped constant
      split at h
      · rcases hab with hab | hab <;> cases hab
      · exact arithInt_not_cint h
      · exact arithUint_not_cint h
      all_goals first | (cases h; rfl) | cases h

end QV.Proofs.SemWalk
