/-
  C05, the constant path (tir/ceval.rs as modelled in QV.Model.Ceval): which operator/operand-type combinations it
  admits, compared with the specification's table and with the dynamic path (`emit_*_expression`).
  A failure of the folder that depends on the VALUES (overflow, division by zero, shift count) is not a type error.
  `Agrees q t r` relates an answer `r` of the folder to the table entry `t`; `cevalUnary_agrees` / `cevalBinary_agrees`
  establish it in one sweep, and the `_type` / `_okB` lemmas and `const_dyn_consistent` are read off it.
  What the theorems from `const_dyn_consistent` on say is written at their re-exports in QV.Props.C05.
-/
import QV.Proofs.TypingRules

namespace QV.Proofs.TypingConst
open QV.Model QV.Spec.Typing QV.Proofs.TypingRules

def isValueError : ExprError → Bool
  | .integerOverflow | .integerConversion => true
  | _ => false

/-- verdict of a folding step as far as types are concerned -/
def typeOkB {α} : Except ExprError α → Bool
  | .ok _ => true
  | .error e => isValueError e

/-- the dispatch of `visit_unary_expression` on a constant operand -/
def cevalUnary (F : FloatOps) (op : UnaryOp) (a : ConstantValue) : Except ExprError ConstantValue :=
  match op with
  | .plus | .minus => evalUnaryArith F op a
  | .bitNot => evalUnaryBitwise a
  | .logNot => evalUnaryLogical a

/-- the dispatch of `visit_binary_expression` on constant operands; `&&`/`||` are lowered elsewhere, their arm is a
    dummy that every statement excludes by `hlog` -/
def cevalBinary (F : FloatOps) (op : BinaryOp) (l r : ConstantValue) : Except ExprError ConstantValue :=
  match op with
  | .arith o => evalBinaryArith F o l r
  | .bitwise o => evalBinaryBitwise o l r
  | .shift o => evalShift o l r
  | .cmp o => evalComparison F o l r
  | .logical _ => .ok (.bool false)

theorem visitUnary_const (F : FloatOps) (b : Builder) (op : UnaryOp) (a : ConstantValue) :
    visitUnaryExpression F b op (.const a) =
      (match cevalUnary F op a with
       | .ok v => .ok (.const v, b)
       | .error e => .error e) := by
  cases op with
  | plus => simp only [visitUnaryExpression, cevalUnary]; cases evalUnaryArith F .plus a <;> rfl
  | minus => simp only [visitUnaryExpression, cevalUnary]; cases evalUnaryArith F .minus a <;> rfl
  | bitNot => simp only [visitUnaryExpression, cevalUnary]; cases evalUnaryBitwise a <;> rfl
  | logNot => simp only [visitUnaryExpression, cevalUnary]; cases evalUnaryLogical a <;> rfl

theorem visitBinary_const (F : FloatOps) (env : Env) (b : Builder) (op : BinaryOp) (l r : ConstantValue)
    (hlog : ∀ o, op ≠ .logical o) :
    visitBinaryExpression F env b op (.const l) (.const r) =
      (match cevalBinary F op l r with
       | .ok v => .ok (.const v, b)
       | .error e => .error e) := by
  cases op with
  | logical o => exact absurd rfl (hlog o)
  | arith o => simp only [visitBinaryExpression, cevalBinary]; cases evalBinaryArith F o l r <;> rfl
  | bitwise o => simp only [visitBinaryExpression, cevalBinary]; cases evalBinaryBitwise o l r <;> rfl
  | shift o => simp only [visitBinaryExpression, cevalBinary]; cases evalShift o l r <;> rfl
  | cmp o => simp only [visitBinaryExpression, cevalBinary]; cases evalComparison F o l r <;> rfl

theorem visitUnary_const_ok {F : FloatOps} {b b' : Builder} {op : UnaryOp} {a : ConstantValue} {res : Operand}
    (h : visitUnaryExpression F b op (.const a) = .ok (res, b')) :
    b' = b ∧ ∃ c, cevalUnary F op a = .ok c ∧ res = .const c := by
  rw [visitUnary_const] at h
  cases hc : cevalUnary F op a with
  | error e => rw [hc] at h; cases h
  | ok c => rw [hc] at h; cases h; exact ⟨rfl, c, rfl, rfl⟩

theorem visitBinary_const_ok {F : FloatOps} {env : Env} {b b' : Builder} {op : BinaryOp} {l r : ConstantValue} {res : Operand}
    (hlog : ∀ o, op ≠ .logical o) (h : visitBinaryExpression F env b op (.const l) (.const r) = .ok (res, b')) :
    b' = b ∧ ∃ c, cevalBinary F op l r = .ok c ∧ res = .const c := by
  rw [visitBinary_const F env b op l r hlog] at h
  cases hc : cevalBinary F op l r with
  | error e => rw [hc] at h; cases h
  | ok c => rw [hc] at h; cases h; exact ⟨rfl, c, rfl, rfl⟩

theorem visitBinary_dynamic (F : FloatOps) (env : Env) (b : Builder) (op : BinaryOp) (l r : Operand)
    (h : ¬ ((∃ x, l = .const x) ∧ (∃ y, r = .const y))) :
    visitBinaryExpression F env b op l r = emitBinaryExpression env b op l r := by
  unfold visitBinaryExpression
  split
  · exact absurd ⟨⟨_, rfl⟩, ⟨_, rfl⟩⟩ h
  · rfl

theorem visitUnary_dynamic (F : FloatOps) (b : Builder) (op : UnaryOp) (a : Operand) (h : ¬ ∃ x, a = .const x) :
    visitUnaryExpression F b op a = emitUnaryExpression b op a := by
  unfold visitUnaryExpression
  split
  · exact absurd ⟨_, rfl⟩ h
  · rfl

/-- a folding step against the table entry `t`: a folded constant has the entry's type; a value error (overflow,
    division by zero, shift count) occurs only where there is an entry; a type error only where there is none, or (`q`)
    an operand is a `QString` constant -/
def Agrees (q : Bool) (t : Option TypeDesc) : Except ExprError ConstantValue → Prop
  | .ok c => t = some c.typeDesc
  | .error e => if isValueError e then t.isSome = true else t = none ∨ q = true

@[simp] theorem typeOkB_ok {α} (a : α) : typeOkB (Except.ok a : Except ExprError α) = true := rfl

theorem Agrees.typeOk {q : Bool} {t : Option TypeDesc} {r : Except ExprError ConstantValue} (h : Agrees q t r) (hq : q = false) :
    typeOkB r = t.isSome := by
  cases r with
  | ok c => cases h; rfl
  | error e =>
    simp only [typeOkB, Agrees] at h ⊢
    cases hv : isValueError e <;> simp only [hv, if_true, if_false, Bool.false_eq_true] at h
    · rcases h with rfl | h
      · rfl
      · rw [hq] at h; cases h
    · exact h.symm

theorem agrees_checked (q : Bool) (v : Int) : Agrees q (some .constInteger) (checked v) := by
  unfold checked
  split <;> rfl

theorem cevalUnary_agrees (F : FloatOps) (op : UnaryOp) (a : ConstantValue) :
    Agrees false (unaryType op a.typeDesc) (cevalUnary F op a) := by
  cases op <;> cases a
  -- `-v` goes through the range check
  case minus.integer v => exact agrees_checked _ _
  all_goals first | exact .inl rfl | rfl

theorem cevalUnary_type (F : FloatOps) (op : UnaryOp) (a c : ConstantValue) (h : cevalUnary F op a = .ok c) :
    unaryType op a.typeDesc = some c.typeDesc :=
  (h ▸ cevalUnary_agrees F op a : Agrees _ _ (.ok c))

theorem cevalUnary_okB (F : FloatOps) (op : UnaryOp) (a : ConstantValue) :
    typeOkB (cevalUnary F op a) = (unaryType op a.typeDesc).isSome :=
  (cevalUnary_agrees F op a).typeOk rfl

def isQString : ConstantValue → Bool
  | .qstring _ => true
  | _ => false

def isOrdering : CmpOp → Bool
  | .lt | .le | .gt | .ge => true
  | _ => false

/-- the folder against the specification's table, a table over the kinds of constants: off the diagonal the folder
    raises a type error and the table has no entry, or (`+` and the comparisons only) one operand is a `QString`; on
    it the result is read off and the table computes.  The comparison of two `null` literals is `==`/`!=` only: the
    model mirrors ceval.rs as of /repo 9ae7b5c (finding F30) -/
theorem cevalBinary_agrees (F : FloatOps) (env : Env) (op : BinaryOp) (l r : ConstantValue) (hlog : ∀ o, op ≠ .logical o) :
    Agrees (isQString l || isQString r) (binaryType env op l.typeDesc r.typeDesc) (cevalBinary F op l r) := by
  cases op with
  | logical o => exact absurd rfl (hlog o)
  | arith o =>
    cases l <;> cases r
    case integer.integer a b =>
      cases o <;> simp only [cevalBinary, evalBinaryArith]
      · exact agrees_checked _ _
      · exact agrees_checked _ _
      · exact agrees_checked _ _
      · split
        · rfl
        · exact agrees_checked _ _
      · split
        · rfl
        · split <;> rfl
    case cstring.cstring a b => cases o <;> first | rfl | exact .inl rfl
    all_goals first | exact .inl rfl | rfl | exact .inr rfl
  | bitwise o => cases l <;> cases r <;> first | exact .inl rfl | rfl
  | shift o =>
    cases l <;> cases r
    case integer.integer a b =>
      simp only [cevalBinary, evalShift]
      split
      · rfl
      · split
        · rfl
        · cases o
          · rfl
          · simp only; split <;> rfl
    all_goals exact .inl rfl
  | cmp o =>
    cases l <;> cases r
    case nullPointer.nullPointer => cases o <;> first | rfl | exact .inl rfl
    all_goals first | exact .inl rfl | rfl | exact .inr rfl

/-- without `QString`-typed constants (which only `"lit" as QString` produces) the constant path admits exactly the
    operator/type combinations of the specification's table -/
theorem cevalBinary_okB (F : FloatOps) (env : Env) (op : BinaryOp) (l r : ConstantValue) (hlog : ∀ o, op ≠ .logical o)
    (hq : isQString l = false ∧ isQString r = false) :
    typeOkB (cevalBinary F op l r) = (binaryType env op l.typeDesc r.typeDesc).isSome :=
  (cevalBinary_agrees F env op l r hlog).typeOk (by rw [hq.1, hq.2]; rfl)

theorem cevalBinary_type (F : FloatOps) (env : Env) (op : BinaryOp) (l r c : ConstantValue) (hlog : ∀ o, op ≠ .logical o)
    (h : cevalBinary F op l r = .ok c) :
    binaryType env op l.typeDesc r.typeDesc = some c.typeDesc :=
  (h ▸ cevalBinary_agrees F env op l r hlog : Agrees _ _ (.ok c))

theorem const_dyn_consistent (F : FloatOps) (env : Env) (b : Builder) (op : BinaryOp) (l r : ConstantValue)
    (hlog : ∀ o, op ≠ .logical o) (hq : isQString l = false ∧ isQString r = false)
    (hnn : ¬ (l = .nullPointer ∧ r = .nullPointer)) :
    typeOkB (cevalBinary F op l r) = okB (emitBinaryExpression env b op (.const l) (.const r)) := by
  have hnn' : ¬ ((Operand.const l).typeDesc = .nullPointer ∧ (Operand.const r).typeDesc = .nullPointer) := by
    intro ⟨h1, h2⟩
    apply hnn
    constructor
    · cases l <;> cases h1
      rfl
    · cases r <;> cases h2
      rfl
  rw [cevalBinary_okB F env op l r hlog hq, emitBinary_okB env b op _ _ hlog hnn']
  rfl

theorem const_dyn_consistent_unary (F : FloatOps) (b : Builder) (op : UnaryOp) (a : ConstantValue) :
    typeOkB (cevalUnary F op a) = okB (emitUnaryExpression b op (.const a)) := by
  rw [cevalUnary_okB, emitUnary_okB]
  rfl

theorem qstring_add_overrejected (F : FloatOps) (env : Env) (b : Builder) (x y : List Char) :
    typeOkB (cevalBinary F (.arith .add) (.qstring x) (.qstring y)) = false ∧
    binaryType env (.arith .add) (ConstantValue.qstring x).typeDesc (ConstantValue.qstring y).typeDesc = some .string ∧
    okB (emitBinaryExpression env b (.arith .add) (.const (.qstring x)) (.const (.qstring y))) = true := by
  refine ⟨rfl, rfl, ?_⟩
  rw [emitBinary_okB _ _ _ _ _ (by intro o h; cases h) (by intro h; cases h.1)]
  rfl

theorem qstring_cstring_overrejected (F : FloatOps) (env : Env) (x y : List Char) :
    typeOkB (cevalBinary F (.cmp .eq) (.qstring x) (.cstring y)) = false ∧
    typeOkB (cevalBinary F (.arith .add) (.qstring x) (.cstring y)) = false ∧
    binaryType env (.cmp .eq) (ConstantValue.qstring x).typeDesc (ConstantValue.cstring y).typeDesc = some .bool ∧
    binaryType env (.arith .add) (ConstantValue.qstring x).typeDesc (ConstantValue.cstring y).typeDesc = some .string := by
  exact ⟨rfl, rfl, rfl, rfl⟩

theorem i64min_rem_overrejected (F : FloatOps) :
    cevalBinary F (.arith .rem) (.integer i64Min) (.integer (-1)) = .error .integerOverflow := by
  simp [cevalBinary, evalBinaryArith, i64Min]

theorem null_ordering_rejected_by_const_path (F : FloatOps) (env : Env) (c : CmpOp) (hc : isOrdering c = true) :
    typeOkB (cevalBinary F (.cmp c) .nullPointer .nullPointer) = false ∧
    binaryType env (.cmp c) .nullPointer .nullPointer = none := by
  cases c <;> first | exact ⟨rfl, rfl⟩ | exact Bool.noConfusion hc

theorem pointer_ordering_rejected_by_dynamic_path (env : Env) (b : Builder) (c : CmpOp) (hc : isOrdering c = true)
    (l r : Operand) (k : TypeKind) (hk : ptrK k = true) (hl : l.typeDesc = .concrete k ∨ l.typeDesc = .nullPointer)
    (hr : r.typeDesc = .concrete k ∨ r.typeDesc = .nullPointer) (hnn : ¬ (l.typeDesc = .nullPointer ∧ r.typeDesc = .nullPointer)) :
    okB (emitBinaryExpression env b (.cmp c) l r) = false := by
  rw [emitBinary_okB env b _ l r (by intro o h; cases h) hnn]
  have hkb : k ≠ .bool ∧ k ≠ .string ∧ numK k = false ∧ enumK k = false := by
    cases k with
    | pointer n => exact ⟨nofun, nofun, rfl, rfl⟩
    | _ => cases hk
  obtain ⟨h1, h2, h3, h4⟩ := hkb
  have hc' : (decide (c = .eq) || decide (c = .ne)) = false := by
    cases c <;> first | rfl | exact Bool.noConfusion hc
  rcases hl with hl | hl <;> rcases hr with hr | hr
  · simp [binaryType, common, hl, hr, orderedTy, eqOnlyTy, h1, h2, h3, h4, hc']
  · simp [binaryType, common, hl, hr, litFits, orderedTy, eqOnlyTy, h1, h2, h3, h4, hk, hc']
  · simp [binaryType, common, hl, hr, litFits, orderedTy, eqOnlyTy, h1, h2, h3, h4, hk, hc']
  · exact absurd ⟨hl, hr⟩ hnn

theorem null_eq_null (F : FloatOps) (env : Env) (b : Builder) :
    cevalBinary F (.cmp .eq) .nullPointer .nullPointer = .ok (.bool true) ∧
    binaryType env (.cmp .eq) .nullPointer .nullPointer = some .bool ∧
    okB (emitBinaryExpression env b (.cmp .eq) (.const .nullPointer) (.const .nullPointer)) = false := by
  exact ⟨rfl, rfl, rfl⟩

end QV.Proofs.TypingConst
