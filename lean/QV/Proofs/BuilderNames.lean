/-
  What name resolution yields in the walk (typedexpr.rs as modelled in QV.Model.Walk), for the three inductions over the walk
  (BuilderClosed, BuilderDefExpr, BuilderStatements): what a name denotes (`*_reads`, `Static`, `BoundTo`), which locals a value
  reads when used (`interReads`), the step from what an expression denotes to its value (`interToRvalue_straight`,
  `RvalRun.split`), and that expressions change neither the name map nor the variables declared without initialiser (`Keeps`).
-/
import QV.Proofs.BuilderVisit
import QV.Proofs.WalkRun

namespace QV.Proofs.BuilderInv
open QV.Model QV.Model.Cfg

/-- what a name denotes when no local variable is involved -/
def Static : Inter → Prop
  | .item a | .boundMethod a _ => ∀ n t, a ≠ .local n t
  | .boundProperty a _ _ => (∀ n t, a ≠ .local n t) ∧ NotNull a
  | .local .. | .boundSubscript .. => False
  | .builtinFunction _ | .builtinNamespace _ | .type _ => True

def BoundTo (item : Operand) (i : Inter) : Prop := (∃ p k, i = .boundProperty item p k) ∨ ∃ ms, i = .boundMethod item ms

theorem processRef_reads {r : RefKind} {n : String} : Reads (processRef r n) Static := by
  cases r
  · exact .pure trivial
  · exact .pure (fun _ _ h => nomatch h)
  · exact .pure (fun _ _ h => nomatch h)
  · exact .pure ⟨fun _ _ h => (nomatch h), fun h => (nomatch h)⟩
  · exact .pure (fun _ _ h => nomatch h)

theorem lookupGlobalName_static {n : String} {x : Inter} (h : lookupGlobalName n = some x) : Static x := by
  unfold lookupGlobalName at h
  split at h
  · cases h; trivial
  · split at h
    · cases h; trivial
    · split at h
      · cases h; trivial
      · cases h

theorem processIdentifier_ok {c : Ctx} {n : String} {s s' : WState} {i : Inter}
    (h : run (processIdentifier c n) s = (some i, s')) :
    s' = s ∧ ((∃ l k, s.locals.get? n = some (l, k) ∧ i = .local l k) ∨ Static i) := by
  unfold processIdentifier at h
  obtain ⟨ls, s1, h1, h2⟩ := bind_ok h
  cases h1
  split at h2
  · rename_i l k heq
    cases h2
    exact ⟨rfl, .inl ⟨l, k, heq, rfl⟩⟩
  · split at h2
    · exact ⟨(processRef_reads h2).1, .inr (processRef_reads h2).2⟩
    · split at h2
      · rename_i x hx
        cases h2
        exact ⟨rfl, .inr (lookupGlobalName_static hx)⟩
      · cases h2

theorem processItemProperty_reads {c : Ctx} {item : Operand} {n : String} {ik : ExprKind} :
    Reads (processItemProperty c item n ik) (fun i => (∃ ty, toConcreteType item.typeDesc = .ok ty) ∧ BoundTo item i) := by
  unfold processItemProperty
  simp only
  split
  · exact .err _
  · rename_i ty hty
    split
    · exact .err _
    · split
      · exact .err _
      · split
        · exact .pure ⟨⟨ty, hty⟩, .inl ⟨_, _, rfl⟩⟩
        · split
          · exact .pure ⟨⟨ty, hty⟩, .inr ⟨_, rfl⟩⟩
          · exact .err _

theorem processNamespaceName_reads {k : NamespaceKind} {n : String} : Reads (processNamespaceName k n) Static := by
  -- an `if` ladder over the member names; every rung answers with a builtin function
  have rung {p : Prop} [Decidable p] {x : Inter} {y : W Inter} (hx : Static x) (hy : Reads y Static) :
      Reads (if p then pure x else y) Static := .ite (fun _ => .pure hx) fun _ => hy
  cases k
  · exact rung trivial <| rung trivial <| rung trivial <| rung trivial <| rung trivial <| .err _
  · exact rung trivial <| rung trivial <| .err _

theorem processTypeMember_reads {c : Ctx} {t : NamedTy} {n : String} : Reads (processTypeMember c t n) Static := by
  unfold processTypeMember
  split
  · exact processRef_reads
  · exact .err _

/-- the locals an intermediate value reads when it is used -/
def interReads : Inter → List Nat
  | .item a | .boundProperty a _ _ | .boundMethod a _ => operandReads a
  | .local l _ => [l]
  | .boundSubscript a i _ => operandReads a ++ operandReads i
  | _ => []

def InterWf : Inter → Prop
  | .boundProperty a _ _ => NotNull a
  | _ => True

theorem notNull_of_concrete {a : Operand} {ty : TypeKind} (h : toConcreteType a.typeDesc = .ok ty) : NotNull a := by
  intro he
  subst he
  simp [Operand.typeDesc, ConstantValue.typeDesc, toConcreteType] at h

theorem Static.wf {i : Inter} (h : Static i) : InterWf i := by
  cases i with
  | boundProperty a p k => exact h.2
  | _ => trivial

/-- a property bound to a value of concrete type: the value is not the null constant -/
theorem BoundTo.wf {item : Operand} {i : Inter} (h : BoundTo item i) {ty : TypeKind}
    (hty : toConcreteType item.typeDesc = .ok ty) : InterWf i := by
  rcases h with ⟨p, k, rfl⟩ | ⟨ms, rfl⟩
  · exact notNull_of_concrete hty
  · trivial

/-- what an accepted expression denotes is well formed: only names and members yield a bound property -/
theorem ExprRun.wf {c : Ctx} {e : Expr} {s s' : WState} {i : Inter} (h : ExprRun c e s i s') : InterWf i := by
  cases h with
  | ident h =>
    rcases (processIdentifier_ok h).2 with ⟨l, k, _, rfl⟩ | hst
    · trivial
    · exact hst.wf
  | member _ _ h3 =>
    obtain ⟨_, ⟨ty, hty⟩, hb⟩ := processItemProperty_reads h3
    exact hb.wf hty
  | memberNamespace _ h2 => exact (processNamespaceName_reads h2).2.wf
  | memberType _ h2 => exact (processTypeMember_reads h2).2.wf
  | _ => trivial

/-- `interToRvalue`: a straight-line step from the value itself -/
theorem interToRvalue_straight {i : Inter} {s s' : WState} {a : Operand} (hi : InterWf i)
    (h : run (interToRvalue i) s = (some a, s')) : ∃ b', s' = { s with b := b' } ∧ Straight (interReads i) s.b a b' := by
  cases i with
  | item x => cases h; exact ⟨_, rfl, .pure rfl (fun _ hx => hx)⟩
  | «local» l k => obtain ⟨b', h1, rfl⟩ := getB_consume _ _ h; exact ⟨b', rfl, visitLocalRef_straight h1⟩
  | boundProperty it p rk => obtain ⟨b', h1, rfl⟩ := getB_consume _ _ h; exact ⟨b', rfl, visitObjectProperty_straight h1 hi⟩
  | boundSubscript it ix k => obtain ⟨b', h1, rfl⟩ := getB_consume _ _ h; exact ⟨b', rfl, visitObjectSubscript_straight h1⟩
  | boundMethod | builtinFunction | builtinNamespace | type => cases h

/-- the value of an accepted expression: the expression, then a straight-line step from what it denotes -/
theorem RvalRun.split {c : Ctx} {e : Expr} {s s' : WState} {a : Operand} (h : RvalRun c e s a s') :
    ∃ i s1 b', ExprRun c e s i s1 ∧ s' = { s1 with b := b' } ∧ Straight (interReads i) s1.b a b' := by
  cases h with
  | mk h1 h2 _ =>
    obtain ⟨b', hs, st⟩ := interToRvalue_straight h1.wf h2
    exact ⟨_, _, b', h1, hs, st⟩

def Keeps (s s' : WState) : Prop := s'.locals = s.locals ∧ s'.userUninit = s.userUninit

theorem Keeps.refl (s : WState) : Keeps s s := ⟨rfl, rfl⟩

theorem Keeps.trans {a b c : WState} (h1 : Keeps a b) (h2 : Keeps b c) : Keeps a c := ⟨h2.1.trans h1.1, h2.2.trans h1.2⟩

theorem ExprRun.keeps {c : Ctx} {e : Expr} {s s' : WState} {i : Inter} (h : ExprRun c e s i s') : Keeps s s' := by
  induction h using ExprRun.rec (motive_2 := fun _ s _ s' _ => Keeps s s') (motive_3 := fun _ s _ s' _ => Keeps s s') with
  | ident h => rw [(processIdentifier_ok h).1]; exact .refl _
  | this | float | string | bool | null | integer _ => exact .refl _
  | array _ _ ih => exact ih
  | member h1 h2 h3 ih =>
    rw [(processItemProperty_reads h3).1]
    obtain ⟨b', rfl, _⟩ := interToRvalue_straight h1.wf h2
    exact ih
  | memberNamespace _ h2 ih => rw [(processNamespaceName_reads h2).1]; exact ih
  | memberType _ h2 ih => rw [(processTypeMember_reads h2).1]; exact ih
  | subscript h1 h2 _ ih1 ih3 =>
    obtain ⟨b', rfl, _⟩ := interToRvalue_straight h1.wf h2
    exact ih1.trans ih3
  | callMethod _ _ _ ih1 ih2 | callBuiltin _ _ _ ih1 ih2 | assignLocal _ _ _ ih1 ih2 | assignProperty _ _ _ _ ih1 ih2
  | assignSubscript _ _ _ ih1 ih2 | binary _ _ _ _ _ ih1 ih2 | logical _ _ _ _ _ _ ih1 ih2 => exact ih1.trans ih2
  | unary _ _ _ ih | as_ _ _ _ ih => exact ih
  | ternary _ _ _ _ _ ih1 ih2 ih3 => exact (ih1.trans ih2).trans ih3
  | mk h1 h2 _ ih =>
    obtain ⟨b', rfl, _⟩ := interToRvalue_straight h1.wf h2
    exact ih
  | nil => exact .refl _
  | cons _ _ ih1 ih2 => exact ih1.trans ih2

theorem RvalRun.keeps {c : Ctx} {e : Expr} {s s' : WState} {a : Operand} (h : RvalRun c e s a s') : Keeps s s' := by
  obtain ⟨i, s1, b', h1, rfl, _⟩ := h.split
  exact h1.keeps

theorem RvalsRun.keeps {c : Ctx} {es : List Expr} {s s' : WState} {as : List Operand} (h : RvalsRun c es s as s') : Keeps s s' :=
  h.induct (motive := fun _ s _ s' => Keeps s s') Keeps.refl fun h1 ih => h1.keeps.trans ih

theorem Static.reads {i : Inter} (h : Static i) : interReads i = [] := by
  cases i with
  | item | boundMethod => exact reads_nonlocal h
  | boundProperty => exact reads_nonlocal h.1
  | «local» | boundSubscript => exact False.elim h
  | builtinFunction | builtinNamespace | type => rfl

theorem BoundTo.reads {item : Operand} {i : Inter} (h : BoundTo item i) : interReads i = operandReads item := by
  rcases h with ⟨p, k, rfl⟩ | ⟨ms, rfl⟩ <;> rfl

end QV.Proofs.BuilderInv
