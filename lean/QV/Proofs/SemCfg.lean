/-
  Framework for the CFG-level induction over the AST walk (QV.Props.C01).  Execution is followed from POSITIONS (block,
  statement index) of a final code.  A final code "covers" a builder state if it still has its closed blocks and only
  extends the open one and the locals: the form in which "frozen blocks are immutable, unfrozen blocks only grow, a walk
  touches only blocks ≥ its entry block" (DESIGN §2.2) is used by the simulation.
  The current block of a builder is always its LAST block (`Builder.currentRef = blocks.length - 1`): a new block is
  appended and becomes current, so "later" blocks and "higher" indices are the same thing.
-/
import QV.Proofs.SemWalk

namespace QV.Proofs.SemCfg
open QV.Model QV.Model.IrSem QV.Proofs.SemIr QV.Proofs.SemVisit QV.Proofs.SemWalk
open QV.Spec.Sem (Val World Host Ev Ty STy coerceTo binop unop)

/-- what happens after the statements of a block: its terminator; successors run with `fuel` -/
def afterBlock (c : ICtx) (code : CodeBody) (fuel : Nat) (b : BasicBlock) (st : State) : Option (Val × State) :=
  match b.terminator with
  | some (.ret a) => (evalOperand c st.L a).map fun v => (v, st)
  | some (.br j) => runFrom c code fuel j st
  | some (.brCond cnd t f) =>
    (match evalOperand c st.L cnd with
     | some (.bool true) => runFrom c code fuel t st
     | some (.bool false) => runFrom c code fuel f st
     | _ => none)
  | some .unreachable => none
  | none => none

/-- run block `i` from its statement index `k` -/
def runAt (c : ICtx) (code : CodeBody) (fuel i k : Nat) (st : State) : Option (Val × State) :=
  match code.blocks[i]? with
  | none => none
  | some b =>
    match execStatements c code.locals (b.statements.drop k) st with
    | none => none
    | some st' => afterBlock c code fuel b st'

theorem runFrom_eq_runAt (c : ICtx) (code : CodeBody) (fuel i : Nat) (st : State) :
    runFrom c code (fuel + 1) i st = runAt c code fuel i 0 st := by
  unfold runAt
  cases hb : code.blocks[i]? with
  | none => simp only [runFrom, hb]
  | some b =>
    simp only [List.drop_zero]
    cases hs : execStatements c code.locals b.statements st with
    | none => simp only [runFrom, hb, hs]
    | some st' => exact runFrom_step c code fuel i st st' b hb hs

theorem runAt_stmts (c : ICtx) (code : CodeBody) (fuel i k : Nat) (b : BasicBlock) (ss : List Statement)
    (st st1 : State) (hb : code.blocks[i]? = some b)
    (hss : ∃ rest, b.statements.drop k = ss ++ rest)
    (he : execStatements c code.locals ss st = some st1) :
    runAt c code fuel i k st = runAt c code fuel i (k + ss.length) st1 := by
  obtain ⟨rest, hr⟩ := hss
  have hdrop : b.statements.drop (k + ss.length) = rest := by
    rw [← List.drop_drop, hr, List.drop_left]
  simp only [runAt, hb, hr, hdrop, execStatements_append, he, Option.bind_some]

theorem runAt_br (c : ICtx) (code : CodeBody) (fuel i k j : Nat) (b : BasicBlock) (st : State)
    (hb : code.blocks[i]? = some b) (hk : b.statements.length ≤ k) (ht : b.terminator = some (.br j)) :
    runAt c code (fuel + 1) i k st = runAt c code fuel j 0 st := by
  simp only [runAt, hb, List.drop_eq_nil_of_le hk, execStatements, afterBlock, ht]
  exact runFrom_eq_runAt c code fuel j st

theorem runAt_brCond (c : ICtx) (code : CodeBody) (fuel i k t f : Nat) (b : BasicBlock) (cnd : Operand) (st : State)
    (x : Bool) (hb : code.blocks[i]? = some b) (hk : b.statements.length ≤ k)
    (ht : b.terminator = some (.brCond cnd t f)) (hx : evalOperand c st.L cnd = some (.bool x)) :
    runAt c code (fuel + 1) i k st = runAt c code fuel (if x then t else f) 0 st := by
  have h0 : runAt c code (fuel + 1) i k st = afterBlock c code (fuel + 1) b st := by
    simp only [runAt, hb, List.drop_eq_nil_of_le hk, execStatements]
  rw [h0]
  simp only [afterBlock, ht, hx]
  cases x
  · exact runFrom_eq_runAt c code fuel f st
  · exact runFrom_eq_runAt c code fuel t st

theorem runAt_ret (c : ICtx) (code : CodeBody) (fuel i k : Nat) (b : BasicBlock) (a : Operand) (st : State)
    (hb : code.blocks[i]? = some b) (hk : b.statements.length ≤ k) (ht : b.terminator = some (.ret a)) :
    runAt c code fuel i k st = (evalOperand c st.L a).map fun v => (v, st) := by
  simp only [runAt, hb, List.drop_eq_nil_of_le hk, execStatements, afterBlock, ht]

/-- from position `(i, k)` in state `st`, `d` units of fuel (one per block transition, none inside a block) lead to
    position `(i', k')` in state `st'`; `Sim`, `expr_run`, `BlockOk` spell this equation out and unfold to it.
    The simulation bounds `d` by the number of blocks between the two positions, because `IrSem.run` starts
    `runFrom` with `blocks.length + 1`, which is `runAt` with `blocks.length` (`runFrom_eq_runAt`). -/
def Reaches (c : ICtx) (code : CodeBody) (d i k : Nat) (st : State) (i' k' : Nat) (st' : State) : Prop :=
  ∀ fuel, runAt c code (fuel + d) i k st = runAt c code fuel i' k' st'

theorem Reaches.trans {c : ICtx} {code : CodeBody} {d1 d2 i k i1 k1 i2 k2 : Nat} {st st1 st2 : State}
    (h1 : Reaches c code d1 i k st i1 k1 st1) (h2 : Reaches c code d2 i1 k1 st1 i2 k2 st2) :
    Reaches c code (d1 + d2) i k st i2 k2 st2 := by
  intro fuel
  rw [Nat.add_left_comm fuel d1 d2, Nat.add_comm d1, h1, h2]

/-- the bounds of two fragments in sequence, from block `a` to `b` and from `b` to `c` -/
theorem fuel_seq {a b c d1 d2 : Nat} (h1 : d1 ≤ b - a) (hab : a ≤ b) (h2 : d2 ≤ c - b) (hbc : b ≤ c) :
    d1 + d2 ≤ c - a := by
  omega

/-- number of statements in the current block: the statement index of the builder's "cursor" -/
def curLen (b : Builder) : Nat :=
  match b.code.blocks[b.currentRef]? with
  | some blk => blk.statements.length
  | none => 0

/-- monotone extension: blocks below the entry block untouched, the entry block only grows, locals only grow -/
structure Ext (b b' : Builder) : Prop where
  panic : b'.panic = b.panic
  locals : ∃ tys, b'.code.locals = b.code.locals ++ tys
  params : b'.code.parameterCount = b.code.parameterCount
  len : b.code.blocks.length ≤ b'.code.blocks.length
  below : ∀ i, i < b.currentRef → b'.code.blocks[i]? = b.code.blocks[i]?
  entry : ∃ blk blk', b.code.blocks[b.currentRef]? = some blk ∧ blk.terminator = none ∧
    b'.code.blocks[b.currentRef]? = some blk' ∧ ∃ ss, blk'.statements = blk.statements ++ ss

theorem Ext.cur_le {b b' : Builder} (h : Ext b b') : b.currentRef ≤ b'.currentRef := by
  have := h.len
  simp only [Builder.currentRef]
  omega

theorem Ext.locals_le {b b' : Builder} (h : Ext b b') : b.code.locals.length ≤ b'.code.locals.length := by
  obtain ⟨tys, ht⟩ := h.locals
  rw [ht]; simp

theorem Ext.refl (b : Builder) (blk : BasicBlock) (ho : OpenAt b blk) : Ext b b :=
  ⟨rfl, ⟨[], by simp⟩, rfl, Nat.le_refl _, fun _ _ => rfl, blk, blk, ho.1, ho.2, ho.1, [], by simp⟩

/-- the final code `C` contains the blocks `lo … current-1` of `b` as they are, and extends the (open) current block
    and the locals of `b` -/
structure Covers (C : CodeBody) (b : Builder) (lo : Nat) : Prop where
  locals : b.code.locals <+: C.locals
  closed : ∀ i, lo ≤ i → i < b.currentRef → C.blocks[i]? = b.code.blocks[i]?
  exit : ∃ blkE bE, b.code.blocks[b.currentRef]? = some blkE ∧ C.blocks[b.currentRef]? = some bE ∧
    blkE.statements <+: bE.statements

theorem Covers.mono {C : CodeBody} {b : Builder} {lo lo' : Nat} (h : Covers C b lo) (hl : lo ≤ lo') : Covers C b lo' :=
  ⟨h.locals, fun i h1 h2 => h.closed i (Nat.le_trans hl h1) h2, h.exit⟩

theorem Ext.covers {b b' : Builder} (h : Ext b b') (lo : Nat) : Covers b'.code b lo := by
  obtain ⟨tys, ht⟩ := h.locals
  obtain ⟨blk, blk', hb, _, hb', ss, hss⟩ := h.entry
  exact ⟨⟨tys, ht.symm⟩, fun i _ hi => h.below i hi, blk, blk', hb, hb', ss, hss.symm⟩

theorem Covers.trans {C : CodeBody} {b1 b2 : Builder} {lo : Nat} (h : Covers C b2 lo) (hk : Covers b2.code b1 lo)
    (h1 : lo ≤ b1.currentRef) (h2 : b1.currentRef ≤ b2.currentRef) : Covers C b1 lo := by
  obtain ⟨blk, blk', hb, hb', hp⟩ := hk.exit
  refine ⟨hk.locals.trans h.locals, fun i hi1 hi2 => ?_, ?_⟩
  · rw [h.closed i hi1 (Nat.lt_of_lt_of_le hi2 h2), hk.closed i hi1 hi2]
  · rcases Nat.lt_or_eq_of_le h2 with hlt | heq
    · exact ⟨blk, blk', hb, by rw [h.closed _ h1 hlt]; exact hb', hp⟩
    · -- the exit block of `b1` is that of `b2`: what `C` has there extends both
      obtain ⟨blkE, bE, hE, hC, hp'⟩ := h.exit
      rw [← heq, hb'] at hE
      cases hE
      exact ⟨blk, bE, hb, by rw [heq]; exact hC, hp.trans hp'⟩

theorem Covers.of_ext {C : CodeBody} {b1 b2 : Builder} {lo : Nat} (he : Ext b1 b2) (h : Covers C b2 lo)
    (hlo : lo ≤ b1.currentRef) : Covers C b1 lo :=
  h.trans (he.covers lo) hlo he.cur_le

theorem Ext.trans {b b1 b2 : Builder} (h1 : Ext b b1) (h2 : Ext b1 b2) : Ext b b2 := by
  have c := (h2.covers 0).trans (h1.covers 0) (Nat.zero_le _) h1.cur_le
  obtain ⟨tys, hl⟩ := c.locals
  obtain ⟨blk, _, hb, ht, _⟩ := h1.entry
  obtain ⟨blk', bE, hb', hE, ss, hss⟩ := c.exit
  rw [hb] at hb'
  cases hb'
  exact ⟨h2.panic.trans h1.panic, ⟨tys, hl.symm⟩, h2.params.trans h1.params, Nat.le_trans h1.len h2.len,
    fun i hi => c.closed i (Nat.zero_le _) hi, blk, bE, hb, ht, hE, ss, hss.symm⟩

/-- a complete walk of an expression / statement list: additionally every block from the entry block up to the exit
    block is terminated, and the exit block — the current one — is open -/
structure Walked (b b' : Builder) : Prop extends Ext b b' where
  closed : ∀ i, b.currentRef ≤ i → i < b'.currentRef → ∃ bi, b'.code.blocks[i]? = some bi ∧ bi.terminator.isSome = true
  exitOpen : ∃ blkE, OpenAt b' blkE
  /-- an unconditional branch of a closed block does not go past the exit block (so that nothing the walk closed
      branches to a block added later: `finalize_completion_values` follows `br` edges backwards) -/
  brs : ∀ i, b.currentRef ≤ i → i < b'.currentRef → ∀ bi j, b'.code.blocks[i]? = some bi →
    bi.terminator = some (.br j) → j ≤ b'.currentRef

theorem Walked.of_grows {b b' : Builder} {ss : List Statement} (h : Grows b ss b') : Walked b b' := by
  obtain ⟨blk, hb, ht, hbl⟩ := h.blocks
  have hcur := h.currentRef
  refine ⟨⟨h.panic, h.locals, h.params, by rw [hbl]; simp, ?_, ?_⟩, ?_, h.open, ?_⟩
  · intro i hi
    rw [hbl, List.getElem?_set_ne (by omega)]
  · exact ⟨blk, _, hb, ht, by rw [hbl]; exact getElem?_set_self' _ _ _ _ hb, ss, rfl⟩
  · intro i hlo hhi
    omega
  · intro i hlo hhi
    omega

theorem curLen_of_open {b : Builder} {blk : BasicBlock} (ho : OpenAt b blk) : curLen b = blk.statements.length := by
  simp [curLen, ho.1]

/-- the blocks `lo … hi-1` of `C` are terminated, and no unconditional branch of theirs goes beyond block `lim` -/
def Sealed (C : CodeBody) (lim lo hi : Nat) : Prop :=
  ∀ i, lo ≤ i → i < hi → ∃ bi, C.blocks[i]? = some bi ∧ bi.terminator.isSome = true ∧
    ∀ j, bi.terminator = some (.br j) → j ≤ lim

theorem Sealed.append {C : CodeBody} {lim lo mid hi : Nat} (h1 : Sealed C lim lo mid) (h2 : Sealed C lim mid hi) :
    Sealed C lim lo hi :=
  fun i hlo hhi => (Nat.lt_or_ge i mid).elim (h1 i hlo) (fun hge => h2 i hge hhi)

theorem Sealed.one {C : CodeBody} {lim i : Nat} {bi : BasicBlock} {t : Terminator} (hb : C.blocks[i]? = some bi)
    (ht : bi.terminator = some t) (hbr : ∀ j, t = .br j → j ≤ lim) : Sealed C lim i (i + 1) := by
  intro k h1 h2
  have hk : k = i := Nat.le_antisymm (Nat.le_of_lt_succ h2) h1
  subst hk
  refine ⟨bi, hb, by rw [ht]; rfl, fun j hj => hbr j ?_⟩
  rw [ht] at hj
  exact Option.some.inj hj

theorem Walked.sealed {b b' : Builder} {C : CodeBody} {lim : Nat} (h : Walked b b') (hC : Covers C b' b.currentRef)
    (hl : b'.currentRef ≤ lim) : Sealed C lim b.currentRef b'.currentRef := by
  intro i hlo hhi
  obtain ⟨bi, hbi, hti⟩ := h.closed i hlo hhi
  exact ⟨bi, by rw [hC.closed i hlo hhi]; exact hbi, hti, fun j hj => Nat.le_trans (h.brs i hlo hhi bi j hbi hj) hl⟩

theorem Walked.of_sealed {b b' : Builder} (he : Ext b b') (hs : Sealed b'.code b'.currentRef b.currentRef b'.currentRef)
    (ho : ∃ blkE, OpenAt b' blkE) : Walked b b' := by
  refine ⟨he, fun i hlo hhi => ?_, ho, fun i hlo hhi bi j hbi hbr => ?_⟩
  · obtain ⟨bi, hbi, hti, _⟩ := hs i hlo hhi
    exact ⟨bi, hbi, hti⟩
  · obtain ⟨bi', hbi', _, hj⟩ := hs i hlo hhi
    rw [hbi] at hbi'
    injection hbi' with hbi'
    subst hbi'
    exact hj j hbr

/-- what the first walk sealed stays as it is under the second, which seals the rest -/
theorem Walked.trans {b b1 b2 : Builder} (h1 : Walked b b1) (h2 : Walked b1 b2) : Walked b b2 := by
  obtain ⟨blkE, ho⟩ := h2.exitOpen
  exact .of_sealed (h1.toExt.trans h2.toExt)
    ((h1.sealed (h2.covers _) h2.cur_le).append (h2.sealed ((Ext.refl b2 blkE ho).covers _) (Nat.le_refl _))) h2.exitOpen

end QV.Proofs.SemCfg
