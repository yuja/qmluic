import QV.Model.ClassGraphTyped
import QV.Spec.GraphMembers
import QV.Proofs.ClassGraphRepaired

/-
  Lemmas about member look-ups with member types (QV.Model.ClassGraph.Typed): which declaration decides.

  The search of find_map_self_and_base_classes is generic in the per-class function `f`; `f` may answer with an
  error (a declaration whose type does not resolve).  `search_unhidden`: the answer is the answer of a class that
  is reached from the queried class along a path on which no class before it answers (`Unhidden`) — the class
  itself whenever it answers — or, if no class answers, "not found" resp. the deferred super-class error.
  `unhidden_derives_cut`: such a path is a path of the specification's graph cut at the answering classes
  (`Spec.Graph.cut`), which is how `Decides` is reached; `getProperty_default`: with default property types the typed
  look-up is the repaired one.
-/
namespace QV.Proofs.ClassGraph.Typed
open QV.Model.ClassGraph QV.Model.ClassGraph.Typed QV.Proofs.ClassGraph

theorem lookupClassT_eq (cs : List ClassDeclT) (n : Name) : lookupClassT cs n = lastSuch (·.name = n) cs := by
  induction cs with
  | nil => rfl
  | cons d ds ih => rw [lookupClassT, lastSuch, ← ih]; cases lookupClassT ds n <;> rfl

theorem lookupClass_erase (cs : List ClassDeclT) (n : Name) :
    lookupClass (cs.map (·.erase)) n = (lookupClassT cs n).map (·.erase) := by
  rw [lookupClass_eq, lookupClassT_eq]
  exact lastSuch_map _ (fun _ => Iff.rfl) cs

theorem lookupClassT_name {cs : List ClassDeclT} {n : Name} {d : ClassDeclT} (h : lookupClassT cs n = some d) :
    d.name = n := by
  rw [lookupClassT_eq] at h; exact (lastSuch_some h).2

theorem lookupClassT_mem {cs : List ClassDeclT} {n : Name} {d : ClassDeclT} (h : lookupClassT cs n = some d) :
    d ∈ cs := by
  rw [lookupClassT_eq] at h; exact (lastSuch_some h).1

theorem handle_typed {t : TableT} {c : ClassDecl} (h : lookupClass t.erase.classes c.name = some c) :
    ∃ d, lookupClassT t.classes c.name = some d ∧ d.erase = c :=
  Option.map_eq_some_iff.mp ((lookupClass_erase t.classes c.name).symm.trans h)

/-- `c` is listed as a public super class by `p` (and the name resolves to `c`) -/
def IsSuperOf (t : Table) (p c : ClassDecl) : Prop :=
  ∃ n ∈ p.publicSuperClassNames, lookupClass t.classes n = some c

/-- `d` is reached from `a` along public super classes, and no class BEFORE `d` on that path answers `f` -/
inductive Unhidden {α : Type} (t : Table) (f : ClassDecl → Lookup α) : ClassDecl → ClassDecl → Prop where
  | refl (d : ClassDecl) : Unhidden t f d d
  | snoc {a b c : ClassDecl} : Unhidden t f a b → f b = .notFound → IsSuperOf t b c → Unhidden t f a c

theorem Unhidden.reach {α : Type} {t : Table} {f : ClassDecl → Lookup α} {a d : ClassDecl}
    (h : Unhidden t f a d) : Reach t a d := by
  induction h with
  | refl => exact .refl _
  | snoc _ _ hs ih =>
    obtain ⟨n, hn, hl⟩ := hs
    exact ih.snoc hn hl

/-- a class that answers is reached unhidden only by the trivial path -/
theorem Unhidden.of_self {α : Type} {t : Table} {f : ClassDecl → Lookup α} {a d : ClassDecl}
    (h : Unhidden t f a d) (hf : f a ≠ .notFound) : d = a := by
  induction h with
  | refl => rfl
  | snoc _ hb _ ih => rw [ih] at hb; exact absurd hb hf

theorem search_unhidden {α : Type} (t : Table) (self : ClassDecl) (f : ClassDecl → Lookup α) :
    (∃ d, Unhidden t f self d ∧ f d ≠ .notFound ∧ Repaired.findMapSelfAndBaseClasses t self f = f d) ∨
    ((∀ d, Reach t self d → f d = .notFound) ∧
      (Repaired.findMapSelfAndBaseClasses t self f = .notFound ∨
        ∃ e, Repaired.findMapSelfAndBaseClasses t self f = .error e ∧ .err e ∈ baseClasses t self)) :=
  (Repaired.search_first_answer (Inv := Unhidden t f self) (.refl self)
    fun _ ha hfa n hn _ hc => .snoc ha hfa ⟨n, hn, hc⟩).imp (fun ⟨d, _, h⟩ => ⟨d, h⟩) id

theorem lookupProp_eq (ps : List PropDecl) (n : Name) : lookupProp ps n = lastSuch (·.name = n) ps := by
  induction ps with
  | nil => rfl
  | cons d ds ih => rw [lookupProp, lastSuch, ← ih]; cases lookupProp ds n <;> rfl

theorem lookupProp_isSome_iff (d : ClassDeclT) (n : Name) : (lookupProp d.props n).isSome ↔ n ∈ d.erase.props := by
  show _ ↔ n ∈ d.props.map (·.name)
  rw [lookupProp_eq, List.mem_map]
  cases hp : lastSuch (·.name = n) d.props with
  | none => exact ⟨nofun, fun ⟨p, hm, hn⟩ => absurd hn (lastSuch_none hp p hm)⟩
  | some p => exact ⟨fun _ => ⟨p, lastSuch_some hp⟩, fun _ => rfl⟩

theorem propAt_eq {t : TableT} {c : ClassDecl} {d : ClassDeclT} (hd : lookupClassT t.classes c.name = some d) (p : Name) :
    propAt t c p =
      (match lookupProp d.props p with
       | none => .notFound
       | some pd =>
         match resolveTypeExpr t.erase c pd.ty with
         | .ok _ => .found c
         | .error e => .error e) := by
  rw [propAt, hd]; rfl

/-- in terms of the typed declaration (`propAt_notFound_iff`: of the erased class) -/
theorem propAt_notFound {t : TableT} {c : ClassDecl} {d : ClassDeclT} (hd : lookupClassT t.classes c.name = some d)
    (p : Name) : propAt t c p = .notFound ↔ lookupProp d.props p = none := by
  rw [propAt_eq hd]
  cases lookupProp d.props p with
  | none => simp
  | some pd => simp only [reduceCtorEq, iff_false]; split <;> simp

theorem propAt_notFound_iff {t : TableT} {c : ClassDecl} (hc : lookupClass t.erase.classes c.name = some c) (p : Name) :
    propAt t c p = .notFound ↔ p ∉ c.props := by
  obtain ⟨d, hd, he⟩ := handle_typed hc
  rw [propAt_notFound hd, ← he, ← lookupProp_isSome_iff]
  cases lookupProp d.props p <;> simp

theorem propAt_found {t : TableT} {c o : ClassDecl} {p : Name} (h : propAt t c p = .found o) : o = c := by
  unfold propAt at h
  split at h
  · cases h
  · split at h
    · cases h
    · split at h
      · cases h; rfl
      · cases h

/-- the entry with its types reset to the defaults `void` / no arguments -/
def eraseData (m : MethodData) : MethodData := { name := m.name, kind := m.kind, nargs := m.nargs }

theorem publicMethodsT_erase (d : ClassDeclT) : (publicMethodsT d).map eraseData = publicMethods d.erase := by
  have pick : ∀ (k : MethodKind) (ms : List MethodDeclT),
      (ms.filterMap fun m =>
        if m.isPublic then
          some ({ name := m.name, kind := k, nargs := m.args.length, ret := m.ret, args := m.args } : MethodData)
        else none).map eraseData =
      (ms.map (·.erase)).filterMap fun m =>
        if m.isPublic then some ({ name := m.name, kind := k, nargs := m.nargs } : MethodData) else none := by
    intro k ms
    rw [List.map_filterMap, List.filterMap_map]
    congr 1
    funext m
    show Option.map eraseData (if m.isPublic = true then _ else none) = if m.isPublic = true then _ else none
    split <;> rfl
  simp only [publicMethodsT, publicMethods, List.map_append, pick]
  rfl

theorem methodSlice_methodTableT (d : ClassDeclT) (n : Name) :
    methodSlice (methodTableT d) n = (publicMethodsT d).filter (fun m => m.name = n) := by
  unfold methodTableT
  rw [methodSlice_sorted n (sorted_sortByName _), filter_sortByName]

theorem methodSlice_erase (d : ClassDeclT) (n : Name) :
    (methodSlice (methodTableT d) n).map eraseData = methodSlice (methodTable d.erase) n := by
  rw [methodSlice_methodTableT, methodSlice_methodTable, ← publicMethodsT_erase, List.filter_map]
  rfl

theorem methodAt_eq {t : TableT} {c : ClassDecl} {d : ClassDeclT} (hd : lookupClassT t.classes c.name = some d) (m : Name) :
    methodAt t c m =
      (match methodSlice (methodTableT d) m with
       | [] => .notFound
       | ms =>
         match resolveAll t.erase c (ms.flatMap methodTypes) with
         | .ok _ => .found (c, ms)
         | .error e => .error e) := by
  rw [methodAt, hd]; rfl

theorem methodAt_notFound {t : TableT} {c : ClassDecl} {d : ClassDeclT} (hd : lookupClassT t.classes c.name = some d)
    (m : Name) : methodAt t c m = .notFound ↔ methodSlice (methodTableT d) m = [] := by
  rw [methodAt_eq hd]
  cases methodSlice (methodTableT d) m with
  | nil => simp
  | cons x xs => simp only [reduceCtorEq, iff_false]; split <;> simp

theorem methodAt_notFound_iff {t : TableT} {c : ClassDecl} (hc : lookupClass t.erase.classes c.name = some c) (m : Name) :
    methodAt t c m = .notFound ↔ methodSlice (methodTable c) m = [] := by
  obtain ⟨d, hd, he⟩ := handle_typed hc
  rw [methodAt_notFound hd, ← he, ← methodSlice_erase]
  cases methodSlice (methodTableT d) m <;> simp

theorem methodAt_found {t : TableT} {c : ClassDecl} {m : Name} {r : ClassDecl × List MethodData}
    (h : methodAt t c m = .found r) :
    r.1 = c ∧ ∃ d, lookupClassT t.classes c.name = some d ∧ r.2 = methodSlice (methodTableT d) m ∧ r.2 ≠ [] := by
  unfold methodAt at h
  split at h
  · cases h
  · next d hd =>
    split at h
    · cases h
    · next ms hne =>
      split at h
      · cases h; exact ⟨rfl, d, hd, rfl, fun h0 => hne h0⟩
      · cases h

theorem resolveHead_builtin (t : Table) (d : ClassDecl) {n : Name} (hn : n ∈ builtinNames) :
    ∃ s, resolveHead t d n = some s := by
  unfold resolveHead
  split
  · exact ⟨_, rfl⟩
  · split
    · exact ⟨_, rfl⟩
    · exact ⟨_, if_pos (.inr hn)⟩

theorem resolve_int (t : Table) (d : ClassDecl) : resolveTypeExpr t d .int = .ok () := by
  obtain ⟨s, hs⟩ := resolveHead_builtin t d (n := "int") (by decide)
  simp [TypeExpr.int, resolveTypeExpr, resolveNamed, hs, resolveTail]

theorem resolve_void (t : Table) (d : ClassDecl) : resolveTypeExpr t d .void = .ok () := by
  obtain ⟨s, hs⟩ := resolveHead_builtin t d (n := "void") (by decide)
  simp [TypeExpr.void, resolveTypeExpr, resolveNamed, hs, resolveTail]

/-- the tables that say nothing about property types (those of the untyped fragment, read as typed) -/
def DefaultPropTypes (t : TableT) : Prop := ∀ d ∈ t.classes, ∀ p ∈ d.props, p.ty = .int

theorem getProperty_default {t : TableT} (hdef : DefaultPropTypes t) {self : ClassDecl}
    (hs : lookupClass t.erase.classes self.name = some self) (p : Name) :
    Typed.getProperty t self p = Repaired.getProperty t.erase self p := by
  unfold Typed.getProperty Repaired.getProperty
  refine Repaired.search_congr hs (fun x hx => ?_)
  obtain ⟨d, hd, he⟩ := handle_typed hx
  have hiff := lookupProp_isSome_iff d p
  rw [he] at hiff
  rw [propAt_eq hd, Repaired.getPropertyNoSuper_eq]
  cases hp : lookupProp d.props p with
  | none =>
    rw [hp] at hiff
    rw [if_neg fun hm => nomatch hiff.mpr hm]
  | some pd =>
    rw [hp] at hiff
    rw [lookupProp_eq] at hp
    simp only [hdef d (lookupClassT_mem hd) pd (lastSuch_some hp).1, resolve_int, if_pos (hiff.mp rfl)]

theorem scopedTail_none (t : Table) (l : List Name) : scopedTail t none l = none := by
  cases l <;> rfl

section spec
open QV.Spec.Graph

theorem cutNode_name (P : String → Bool) (d : Node) : (cutNode P d).name = d.name := by
  unfold cutNode; split <;> rfl

theorem classOf_cut (g : Graph) (P : String → Bool) (n : String) :
    classOf (cut g P) n = (classOf g n).map (cutNode P) := by
  rw [classOf_eq, classOf_eq]
  exact lastSuch_map _ (fun d => by rw [cutNode_name]) g

theorem isClass_cut {g : Graph} {P : String → Bool} {n : String} : IsClass (cut g P) n ↔ IsClass g n := by
  unfold IsClass
  rw [classOf_cut]
  cases classOf g n <;> simp

/-- the edges of the cut graph are the edges of the graph that leave a class that is not cut -/
theorem edge_cut_iff {g : Graph} {P : String → Bool} {a b : String} :
    Edge (cut g P) a b ↔ Edge g a b ∧ P a = false := by
  constructor
  · rintro ⟨d, hd, hb, hc⟩
    rw [classOf_cut] at hd
    obtain ⟨x, hx, rfl⟩ := Option.map_eq_some_iff.mp hd
    unfold cutNode at hb
    rw [classOf_name hx] at hb
    split at hb
    · cases hb
    · next hp => exact ⟨⟨x, hx, hb, isClass_cut.mp hc⟩, by simpa using hp⟩
  · rintro ⟨⟨d, hd, hb, hc⟩, hp⟩
    refine ⟨cutNode P d, by rw [classOf_cut, hd]; rfl, ?_, isClass_cut.mpr hc⟩
    unfold cutNode
    rw [classOf_name hd, hp]
    exact hb

theorem derives_of_cut {g : Graph} {P : String → Bool} {a b : String} (h : Derives (cut g P) a b) : Derives g a b := by
  induction h with
  | refl => exact .refl _
  | step he _ ih => exact .step (edge_cut_iff.mp he).1 ih

/-- a class that satisfies `P` decides for itself only -/
theorem decides_self {g : Graph} {P : String → Bool} {c d : String} (hc : P c = true) (h : Decides g P c d) : d = c := by
  cases h.1 with
  | refl => rfl
  | step he _ => rw [(edge_cut_iff.mp he).2] at hc; cases hc

/-- a path on which no class before the last answers `f` is a path of the graph cut at the classes that answer -/
theorem unhidden_derives_cut {α : Type} {t : Table} {f : ClassDecl → Lookup α} {P : String → Bool} {a d : ClassDecl}
    (hP : ∀ x, lookupClass t.classes x.name = some x → (f x = .notFound ↔ P x.name = false))
    (ha : lookupClass t.classes a.name = some a) (h : Unhidden t f a d) :
    Derives (cut (toGraph t) P) a.name d.name := by
  induction h with
  | refl => exact .refl _
  | @snoc b c hab hfb hs ih =>
    have hb := reach_handle hab.reach ha
    obtain ⟨n, hn, hl⟩ := hs
    have hc := lookupClass_self hl
    have hname := lookupClass_name hl
    have hedge : Edge (toGraph t) b.name c.name :=
      ⟨nodeOf b, classOf_of_lookup hb, by rw [hname]; exact hn, isClass_iff.mpr ⟨c, hc⟩⟩
    exact ih.trans (.step (edge_cut_iff.mpr ⟨hedge, (hP b hb).mp hfb⟩) (.refl _))

end spec

end QV.Proofs.ClassGraph.Typed
