/- C10, and through Proofs/CxxEmit C16: the search for a free name ends by a pigeonhole over the suffixes tried (`search_some`);
   the names a pass over the nodes hands out are the ids it met plus fresh generated ones (`ensureGo_spec`, `perm_ids_gens`). -/
import QV.Model.Names
import QV.Spec.Names

namespace QV.Proofs.Names
open QV.Model.Names

theorem decimal_ne_nil (n : Nat) : decimal n ≠ [] := Nat.toDigits_ne_nil

theorem decimal_inj {n m : Nat} (h : decimal n = decimal m) : n = m :=
  Nat.ofDigitChars_ten_toDigits.symm.trans
    ((congrArg (Nat.ofDigitChars 10 · 0) h).trans Nat.ofDigitChars_ten_toDigits)

theorem concat_inj (pfx : Str) {n m : Nat} (h : concatNumberSuffix pfx n = concatNumberSuffix pfx m) : n = m := by
  unfold concatNumberSuffix at h
  by_cases hn : n = 0 <;> by_cases hm : m = 0
  · omega
  · simp only [hn, hm, if_true, if_false] at h
    have : decimal m = [] := by simpa using h.symm
    exact absurd this (decimal_ne_nil m)
  · simp only [hn, hm, if_true, if_false] at h
    have : decimal n = [] := by simpa using h
    exact absurd this (decimal_ne_nil n)
  · simp only [hn, hm, if_false] at h
    exact decimal_inj (List.append_cancel_left h)

theorem search_spec {pfx : Str} {excluded : Str → Bool} {start tries n : Nat} {id : Str}
    (h : search pfx excluded start tries = some (n, id)) :
    id = concatNumberSuffix pfx n ∧ excluded id = false ∧ start ≤ n ∧ n < start + tries := by
  induction tries generalizing start with
  | zero => simp [search] at h
  | succ t ih =>
    simp only [search] at h
    split at h
    · obtain ⟨a, b, c, d⟩ := ih h
      exact ⟨a, b, by omega, by omega⟩
    · rename_i hex
      simp at h
      obtain ⟨rfl, rfl⟩ := h
      refine ⟨rfl, by simpa using hex, by omega, by omega⟩

/-- pigeonhole: if everything excluded lies in a list shorter than the number of candidates, one is free
    (`generate_total`: the reserved and the issued names, hence `+ 1` tries) -/
theorem search_some (pfx : Str) (excluded : Str → Bool) (tries : Nat) :
    ∀ (start : Nat) (ex : List Str),
      (∀ j, start ≤ j → excluded (concatNumberSuffix pfx j) = true → concatNumberSuffix pfx j ∈ ex) →
      ex.length < tries → search pfx excluded start tries ≠ none := by
  induction tries with
  | zero => intro _ ex _ h; omega
  | succ t ih =>
    intro start ex hex hlen
    simp only [search]
    split
    · rename_i hx
      have hmem := hex start (Nat.le_refl _) hx
      apply ih (start + 1) (ex.erase (concatNumberSuffix pfx start))
      · intro j hj hxj
        have hne : concatNumberSuffix pfx j ≠ concatNumberSuffix pfx start := by
          intro he
          have := concat_inj pfx he
          omega
        exact (List.mem_erase_of_ne hne).mpr (hex j (by omega) hxj)
      · rw [List.length_erase_of_mem hmem]
        have : 0 < ex.length := List.length_pos_of_mem hmem
        omega
    · simp

/-- **The `expect` in `generate_with_reserved_map` cannot fire.** -/
theorem generate_total (g : Gen) (pfx : Str) (reserved : List Str) :
    g.generateWithReserved pfx reserved ≠ none := by
  unfold Gen.generateWithReserved
  have := search_some pfx (fun id => reserved.contains id || g.usedNames.contains id)
    (reserved.length + g.usedNames.length + 1) (getCount g.usedPrefixes pfx) (reserved ++ g.usedNames)
    (by
      intro j _ h
      simp only [Bool.or_eq_true, List.contains_iff_mem] at h
      simpa using h)
    (by simp)
  split
  · rename_i h; exact absurd h this
  · simp

theorem generate_spec {g g' : Gen} {pfx name : Str} {reserved : List Str}
    (h : g.generateWithReserved pfx reserved = some (name, g')) :
    name ∉ reserved ∧ name ∉ g.usedNames ∧ g'.usedNames = name :: g.usedNames ∧
    ∃ n, name = concatNumberSuffix pfx n := by
  unfold Gen.generateWithReserved at h
  split at h
  · simp at h
  · rename_i n id hs
    simp at h
    obtain ⟨rfl, rfl⟩ := h
    obtain ⟨hid, hex, _, _⟩ := search_spec hs
    simp only [Bool.or_eq_false_iff] at hex
    refine ⟨?_, ?_, rfl, ⟨n, hid⟩⟩
    · intro hm
      have := hex.1
      simp [hm] at this
    · intro hm
      have := hex.2
      simp [hm] at this

/-- the names at the positions of anonymous objects -/
def gens : List (Option Str × Str) → List Str → List Str
  | (none, _) :: ns, x :: xs => x :: gens ns xs
  | (some _, _) :: ns, _ :: xs => gens ns xs
  | _, _ => []

/-- the ids of the objects that have one, in order -/
def idsOf : List (Option Str × Str) → List Str
  | [] => []
  | (some x, _) :: ns => x :: idsOf ns
  | (none, _) :: ns => idsOf ns

theorem ensureGo_spec (reserved : List Str) :
    ∀ (nodes : List (Option Str × Str)) (g : Gen) (names : List Str),
      ensureGo reserved g nodes = some names →
      names.length = nodes.length ∧
      (∀ p ∈ nodes.zip names, ∀ x, p.1.1 = some x → p.2 = x) ∧
      (gens nodes names).Nodup ∧
      (∀ x ∈ gens nodes names, x ∉ reserved ∧ x ∉ g.usedNames) := by
  intro nodes
  induction nodes with
  | nil =>
    intro g names h
    cases h
    exact ⟨rfl, fun _ hp => absurd hp List.not_mem_nil, List.nodup_nil, fun _ hx => absurd hx List.not_mem_nil⟩
  | cons nd rest ih =>
    intro g names h
    obtain ⟨id, cls⟩ := nd
    cases id with
    | some y =>
      obtain ⟨xs, hxs, rfl⟩ := Option.map_eq_some_iff.mp h
      obtain ⟨h1, h2, h3, h4⟩ := ih g xs hxs
      refine ⟨congrArg (· + 1) h1, fun p hp x hx => ?_, h3, h4⟩
      rcases List.mem_cons.mp hp with rfl | hp
      · exact Option.some.inj hx
      · exact h2 p hp x hx
    | none =>
      rw [ensureGo] at h
      cases hg : g.generateWithReserved (variableNameForType cls) reserved with
      | none => rw [hg] at h; cases h
      | some r =>
        obtain ⟨name, g'⟩ := r
        rw [hg] at h
        obtain ⟨xs, hxs, rfl⟩ := Option.map_eq_some_iff.mp h
        obtain ⟨h1, h2, h3, h4⟩ := ih g' xs hxs
        obtain ⟨hr, hu, hg', _⟩ := generate_spec hg
        -- a later generated name differs from `name`, which the generator remembers
        have hlater : ∀ x ∈ gens rest xs, x ∉ reserved ∧ x ∉ name :: g.usedNames := hg' ▸ h4
        refine ⟨congrArg (· + 1) h1, fun p hp x hx => ?_,
          List.nodup_cons.mpr ⟨fun hm => (hlater name hm).2 List.mem_cons_self, h3⟩, fun x hx => ?_⟩
        · rcases List.mem_cons.mp hp with rfl | hp
          · cases hx
          · exact h2 p hp x hx
        · rcases List.mem_cons.mp hx with rfl | hx
          · exact ⟨hr, hu⟩
          · exact ⟨(hlater x hx).1, fun hm => (hlater x hx).2 (List.mem_cons_of_mem _ hm)⟩

theorem perm_ids_gens :
    ∀ (nodes : List (Option Str × Str)) (names : List Str),
      names.length = nodes.length →
      (∀ p ∈ nodes.zip names, ∀ x, p.1.1 = some x → p.2 = x) →
      names.Perm (idsOf nodes ++ gens nodes names) := by
  intro nodes
  induction nodes with
  | nil =>
    intro names hl _
    cases names with
    | nil => exact .nil
    | cons _ _ => cases hl
  | cons nd rest ih =>
    intro names hl hid
    obtain ⟨id, cls⟩ := nd
    cases names with
    | nil => cases hl
    | cons nm xs =>
      have ih := ih xs (Nat.succ.inj hl) fun p hp => hid p (List.mem_cons_of_mem _ hp)
      cases id with
      | some y =>
        have hnm : nm = y := hid ((some y, cls), nm) List.mem_cons_self y rfl
        exact hnm ▸ ih.cons nm
      | none => exact (ih.cons nm).trans List.perm_middle.symm

theorem ensureGo_total (reserved : List Str) :
    ∀ (nodes : List (Option Str × Str)) (g : Gen), ensureGo reserved g nodes ≠ none := by
  intro nodes
  induction nodes with
  | nil => exact fun _ => nofun
  | cons nd rest ih =>
    intro g
    obtain ⟨id, cls⟩ := nd
    cases id with
    | some x => exact fun h => ih g (Option.map_eq_none_iff.mp h)
    | none =>
      rw [ensureGo]
      cases hg : g.generateWithReserved (variableNameForType cls) reserved with
      | none => exact absurd hg (generate_total _ _ _)
      | some r => exact fun h => ih r.2 (Option.map_eq_none_iff.mp h)

theorem idMapStep_mem (acc : List Str × List Str) (i : Option Str) (x : Str) (h : x ∈ acc.2 ∨ i = some x) :
    x ∈ (idMapStep acc i).2 := by
  cases i with
  | none => exact h.resolve_right nofun
  | some y =>
    simp only [idMapStep]
    split
    · next hc =>
      rcases h with h | h
      · exact h
      · cases h
        exact List.contains_iff_mem.mp hc
    · rcases h with h | h
      · exact List.mem_append_left _ h
      · cases h
        exact List.mem_append_right _ (List.mem_singleton_self _)

theorem foldl_idmap_mem (ids : List (Option Str)) :
    ∀ (acc : List Str × List Str) (x : Str), (x ∈ acc.2 ∨ some x ∈ ids) →
      x ∈ (ids.foldl idMapStep acc).2 := by
  induction ids with
  | nil => exact fun acc x h => h.resolve_right List.not_mem_nil
  | cons i rest ih =>
    intro acc x h
    refine ih _ x ?_
    rcases h with h | h
    · exact Or.inl (idMapStep_mem acc i x (Or.inl h))
    · exact (List.mem_cons.mp h).imp (fun e => idMapStep_mem acc i x (Or.inr e.symm)) id

theorem ids_reserved (nodes : List (Option Str × Str)) (x : Str) (h : x ∈ idsOf nodes) :
    x ∈ (updateIdMap (nodes.map (·.1))).2 := by
  refine foldl_idmap_mem _ _ x (Or.inr ?_)
  induction nodes with
  | nil => cases h
  | cons nd rest ih =>
    obtain ⟨id, cls⟩ := nd
    cases id with
    | some y =>
      rcases List.mem_cons.mp h with rfl | h
      · exact List.mem_cons_self
      · exact List.mem_cons_of_mem _ (ih h)
    | none => exact List.mem_cons_of_mem _ (ih h)

theorem idMapStep_dups_ne_nil (a : List Str × List Str) (i : Option Str) (h : a.1 ≠ []) : (idMapStep a i).1 ≠ [] := by
  cases i with
  | none => exact h
  | some z =>
    simp only [idMapStep]
    split <;> simp [h]

theorem foldl_idMapStep_dups_ne_nil (l : List (Option Str)) : ∀ (a : List Str × List Str), a.1 ≠ [] →
    (l.foldl idMapStep a).1 ≠ [] := by
  induction l with
  | nil => exact fun _ h => h
  | cons i l ih => exact fun a h => ih _ (idMapStep_dups_ne_nil a i h)

theorem isUpper_eq (c : Char) : isAsciiUpper c = QV.Spec.Names.isUpper c := by
  simp only [isAsciiUpper, QV.Spec.Names.isUpper, Char.le_def, UInt32.le_iff_toNat_le, Char.toNat]
  -- the literals `'A'`, `'Z'` evaluate to 65, 90
  rfl

theorem isLower_eq (c : Char) : isAsciiLower c = QV.Spec.Names.isLower c := by
  simp only [isAsciiLower, QV.Spec.Names.isLower, Char.le_def, UInt32.le_iff_toNat_le, Char.toNat]
  rfl

theorem lower_eq (c : Char) : toAsciiLower c = QV.Spec.Names.lower c := by
  simp [toAsciiLower, QV.Spec.Names.lower, isUpper_eq]

theorem lowerRun_eq (s : Str) :
    lowerRun s = (s.takeWhile QV.Spec.Names.isUpper).map QV.Spec.Names.lower ++ s.dropWhile QV.Spec.Names.isUpper := by
  induction s with
  | nil => rfl
  | cons c rest ih =>
    simp only [lowerRun, List.takeWhile_cons, List.dropWhile_cons, isUpper_eq]
    by_cases h : QV.Spec.Names.isUpper c
    · simp [h, ih, lower_eq]
    · have : toAsciiLower c = c := by simp [toAsciiLower, isUpper_eq, h]
      simp [h, this]

end QV.Proofs.Names
