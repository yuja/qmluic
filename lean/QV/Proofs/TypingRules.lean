/-
  C05 (a) — the parts (a), (b), (c) are those of the header of QV.Props.C05 —: the type rules of the checker's model
  (QV.Model.Types / Builder / Ceval, mirrors of typeutil.rs, tir/builder.rs, tir/ceval.rs) are exactly the tables of the
  specification (QV.Spec.Typing).  D1 … D20 are the decisions listed at the head of QV/Spec/Typing.lean.
-/
import QV.Model.Builder
import QV.Spec.Typing

namespace QV.Proofs.TypingRules
open QV.Model QV.Spec.Typing

theorem sameEnum_eq (env : Env) (a b : String) : sameEnum env a b = env.enumCompat a b := by
  unfold sameEnum Env.enumCompat Env.findEnum
  cases env.enums.find? (·.name = a) <;> cases env.enums.find? (·.name = b) <;> simp

theorem subclass_eq (env : Env) (d b : String) : subclass env d b = env.derives d b := by
  unfold subclass Env.derives Env.findClass
  cases env.classes.find? (·.name = d) <;> simp

theorem enumCompat_comm (env : Env) (a b : String) : env.enumCompat a b = env.enumCompat b a := by
  unfold Env.enumCompat
  have : decide (a = b) = decide (b = a) := by by_cases h : a = b <;> simp [h, eq_comm]
  rw [this, Bool.or_assoc, Bool.or_assoc]
  congr 1
  exact Bool.or_comm _ _

macro "tk_simp" : tactic =>
  `(tactic| simp_all [isNumeric, isIntegral, numK, intK, enumK, ptrK, listK, TypeKind.double, TypeKind.int, TypeKind.uint,
      TypeKind.bool, TypeKind.void, TypeKind.variant, TypeKind.string, TypeDesc.bool, TypeDesc.int, TypeDesc.uint,
      TypeDesc.double, TypeDesc.string, TypeDesc.void, litFits, concreteOf, isEnumKind, TypeKind.isPointer, intTy])

def realises : Option CastKind → TypeCastKind → Prop
  | some .assign, k => k = .noop ∨ k = .implicit
  | some .numeric, k => k = .static
  | some .discard, k => k = .static
  | some .extract, k => k = .variant
  | none, k => k = .invalid

theorem isNumeric_eq (k : TypeKind) : isNumeric k = numK k := by
  unfold isNumeric numK
  rw [Bool.or_assoc, Bool.or_comm]

theorem isIntegral_eq (k : TypeKind) : isIntegral k = intK k := rfl

/-- how `pick_concrete_type_cast` carries out a cast of the specification; `assign` is a no-op on identical types -/
def castOf (same : Bool) : Option CastKind → TypeCastKind
  | some .assign => if same then .noop else .implicit
  | some .numeric | some .discard => .static
  | some .extract => .variant
  | none => .invalid

theorem realises_castOf (same : Bool) (c : Option CastKind) : realises c (castOf same c) := by
  cases c with
  | none => rfl
  | some k => cases k <;> cases same <;> simp [realises, castOf]

theorem assignable_self (env : Env) (e : TypeKind) : assignable env e (.concrete e) = true := by
  simp [assignable]

/-- the inline `match` of `pick_concrete_type_cast` has to be named: a `match` written here would be another matcher,
    which no rewrite identifies with the model's -/
theorem enumK_match (a : TypeKind) :
    pickConcreteTypeCast.match_1 (fun _ => Bool) a (fun _ => true) (fun _ => false) = enumK a := by
  cases a with
  | just n => cases n <;> rfl
  | _ => rfl

theorem ite_and_or {α} (p q r : Bool) (x y : α) :
    (if (p && (q || r)) = true then x else y) = if (p && q) = true then x else if (p && r) = true then x else y := by
  cases p <;> cases q <;> cases r <;> rfl

/-- `pick_concrete_type_cast` computes the specification's cast kind: after the identity and the two class-table
    arms (which are `assignable`), both are the same list of tests; the test for `void` comes later in the model,
    which makes no difference since `void` is not numeric -/
theorem pickConcreteTypeCast_eq (env : Env) (e a : TypeKind) :
    pickConcreteTypeCast env e a = castOf (e = a) (castKind env e (.concrete a)) := by
  unfold pickConcreteTypeCast castKind
  by_cases h : e = a
  · subst h; simp [assignable_self, castOf]
  · have h' : ¬ a = e := fun x => h x.symm
    simp only [h, if_false, decide_false]
    split
    · rename_i x y
      simp only [assignable, h', decide_false, Bool.false_or, sameEnum_eq, enumCompat_comm env y x]
      cases env.enumCompat x y <;>
        simp [castOf, numK, intK, TypeKind.void, TypeKind.variant, TypeKind.int, TypeKind.uint, TypeKind.double]
    · rename_i x y
      simp only [assignable, h', decide_false, Bool.false_or, subclass_eq]
      cases env.derives y x <;>
        simp [castOf, numK, intK, TypeKind.void, TypeKind.variant, TypeKind.int, TypeKind.uint, TypeKind.double]
    · rename_i hen hcl
      have hA : assignable env e (.concrete a) = false := by
        unfold assignable
        simp only [h', decide_false, Bool.false_or]
        split
        · exact absurd rfl (hcl _ _ rfl)
        · exact absurd rfl (hen _ _ rfl)
        · rfl
      simp only [hA, Bool.false_eq_true, if_false, isNumeric_eq, isIntegral_eq, enumK_match, ite_and_or]
      by_cases hv : e = .void
      · subst hv; simp [numK, intK, castOf, TypeKind.void, TypeKind.int, TypeKind.uint, TypeKind.double]
      · simp only [hv, if_false, apply_ite (castOf false)]
        rfl

theorem pickTypeCast_eq (env : Env) (e : TypeKind) (a : TypeDesc) :
    pickTypeCast env e a = castOf (a = .concrete e) (castKind env e a) := by
  cases a with
  | concrete k =>
    have : decide (TypeDesc.concrete k = .concrete e) = decide (e = k) := by
      by_cases h : e = k <;> simp [h, eq_comm]
    rw [this]
    exact pickConcreteTypeCast_eq env e k
  | constInteger =>
    unfold pickTypeCast castKind
    simp only [assignable, litFits, isIntegral_eq]
    by_cases hv : e = .void
    · subst hv; rfl
    · simp only [hv, if_false, apply_ite (castOf _)]
      rfl
  | constString =>
    unfold pickTypeCast castKind
    simp only [assignable, litFits, decide_eq_true_eq, apply_ite (castOf _)]
    rfl
  | nullPointer =>
    unfold pickTypeCast castKind
    cases e <;> simp only [assignable, litFits, ptrK, apply_ite (castOf _)] <;> rfl
  | emptyList =>
    unfold pickTypeCast castKind
    cases e <;> simp only [assignable, litFits, listK, apply_ite (castOf _)] <;> rfl

/-- `pick_type_cast` is the documented cast table and nothing else -/
theorem pickTypeCast_table (env : Env) (e : TypeKind) (a : TypeDesc) :
    realises (castKind env e a) (pickTypeCast env e a) := by
  rw [pickTypeCast_eq]
  exact realises_castOf _ _

theorem castKind_assign_iff (env : Env) (e : TypeKind) (a : TypeDesc) :
    castKind env e a = some .assign ↔ assignable env e a = true := by
  unfold castKind
  cases assignable env e a with
  | true => simp
  | false =>
    simp only [Bool.false_eq_true, if_false, iff_false]
    repeat' split
    all_goals (intro h; cases h)

/-- `is_assignable` is the specification's `assignable`: identity, object upcast, enum/flags alias, literal adoption -/
theorem isAssignable_eq (env : Env) (e : TypeKind) (a : TypeDesc) : isAssignable env e a = assignable env e a := by
  have h : isAssignable env e a = decide (castKind env e a = some .assign) := by
    unfold isAssignable
    rw [pickTypeCast_eq]
    cases castKind env e a with
    | none => rfl
    | some k => cases k <;> cases decide (a = .concrete e) <;> rfl
  rw [h, Bool.eq_iff_iff, decide_eq_true_eq]
  exact castKind_assign_iff env e a

theorem isConcreteAssignable_eq (env : Env) (e a : TypeKind) :
    isConcreteAssignable env e a = assignable env e (.concrete a) :=
  isAssignable_eq env e (.concrete a)

theorem pickTypeCast_invalid_iff (env : Env) (e : TypeKind) (a : TypeDesc) :
    pickTypeCast env e a = .invalid ↔ castable env e a = false := by
  rw [pickTypeCast_eq]
  unfold castable
  cases castKind env e a with
  | none => simp [castOf]
  | some k => cases k <;> cases decide (a = .concrete e) <;> simp [castOf]

/-- by cases down to the primitive, where both sides compute; the one arm with a test in it is enum against enum -/
theorem deduceType_eq (env : Env) (l r : TypeDesc) :
    deduceType env l r = (match common env l r with | some t => .ok t | none => .error (.incompatible l r)) := by
  cases l with
  | concrete a =>
    cases r with
    | concrete b =>
      unfold deduceType common
      by_cases h : a = b
      · subst h; simp
      · have h' : ¬ TypeDesc.concrete a = .concrete b := fun x => h (TypeDesc.concrete.inj x)
        simp only [h, h', if_false]
        cases a with
        | just na =>
          cases b with
          | just nb =>
            cases na with
            | enum x =>
              cases nb with
              | enum y => simp only [sameEnum_eq]; cases env.enumCompat x y <;> rfl
              | _ => rfl
            | prim p => cases p <;> rfl
            | _ => rfl
          | _ => cases na with
            | prim p => cases p <;> rfl
            | _ => rfl
        | _ => rfl
    | _ =>
      cases a with
      | just n => cases n with
        | prim p => cases p <;> rfl
        | _ => rfl
      | _ => rfl
  | _ =>
    cases r with
    | concrete b =>
      cases b with
      | just n => cases n with
        | prim p => cases p <;> rfl
        | _ => rfl
      | _ => rfl
    | _ => rfl

theorem toConcreteType_eq (t : TypeDesc) :
    toConcreteType t = (match concreteOf t with | some k => .ok k | none => .error (.undetermined t)) := by
  cases t <;> simp [toConcreteType, concreteOf]

theorem toConcreteType_of_concreteOf {t : TypeDesc} {k : TypeKind} (h : concreteOf t = some k) : toConcreteType t = .ok k := by
  rw [toConcreteType_eq, h]

theorem deduceConcreteType_ok_iff (env : Env) (l r : TypeDesc) (k : TypeKind) :
    deduceConcreteType env l r = .ok k ↔ commonConcrete env l r = some k := by
  unfold deduceConcreteType commonConcrete
  rw [deduceType_eq]
  cases common env l r with
  | none => simp
  | some t => simp [toConcreteType_eq]; cases concreteOf t <;> simp

theorem deduceConcrete_ok_iff (env : Env) (op : String) (l r : TypeDesc) (k : TypeKind) :
    deduceConcrete env op l r = .ok k ↔ commonConcrete env l r = some k := by
  rw [← deduceConcreteType_ok_iff]
  unfold deduceConcrete
  cases deduceConcreteType env l r <;> simp

theorem deduceConcrete_ok {env : Env} {sym : String} {l r : TypeDesc} {ty : TypeKind}
    (h : deduceConcrete env sym l r = .ok ty) : deduceConcreteType env l r = .ok ty :=
  (deduceConcreteType_ok_iff ..).2 ((deduceConcrete_ok_iff ..).1 h)

theorem emitResult_typeDesc (b : Builder) (ty : TypeKind) (rv : Rvalue) :
    (b.emitResult ty rv).1.typeDesc = .concrete ty := by
  unfold Builder.emitResult Builder.alloca
  by_cases h : ty = .void
  · subst h; simp [Operand.typeDesc, TypeDesc.void]
  · simp [h, Operand.typeDesc]

theorem ensureConcreteString_typeDesc (a : Operand) : (ensureConcreteString a).typeDesc = strDefault a.typeDesc := by
  unfold ensureConcreteString
  split
  · simp [Operand.typeDesc, ConstantValue.typeDesc, strDefault, TypeDesc.string]
  · rename_i h
    cases a with
    | const v =>
      cases v <;>
        simp_all [Operand.typeDesc, ConstantValue.typeDesc, strDefault, TypeDesc.bool, TypeDesc.double, TypeDesc.string]
    | _ => simp [Operand.typeDesc, strDefault, TypeDesc.void]

/-- the specification's tables treat a string literal like a QString -/
theorem unaryType_strDefault (op : UnaryOp) (t : TypeDesc) : unaryType op (strDefault t) = unaryType op t := by
  cases t with
  | constString => cases op <;> rfl
  | _ => rfl

def okB {ε α} : Except ε α → Bool
  | .ok _ => true
  | .error _ => false

@[simp] theorem okB_ok {ε α} (a : α) : okB (Except.ok a : Except ε α) = true := rfl
@[simp] theorem okB_error {ε α} (e : ε) : okB (Except.error e : Except ε α) = false := rfl

theorem numK_iff (k : TypeKind) : (k = .int ∨ k = .uint ∨ k = .double) ↔ numK k = true := by
  simp [numK, or_assoc]

theorem intK_iff (k : TypeKind) : (k = .int ∨ k = .uint) ↔ intK k = true := by
  simp [intK]

theorem intK_or_enumK_iff (k : TypeKind) : (k = .int ∨ k = .uint ∨ enumK k = true) ↔ (intK k || enumK k) = true := by
  simp [intK, or_assoc]

theorem isEnumKind_eq (k : TypeKind) : isEnumKind k = enumK k := by
  cases k with
  | just n => cases n <;> rfl
  | _ => rfl

theorem isPointer_eq (k : TypeKind) : k.isPointer = ptrK k := by
  cases k <;> rfl

theorem toConcrete_eq (op : String) (t : TypeDesc) :
    toConcrete op t = (match concreteOf t with | some k => .ok k | none => .error (.opUndetermined op t)) := by
  cases t <;> rfl

theorem toConcrete_ok {sym : String} {l : TypeDesc} {ty : TypeKind} (h : toConcrete sym l = .ok ty) :
    toConcreteType l = .ok ty := by
  rw [toConcrete_eq] at h
  rw [toConcreteType_eq]
  generalize concreteOf l = o at h ⊢
  cases o <;> cases h
  rfl

theorem intTy_iff (t : TypeDesc) : (t = .constInteger ∨ t = .int ∨ t = .uint) ↔ intTy t = true := by
  cases t <;> simp [intTy, intK, TypeDesc.int, TypeDesc.uint]

theorem typeDesc_of_emitResult {b : Builder} {ty : TypeKind} {rv : Rvalue} {res : Operand} {b' : Builder}
    (h : b.emitResult ty rv = (res, b')) : res.typeDesc = .concrete ty :=
  (congrArg (·.1.typeDesc) h).symm.trans (emitResult_typeDesc b ty rv)

/-- the dynamic path of a unary operation: it emits at the type the specification's table gives (a literal type
    defaulted, D1), or fails where the table has no entry -/
theorem emitUnary_cases (b : Builder) (op : UnaryOp) (a : Operand) :
    (∃ k, unaryType op (ensureConcreteString a).typeDesc = some (ensureConcreteString a).typeDesc ∧
        concreteOf (ensureConcreteString a).typeDesc = some k ∧
        emitUnaryExpression b op a = .ok (b.emitResult k (.unary op (ensureConcreteString a)))) ∨
    (unaryType op (ensureConcreteString a).typeDesc = none ∧ ∃ e, emitUnaryExpression b op a = .error e) := by
  unfold emitUnaryExpression
  generalize ensureConcreteString a = x
  cases op
  case logNot =>
    simp only [unaryType]
    by_cases h : x.typeDesc = .bool
    · exact Or.inl ⟨.bool, by simp only [h, if_true], by rw [h]; rfl, by simp only [h, if_true]⟩
    · exact Or.inr ⟨if_neg h, _, by rw [if_neg h]⟩
  all_goals
    simp only [unaryType, toConcrete_eq, numK_iff, intK_or_enumK_iff, isEnumKind_eq]
    generalize x.typeDesc = t
    cases t with
    | constInteger => exact Or.inl ⟨.int, rfl, rfl, rfl⟩
    | concrete k =>
      simp only [concreteOf]
      split
      · exact Or.inl ⟨k, rfl, rfl, rfl⟩
      · exact Or.inr ⟨rfl, _, rfl⟩
    | _ => exact Or.inr ⟨rfl, _, rfl⟩

theorem emitUnary_okB (b : Builder) (op : UnaryOp) (a : Operand) :
    okB (emitUnaryExpression b op a) = (unaryType op a.typeDesc).isSome := by
  rw [← unaryType_strDefault, ← ensureConcreteString_typeDesc]
  rcases emitUnary_cases b op a with ⟨k, ht, _, h⟩ | ⟨ht, e, h⟩ <;> rw [h, ht] <;> rfl

theorem emitUnary_type (b : Builder) (op : UnaryOp) (a : Operand) (res : Operand) (b' : Builder)
    (h : emitUnaryExpression b op a = .ok (res, b')) :
    ∃ t k, unaryType op a.typeDesc = some t ∧ concreteOf t = some k ∧ res.typeDesc = .concrete k := by
  rw [← unaryType_strDefault, ← ensureConcreteString_typeDesc]
  rcases emitUnary_cases b op a with ⟨k, ht, hk, h'⟩ | ⟨_, e, h'⟩
  · rw [h'] at h
    exact ⟨_, k, ht, hk, typeDesc_of_emitResult (Except.ok.inj h)⟩
  · rw [h'] at h; cases h

theorem common_strDefault_concrete (env : Env) (l r : TypeDesc) :
    commonConcrete env (strDefault l) (strDefault r) = commonConcrete env l r := by
  cases l with
  | concrete a =>
    cases r with
    | constString =>
      by_cases h : a = .string
      · subst h; rfl
      · simp only [strDefault, commonConcrete, common, TypeDesc.string, h, if_false, litFits, decide_false]
        cases a with
        | just n => cases n <;> rfl
        | _ => rfl
    | _ => rfl
  | constString =>
    cases r with
    | concrete b =>
      by_cases h : b = .string
      · subst h; rfl
      · have h' : ¬ TypeKind.string = b := fun x => h x.symm
        simp only [strDefault, commonConcrete, common, TypeDesc.string, h, h', if_false, litFits, decide_false]
        cases b with
        | just n => cases n <;> rfl
        | _ => rfl
    | _ => rfl
  | _ => cases r <;> rfl

/-- the table on two concrete types: the same type, or an enum and its flags type; it answers with the left one -/
theorem common_cc {env : Env} {a b : TypeKind} {t : TypeDesc} (h : common env (.concrete a) (.concrete b) = some t) :
    t = .concrete a ∧ (a = b ∨ ∃ x y, a = .just (.enum x) ∧ b = .just (.enum y)) := by
  unfold common at h
  simp only at h
  split at h
  · next heq => exact ⟨by simpa using h.symm, .inl heq⟩
  · split at h
    · split at h <;> simp at h
      exact ⟨h.symm, .inr ⟨_, _, rfl, rfl⟩⟩
    · simp at h

theorem common_null_iff (env : Env) (l r : TypeDesc) :
    common env l r = some .nullPointer ↔ l = .nullPointer ∧ r = .nullPointer := by
  unfold common
  cases l <;> cases r <;> simp
  split <;> (try split) <;> simp

theorem strDefault_null (t : TypeDesc) : strDefault t = .nullPointer ↔ t = .nullPointer := by
  cases t <;> simp [strDefault, TypeDesc.string]

theorem intTy_strDefault (t : TypeDesc) : intTy (strDefault t) = intTy t := by
  cases t <;> rfl

macro "td_cases" t:ident : tactic =>
  `(tactic| (cases $t:ident with
      | concrete k => cases k with
        | just n => cases n with
          | prim p => cases p <;> tk_simp
          | _ => tk_simp
        | _ => tk_simp
      | _ => tk_simp))

theorem deduce_cases (env : Env) (sym : String) (l r : TypeDesc) :
    (∃ k, commonConcrete env l r = some k ∧ deduceConcrete env sym (strDefault l) (strDefault r) = .ok k) ∨
    (commonConcrete env l r = none ∧ ∃ e, deduceConcrete env sym (strDefault l) (strDefault r) = .error e) := by
  rw [← common_strDefault_concrete]
  cases hd : deduceConcrete env sym (strDefault l) (strDefault r) with
  | ok k => exact Or.inl ⟨k, (deduceConcrete_ok_iff env sym _ _ k).1 hd, rfl⟩
  | error e =>
    refine Or.inr ⟨?_, e, rfl⟩
    cases hc : commonConcrete env (strDefault l) (strDefault r) with
    | none => rfl
    | some k => rw [(deduceConcrete_ok_iff env sym _ _ k).2 hc] at hd; cases hd

/-- D5 over concrete types: the operators whose operands must have ONE common type, and the types they take -/
def domain : BinaryOp → TypeKind → Bool
  | .arith a, k => numK k || (k = .string && a = .add)
  | .bitwise _, k => k = .bool || intK k || enumK k
  | .cmp c, k => k = .bool || numK k || k = .string || enumK k || (ptrK k && (c = .eq || c = .ne))
  | _, _ => false

def resultTy : BinaryOp → Ty → Ty
  | .cmp _, _ => .bool
  | _, t => t

def resultK : BinaryOp → TypeKind → TypeKind
  | .cmp _, _ => .bool
  | _, k => k

def commonOp : BinaryOp → Bool
  | .arith _ | .bitwise _ | .cmp _ => true
  | _ => false

theorem concreteOf_resultTy {op : BinaryOp} {t : Ty} {k : TypeKind} (h : concreteOf t = some k) :
    concreteOf (resultTy op t) = some (resultK op k) := by
  cases op with
  | cmp _ => rfl
  | _ => exact h

theorem ite_ite_or {α} (p q : Bool) (x y : α) :
    (if p = true then x else if q = true then x else y) = if (p || q) = true then x else y := by
  cases p <;> cases q <;> rfl

/-- the table, for the operators with a common operand type: a literal type is in the domain iff its default is (D1).
    `null` (the common type of two `null`s only) has no default and is compared by `==`/`!=`: the one place where the
    table and the dynamic path ("undetermined type") differ — it never reaches the dynamic path, two `null` literals
    are constants -/
theorem binaryType_domain (env : Env) (op : BinaryOp) (l r : Ty) (hop : commonOp op = true)
    (hnn : ¬ (l = .nullPointer ∧ r = .nullPointer)) :
    binaryType env op l r = (common env l r).bind fun t =>
      match concreteOf t with
      | some k => if domain op k then some (resultTy op t) else none
      | none => none := by
  cases op with
  | logical _ | shift _ => cases hop
  | arith a =>
    unfold binaryType
    cases common env l r with
    | none => rfl
    | some t => cases t <;> first | rfl | (cases a <;> rfl)
  | bitwise o =>
    unfold binaryType
    cases common env l r with
    | none => rfl
    | some t => cases t <;> rfl
  | cmp c =>
    unfold binaryType
    cases hc : common env l r with
    | none => rfl
    | some t =>
      cases t with
      | nullPointer => exact absurd ((common_null_iff env l r).1 hc) hnn
      | concrete k =>
        simp only [Option.bind_some, concreteOf, domain, resultTy, orderedTy, eqOnlyTy]
        exact ite_ite_or _ _ _ _
      | _ => rfl

/-- the emitter, for the same operators: deduce the common type of the (defaulted) operand types, test the domain -/
theorem emitBinary_domain (env : Env) (b : Builder) (op : BinaryOp) (l r : Operand) (hop : commonOp op = true) :
    emitBinaryExpression env b op l r =
      (match deduceConcrete env op.symbol (strDefault l.typeDesc) (strDefault r.typeDesc) with
       | .ok k =>
         if domain op k then
           .ok (b.emitResult (resultK op k) (.binary op (ensureConcreteString l) (ensureConcreteString r)))
         else .error (.opUnsupported op.symbol (.concrete k))
       | .error e => .error e) := by
  unfold emitBinaryExpression
  simp only [ensureConcreteString_typeDesc]
  cases op with
  | logical _ | shift _ => cases hop
  | arith a =>
    simp only [BinaryOp.symbol]
    cases deduceConcrete env a.symbol (strDefault l.typeDesc) (strDefault r.typeDesc) with
    | error e => rfl
    | ok k =>
      simp only [numK_iff, domain]
      by_cases h1 : numK k = true
      · simp only [h1, if_true, Bool.true_or, resultK]
      · by_cases hs : k = .string <;> by_cases ha : a = .add <;>
          simp [h1, hs, ha, resultK, show numK .string = false from rfl]
  | bitwise o =>
    simp only [BinaryOp.symbol]
    cases deduceConcrete env o.symbol (strDefault l.typeDesc) (strDefault r.typeDesc) with
    | error e => rfl
    | ok k =>
      have hiff : (k = .bool ∨ k = .int ∨ k = .uint ∨ isEnumKind k = true) ↔ domain (.bitwise o) k = true := by
        simp [domain, intK, isEnumKind_eq, or_assoc]
      simp only [hiff]
      by_cases hd : domain (.bitwise o) k = true <;> simp only [hd, if_true, if_false, Bool.false_eq_true, resultK]
  | cmp c =>
    simp only [BinaryOp.symbol]
    cases deduceConcrete env c.symbol (strDefault l.typeDesc) (strDefault r.typeDesc) with
    | error e => rfl
    | ok k =>
      have hiff : (k = .bool ∨ k = .int ∨ k = .uint ∨ k = .double ∨ k = .string ∨ isEnumKind k = true ∨
            (k.isPointer = true ∧ (c = .eq ∨ c = .ne))) ↔ domain (.cmp c) k = true := by
        simp [domain, numK, isEnumKind_eq, isPointer_eq, or_assoc]
      simp only [hiff]
      by_cases hd : domain (.cmp c) k = true <;> simp only [hd, if_true, if_false, Bool.false_eq_true, resultK]

/-- `<<`, `>>` on the dynamic path: the concrete type of the left operand, if both sides are integers -/
theorem emitBinary_shift (env : Env) (b : Builder) (s : ShiftOp) (l r : Operand) :
    emitBinaryExpression env b (.shift s) l r =
      match toConcrete s.symbol (ensureConcreteString l).typeDesc with
      | .error e => .error e
      | .ok k =>
        if (k = .int ∨ k = .uint) ∧ ((ensureConcreteString r).typeDesc = .constInteger ∨
            (ensureConcreteString r).typeDesc = .int ∨ (ensureConcreteString r).typeDesc = .uint) then
          .ok (b.emitResult k (.binary (.shift s) (ensureConcreteString l) (ensureConcreteString r)))
        else .error (.opUnsupportedTypes s.symbol (.concrete k) (ensureConcreteString r).typeDesc) := by
  unfold emitBinaryExpression
  simp only
  cases toConcrete s.symbol (ensureConcreteString l).typeDesc with
  | error e => rfl
  | ok k =>
    simp only
    by_cases hc : (k = .int ∨ k = .uint) ∧ ((ensureConcreteString r).typeDesc = .constInteger ∨
        (ensureConcreteString r).typeDesc = .int ∨ (ensureConcreteString r).typeDesc = .uint)
    · rw [if_pos hc, if_pos hc]
    · rw [if_neg hc, if_neg hc]

/-- the dynamic path of a binary operation: it emits at the type the specification's table gives (a literal type
    defaulted, D1), or fails where the table has no entry (`&&`/`||` never reach `emit_binary_expression`; two `null`
    literals are constants and never reach it either) -/
theorem emitBinary_cases (env : Env) (b : Builder) (op : BinaryOp) (l r : Operand) (hlog : ∀ o, op ≠ .logical o)
    (hnn : ¬ (l.typeDesc = .nullPointer ∧ r.typeDesc = .nullPointer)) :
    (∃ t k, binaryType env op l.typeDesc r.typeDesc = some t ∧ concreteOf t = some k ∧
        emitBinaryExpression env b op l r =
          .ok (b.emitResult k (.binary op (ensureConcreteString l) (ensureConcreteString r)))) ∨
    (binaryType env op l.typeDesc r.typeDesc = none ∧ ∃ e, emitBinaryExpression env b op l r = .error e) := by
  by_cases hop : commonOp op = true
  · -- both sides: the common type, then the domain
    rw [binaryType_domain env op _ _ hop hnn, emitBinary_domain env b op l r hop]
    rcases deduce_cases env op.symbol l.typeDesc r.typeDesc with ⟨k, hk, hd⟩ | ⟨hn, e, hd⟩
    · rw [hd]
      cases hc : common env l.typeDesc r.typeDesc with
      | none => rw [commonConcrete, hc] at hk; cases hk
      | some t =>
        rw [commonConcrete, hc] at hk
        simp only [Option.bind_some] at hk ⊢
        simp only [hk]
        cases hdom : domain op k with
        | true => exact .inl ⟨_, _, rfl, concreteOf_resultTy hk, rfl⟩
        | false => exact .inr ⟨rfl, _, rfl⟩
    · rw [hd]
      refine .inr ⟨?_, e, rfl⟩
      cases hc : common env l.typeDesc r.typeDesc with
      | none => rfl
      | some t =>
        rw [commonConcrete, hc] at hn
        simp only [Option.bind_some] at hn ⊢
        rw [hn]
  · -- `<<`, `>>`: the one operator whose operands need no common type (D6)
    cases op with
    | logical o => exact absurd rfl (hlog o)
    | arith _ | bitwise _ | cmp _ => exact absurd rfl hop
    | shift s =>
      clear hnn hop
      rw [emitBinary_shift]
      simp only [ensureConcreteString_typeDesc, binaryType, toConcrete_eq, intK_iff, intTy_iff, intTy_strDefault, Bool.and_eq_true]
      generalize l.typeDesc = lt
      generalize r.typeDesc = rt
      cases lt with
      | concrete k =>
        simp only [show strDefault (.concrete k) = .concrete k from rfl, show concreteOf (.concrete k) = some k from rfl,
          show intTy (.concrete k) = intK k from rfl]
        by_cases hC : intK k = true ∧ intTy rt = true
        · exact Or.inl ⟨_, k, if_pos hC, by simp [concreteOf], by rw [if_pos hC]⟩
        · exact Or.inr ⟨if_neg hC, _, by rw [if_neg hC]⟩
      | constInteger =>
        simp only [show strDefault .constInteger = .constInteger from rfl, show concreteOf .constInteger = some .int from rfl,
          show intTy .constInteger = true from rfl]
        have h1 : intK .int = true := rfl
        by_cases hC : intTy rt = true
        · refine Or.inl ⟨_, .int, if_pos ⟨trivial, hC⟩, ?_, by rw [if_pos ⟨h1, hC⟩]⟩
          split <;> rfl
        · exact Or.inr ⟨if_neg (fun h => hC h.2), _, by rw [if_neg (fun h => hC h.2)]⟩
      | _ => exact Or.inr ⟨rfl, _, rfl⟩

theorem emitBinary_okB (env : Env) (b : Builder) (op : BinaryOp) (l r : Operand) (hlog : ∀ o, op ≠ .logical o)
    (hnn : ¬ (l.typeDesc = .nullPointer ∧ r.typeDesc = .nullPointer)) :
    okB (emitBinaryExpression env b op l r) = (binaryType env op l.typeDesc r.typeDesc).isSome := by
  rcases emitBinary_cases env b op l r hlog hnn with ⟨t, k, ht, _, h⟩ | ⟨ht, e, h⟩ <;> rw [h, ht] <;> rfl

theorem emitBinary_type (env : Env) (b : Builder) (op : BinaryOp) (l r : Operand) (hlog : ∀ o, op ≠ .logical o)
    (hnn : ¬ (l.typeDesc = .nullPointer ∧ r.typeDesc = .nullPointer)) (res : Operand) (b' : Builder)
    (h : emitBinaryExpression env b op l r = .ok (res, b')) :
    ∃ t k, binaryType env op l.typeDesc r.typeDesc = some t ∧ concreteOf t = some k ∧ res.typeDesc = .concrete k := by
  rcases emitBinary_cases env b op l r hlog hnn with ⟨t, k, ht, hk, h'⟩ | ⟨_, e, h'⟩
  · rw [h'] at h
    exact ⟨t, k, ht, hk, typeDesc_of_emitResult (Except.ok.inj h)⟩
  · rw [h'] at h; cases h

theorem unaryOf_eq (t : UnaryToken) : unaryOf t = t.toOp := by cases t <;> rfl
theorem binaryOf_eq (t : BinaryToken) : binaryOf t = t.toOp := by cases t <;> rfl

theorem isAssignable_iff (env : Env) (e : TypeKind) (a : TypeDesc) :
    isAssignable env e a = true ↔
      a = .concrete e ∨
      (∃ d b, a = .concrete (.pointer (.cls d)) ∧ e = .pointer (.cls b) ∧ env.derives d b = true) ∨
      (∃ x y, a = .concrete (.just (.enum x)) ∧ e = .just (.enum y) ∧ env.enumCompat x y = true) ∨
      (a = .constInteger ∧ (e = .int ∨ e = .uint)) ∨
      (a = .constString ∧ e = .string) ∨
      (a = .nullPointer ∧ ∃ n, e = .pointer n) ∨
      (a = .emptyList ∧ ∃ t, e = .list t) := by
  rw [isAssignable_eq]
  cases a with
  | concrete k =>
    simp only [assignable, Bool.or_eq_true, decide_eq_true_eq, TypeDesc.concrete.injEq, reduceCtorEq, false_and, or_false]
    constructor
    · rintro (h | h)
      · exact Or.inl h
      · split at h
        · rename_i d b
          exact Or.inr (Or.inl ⟨d, b, rfl, rfl, by rw [← subclass_eq]; exact h⟩)
        · rename_i x y
          exact Or.inr (Or.inr ⟨x, y, rfl, rfl, by rw [← sameEnum_eq]; exact h⟩)
        · simp at h
    · rintro (h | ⟨d, b, h1, h2, h3⟩ | ⟨x, y, h1, h2, h3⟩)
      · exact Or.inl h
      · subst h1 h2; right; simp [subclass_eq, h3]
      · subst h1 h2; right; simp [sameEnum_eq, h3]
  | constInteger =>
    simp [assignable, litFits, intK]
  | constString => simp [assignable, litFits]
  | nullPointer =>
    simp only [assignable, litFits]
    cases e <;> simp [ptrK]
  | emptyList =>
    simp only [assignable, litFits]
    cases e <;> simp [listK]

end QV.Proofs.TypingRules
