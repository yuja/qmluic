/-
  What the builder's expression visitors emit and at which type (`emitUnary_ty`, `emitBinary_ty`); single blocks under
  `runFrom` (a conditional branch, a store into a sink and a jump); the two blocks `visit_binary_logical_expression` leaves.
-/
import QV.Proofs.SemIr
import QV.Proofs.TypingRules

namespace QV.Proofs.SemVisit
open QV.Model QV.Model.IrSem QV.Proofs.SemIr
open QV.Spec.Sem (Val World Host Ev Ty STy coerceTo)
export QV.Proofs.TypingRules (deduceConcrete_ok toConcrete_ok toConcreteType_of_concreteOf)

theorem evalOperand_ensure (c : ICtx) (L : IrSem.Locals) (a : Operand) :
    evalOperand c L (ensureConcreteString a) = evalOperand c L a := by
  unfold ensureConcreteString
  split <;> simp [evalOperand]

/-- `emit_unary_expression`: the type of the result is the concrete type of the operand -/
theorem emitUnary_ty (b : Builder) (op : UnaryOp) (a res : Operand) (b' : Builder)
    (h : emitUnaryExpression b op a = .ok (res, b')) :
    ∃ ty, ty ≠ TypeKind.void ∧ toConcreteType (ensureConcreteString a).typeDesc = .ok ty ∧
      (res, b') = b.emitResult ty (.unary op (ensureConcreteString a)) := by
  rcases QV.Proofs.TypingRules.emitUnary_cases b op a with ⟨k, hu, hk, he⟩ | ⟨_, e, he⟩
  · rw [he] at h
    refine ⟨k, ?_, toConcreteType_of_concreteOf hk, (Except.ok.inj h).symm⟩
    -- the table has no entry at `void`
    rintro rfl
    generalize (ensureConcreteString a).typeDesc = t at hu hk
    cases t <;> cases hk
    cases op <;> cases hu
  · rw [he] at h; cases h

/-- how `emit_binary_expression` determines the type of the result.  For `&&`/`||` the visitor answers `.ok` with the
    panic flag set (they have a visitor of their own), so that case has to be excluded by a hypothesis (`hlog`). -/
def BinTyFact (env : Env) (op : BinaryOp) (l r : Operand) (ty : TypeKind) : Prop :=
  match op with
  | .arith _ | .bitwise _ =>
    deduceConcreteType env (ensureConcreteString l).typeDesc (ensureConcreteString r).typeDesc = .ok ty
  | .shift _ => toConcreteType (ensureConcreteString l).typeDesc = .ok ty
  | .cmp _ => ty = .bool
  | .logical _ => False

theorem emitBinary_ty (env : Env) (b : Builder) (op : BinaryOp) (l r res : Operand) (b' : Builder)
    (hlog : ∀ lop, op ≠ .logical lop)
    (h : emitBinaryExpression env b op l r = .ok (res, b')) :
    ∃ ty, ty ≠ TypeKind.void ∧
      (res, b') = b.emitResult ty (.binary op (ensureConcreteString l) (ensureConcreteString r)) ∧
      BinTyFact env op l r ty := by
  by_cases hop : QV.Proofs.TypingRules.commonOp op = true
  · -- the operators with a common operand type: the deduced type, if it is in the operator's domain
    rw [QV.Proofs.TypingRules.emitBinary_domain env b op l r hop, ← QV.Proofs.TypingRules.ensureConcreteString_typeDesc,
      ← QV.Proofs.TypingRules.ensureConcreteString_typeDesc] at h
    cases hd : deduceConcrete env op.symbol (ensureConcreteString l).typeDesc (ensureConcreteString r).typeDesc with
    | error e => rw [hd] at h; cases h
    | ok k =>
      rw [hd] at h
      simp only at h
      split at h
      · next hdom =>
        refine ⟨QV.Proofs.TypingRules.resultK op k, ?_, (Except.ok.inj h).symm, ?_⟩
        · rintro hv
          cases op with
          | arith a => cases hv; cases a <;> cases hdom
          | bitwise o => cases hv; cases hdom
          | cmp c => cases hv
          | _ => cases hop
        · cases op with
          | arith a => exact deduceConcrete_ok hd
          | bitwise o => exact deduceConcrete_ok hd
          | cmp c => rfl
          | _ => cases hop
      · cases h
  · cases op with
    | logical lop => exact absurd rfl (hlog lop)
    | shift sop =>
      rw [QV.Proofs.TypingRules.emitBinary_shift] at h
      cases hd : toConcrete sop.symbol (ensureConcreteString l).typeDesc with
      | error e => rw [hd] at h; cases h
      | ok k =>
        rw [hd] at h
        simp only at h
        split at h
        · next hc => exact ⟨k, by rcases hc.1 with rfl | rfl <;> decide, (Except.ok.inj h).symm, toConcrete_ok hd⟩
        · cases h
    | _ => exact absurd rfl hop

/-- a block that ends in a conditional branch: after its statements, control goes to `t` or `f` by the condition -/
theorem cond_block (c : ICtx) (code : CodeBody) (i t f fuel : Nat) (blk : BasicBlock) (cnd : Operand)
    (hb : code.blocks[i]? = some blk) (ht : blk.terminator = some (.brCond cnd t f))
    (st st1 : State) (hs : execStatements c code.locals blk.statements st = some st1)
    (x : Bool) (hx : evalOperand c st1.L cnd = some (.bool x)) :
    runFrom c code (fuel + 1) i st = runFrom c code fuel (if x then t else f) st1 := by
  rw [runFrom_step c code fuel i st st1 blk hb hs, ht]
  cases x <;> simp [hx]

/-- a block whose last statement stores `src` in the sink `n` and which then jumps to `j` -/
theorem sink_block (c : ICtx) (code : CodeBody) (i j n fuel : Nat) (blk : BasicBlock) (ss : List Statement)
    (src : Operand) (ty : TypeKind)
    (hb : code.blocks[i]? = some blk) (hss : blk.statements = ss ++ [.assign n (.copy src)])
    (ht : blk.terminator = some (.br j)) (hn : code.locals[n]? = some ty)
    (st st1 : State) (hs : execStatements c code.locals ss st = some st1)
    (v v' : Val) (hv : evalOperand c st1.L src = some v) (hc : coerceTo (styOf ty).ty v = some v') :
    runFrom c code (fuel + 1) i st = runFrom c code fuel j { st1 with L := upd st1.L n v' } := by
  have hs' : execStatements c code.locals blk.statements st = some { st1 with L := upd st1.L n v' } := by
    rw [hss, execStatements_append, hs]
    exact exec_store c code.locals n src ty st1 v v' hn hv hc
  rw [runFrom_step c code fuel i st _ blk hb hs', ht]

/-- the LEFT block of `&&` / `||`: the sink is initialised here, then the left operand decides -/
theorem logical_left_block (c : ICtx) (code : CodeBody) (i t f n fuel : Nat) (blk : BasicBlock) (ss : List Statement)
    (init : Bool) (left : Operand)
    (hb : code.blocks[i]? = some blk) (hss : blk.statements = ss ++ [.assign n (.copy (.const (.bool init)))])
    (ht : blk.terminator = some (.brCond left t f)) (hn : code.locals[n]? = some .bool) (hav : Avoids n left)
    (st st1 : State) (hs : execStatements c code.locals ss st = some st1)
    (x : Bool) (hx : evalOperand c st1.L left = some (.bool x)) :
    runFrom c code (fuel + 1) i st =
      runFrom c code fuel (if x then t else f) { st1 with L := upd st1.L n (.bool init) } := by
  have hs' : execStatements c code.locals blk.statements st = some { st1 with L := upd st1.L n (.bool init) } := by
    rw [hss, execStatements_append, hs]
    exact exec_store c code.locals n _ .bool st1 (.bool init) (.bool init) hn rfl rfl
  exact cond_block c code i t f fuel blk left hb ht st _ hs' x (by simpa [evalOperand_upd c st1.L n _ left hav] using hx)

theorem getElem?_set_self' {α} (l : List α) (i : Nat) (a x : α) (h : l[i]? = some x) : (l.set i a)[i]? = some a := by
  simp [lt_length_of_getElem? h]

theorem push_finalize_open (b : Builder) (i : Nat) (blk : BasicBlock) (s : Statement) (t : Terminator)
    (hb : b.code.blocks[i]? = some blk) (ht : blk.terminator = none) :
    (b.pushStatementAt i s).finalizeAt i t =
      { b with code := { b.code with
          blocks := b.code.blocks.set i { blk with statements := blk.statements ++ [s], terminator := some t } } } := by
  rw [pushStatementAt_open b i blk s hb ht,
    finalizeAt_open _ i { blk with statements := blk.statements ++ [s] } t (getElem?_set_self' _ _ _ _ hb) ht]
  simp only [List.set_set]

theorem visitLogical_shape (b : Builder) (op : LogicOp) (left right : Operand) (lRef rRef : Nat) (bl br_ : BasicBlock)
    (hl : b.code.blocks[lRef]? = some bl) (hlt : bl.terminator = none)
    (hr : b.code.blocks[rRef]? = some br_) (hrt : br_.terminator = none) (hne : lRef ≠ rRef)
    (htl : left.typeDesc = .bool) (htr : right.typeDesc = .bool) :
    visitBinaryLogicalExpression b op left lRef right rRef =
      (.local b.code.locals.length .bool,
       { b with code := { b.code with
          locals := b.code.locals ++ [.bool],
          blocks := (b.code.blocks.set lRef
              { bl with
                statements := bl.statements ++
                  [.assign b.code.locals.length (.copy (.const (.bool (match op with | .and => false | .or => true))))],
                terminator := some (.brCond left (match op with | .and => lRef + 1 | .or => rRef + 1)
                  (match op with | .and => rRef + 1 | .or => lRef + 1)) }).set rRef
              { br_ with statements := br_.statements ++ [.assign b.code.locals.length (.copy right)],
                         terminator := some (.br (rRef + 1)) } } }) := by
  have hbool : (TypeKind.bool ≠ TypeKind.void) := by decide
  cases op <;>
  · simp only [visitBinaryLogicalExpression, htl, htr, ne_eq, not_true_eq_false, or_self, ↓reduceIte, Builder.alloca,
      hbool, not_false_eq_true]
    rw [push_finalize_open { b with code := { b.code with locals := b.code.locals ++ [.bool] } } lRef bl _ _ hl hlt,
      push_finalize_open _ rRef br_ _ _ ((List.getElem?_set_ne hne).trans hr) hrt]

end QV.Proofs.SemVisit
