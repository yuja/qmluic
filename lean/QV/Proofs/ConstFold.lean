/- C03: the folder of tir/ceval.rs against Spec.ConstSem.  `Denotes` relates an answer of the folder to
   the denotation; `cevalBinary_denotes` and `cevalUnary_denotes` establish it for the dispatch of the two folding
   visitors, by the arms of each evaluator (integers: the `denotes_int_*` lemmas).
   18446744073709551616 = 2^64 and 9223372036854775808 = 2^63 (the model writes them out). -/
import QV.Model.Ceval
import QV.Spec.ConstSem
import QV.Proofs.TypingConst

namespace QV.Proofs.ConstFold
open QV.Model QV.Spec.ConstSem
open QV.Proofs.TypingConst (cevalBinary cevalUnary isValueError)

theorem toU64_cast (x : Int) : ((toU64 x : Nat) : Int) = x % 18446744073709551616 := by
  unfold toU64
  exact Int.toNat_of_nonneg (Int.emod_nonneg _ (by decide))

theorem ofU64_cases (n : Nat) :
    (n < 9223372036854775808 ∧ ofU64 n = n) ∨
    (¬ n < 9223372036854775808 ∧ ofU64 n = (n : Int) - 18446744073709551616) := by
  unfold ofU64
  by_cases h : n < 9223372036854775808
  · exact Or.inl ⟨h, by simp [h]⟩
  · exact Or.inr ⟨h, by simp [h]⟩

theorem two_pow_63 : (2 : Int) ^ 63 = 9223372036854775808 := by decide
theorem two_pow_64 : (2 : Int) ^ 64 = 18446744073709551616 := by decide

theorem representable_iff (v : Int) :
    representable v = true ↔ -9223372036854775808 ≤ v ∧ v < 9223372036854775808 := by
  simp only [representable, two_pow_63, Bool.and_eq_true, decide_eq_true_eq]

theorem wrap_spec (x : Int) :
    ∃ k : Int, wrapI64 x = x - 18446744073709551616 * k ∧ representable (wrapI64 x) = true := by
  simp only [representable_iff]
  unfold wrapI64
  have h2 := toU64_cast x
  have h3 : (x % 18446744073709551616) < 18446744073709551616 := Int.emod_lt_of_pos _ (by decide)
  have hd := Int.emod_def x 18446744073709551616
  generalize toU64 x = n at h2
  rcases ofU64_cases n with ⟨hlt, he⟩ | ⟨hlt, he⟩ <;> rw [he]
  · exact ⟨x / 18446744073709551616, by omega⟩
  · exact ⟨x / 18446744073709551616 + 1, by omega⟩

theorem wrap_of_representable (x : Int) (h : representable x = true) : wrapI64 x = x := by
  obtain ⟨k, hk, hr⟩ := wrap_spec x
  rw [representable_iff] at h hr
  omega

theorem pow_split (n : Nat) (hn : n < 64) : (2 : Int) ^ n * (2 : Int) ^ (64 - n) = 18446744073709551616 := by
  rw [← Int.pow_add]
  have : n + (64 - n) = 64 := by omega
  rw [this]; rfl

/-- the shift-back test of `<<` (ceval.rs as of /repo 568b1aa, F8) accepts exactly the representable products -/
theorem shl_check_iff (a : Int) (n : Nat) (hn : n < 64) :
    (wrapI64 (a * (2 : Int) ^ n) / (2 : Int) ^ n = a) ↔ representable (a * (2 : Int) ^ n) = true := by
  have hP : (0 : Int) < (2 : Int) ^ n := Int.pow_pos (by decide)
  have hQ : (0 : Int) < (2 : Int) ^ (64 - n) := Int.pow_pos (by decide)
  constructor
  · intro h
    obtain ⟨k, hk, hr⟩ := wrap_spec (a * (2 : Int) ^ n)
    rw [← pow_split n hn] at hk
    have hw : wrapI64 (a * (2 : Int) ^ n) = (2 : Int) ^ n * (a - (2 : Int) ^ (64 - n) * k) := by
      rw [hk, Int.mul_sub, Int.mul_comm a, Int.mul_assoc]
    rw [hw, Int.mul_ediv_cancel_left _ (Int.ne_of_gt hP)] at h
    have hz : (2 : Int) ^ (64 - n) * k = 0 := by omega
    have hk0 : k = 0 := by
      rcases Int.mul_eq_zero.mp hz with h' | h'
      · omega
      · exact h'
    rw [hk0] at hw
    simp at hw
    rw [hw, Int.mul_comm] at hr
    exact hr
  · intro h
    rw [wrap_of_representable _ h]
    exact Int.mul_ediv_cancel _ (Int.ne_of_gt hP)

theorem inI64_eq (v : Int) : inI64 v = representable v := by
  simp only [inI64, representable, i64Min, i64Max, two_pow_63]
  exact congrArg _ (decide_eq_decide.mpr (by omega))

/-- the value of `Spec.ConstSem` a folded constant stands for: both string kinds (`cstring` of a literal, `qstring`) are
    the same string; `[]` is the empty string list -/
def valOf : ConstantValue → Val
  | .bool b => .bool b
  | .integer v => .int v
  | .float v => .float v
  | .cstring s => .str s
  | .qstring s => .str s
  | .nullPointer => .null
  | .emptyList => .strList false []

theorem checked_cases (v : Int) :
    (representable v = true ∧ checked v = .ok (.integer v) ∧ intRes v = .val (.int v)) ∨
    (representable v = false ∧ checked v = .error .integerOverflow ∧ intRes v = .undefined "64-bit overflow") := by
  unfold checked intRes
  rw [inI64_eq]
  by_cases h : representable v = true
  · exact Or.inl ⟨h, by simp [h], by simp [h]⟩
  · have h' : representable v = false := by simpa using h
    exact Or.inr ⟨h', by simp [h'], by simp [h']⟩

/-- an integer constant lies within `i64`; the folder keeps this (every other constant is unconstrained) -/
def inRange : ConstantValue → Prop
  | .integer v => representable v = true
  | _ => True

/-- a folding step against the denotation `R`: a folded constant is the value and fits 64 bits; a value error (overflow,
    division by zero, shift count) occurs only where `R` is undefined, or at the over-rejection `X`.  (Type errors are
    C05's business: `QV.Proofs.TypingConst.Agrees`.) -/
def Denotes (X : Prop) (R : Res) : Except ExprError ConstantValue → Prop
  | .ok c => inRange c ∧ R = .val (valOf c)
  | .error e => isValueError e = true → (∃ w, R = .undefined w) ∨ X

theorem denotes_checked (X : Prop) (v : Int) : Denotes X (intRes v) (checked v) := by
  rcases checked_cases v with ⟨hr, h1, h2⟩ | ⟨_, h1, h2⟩ <;> rw [h1, h2]
  · exact ⟨hr, rfl⟩
  · exact fun _ => .inl ⟨_, rfl⟩

def arithToken : ArithOp → BinaryToken
  | .add => .add | .sub => .sub | .mul => .mul | .div => .div | .rem => .rem

def bitToken : BitOp → BinaryToken
  | .and => .bitwiseAnd | .xor => .bitwiseXor | .or => .bitwiseOr

def shiftToken : ShiftOp → BinaryToken
  | .shl => .leftShift | .shr => .rightShift

theorem tmod_representable {a : Int} (b : Int) (ha : representable a = true) : representable (a.tmod b) = true := by
  rw [representable_iff] at ha ⊢
  have h1 : (a.tmod b).natAbs ≤ a.natAbs := by
    rw [Int.natAbs_tmod]; exact Nat.mod_le _ _
  have h2 : 0 ≤ a → 0 ≤ a.tmod b := fun h => Int.tmod_nonneg b h
  have h3 : a ≤ 0 → a.tmod b ≤ 0 := by
    intro h
    have := Int.tmod_nonneg (a := -a) b (by omega)
    rw [Int.neg_tmod] at this
    omega
  omega

/-- integer arithmetic: the folder refuses only what has no value, but for one over-rejection (`i64::MIN % -1`, value
    0, refused by `checked_rem`) -/
theorem denotes_int_arith (F : FloatOps) {X : Prop} (op : ArithOp) (a b : Int) (ha : representable a = true)
    (hX : op = .rem → a = i64Min → b = -1 → X) :
    Denotes X (binInt (arithToken op) a b) (evalBinaryArith F op (.integer a) (.integer b)) := by
  cases op
  case add => exact denotes_checked _ (a + b)
  case sub => exact denotes_checked _ (a - b)
  case mul => exact denotes_checked _ (a * b)
  case div =>
    simp only [evalBinaryArith, arithToken, binInt]
    by_cases hb : b = 0
    · rw [if_pos hb, if_pos hb]
      exact fun _ => .inl ⟨_, rfl⟩
    · rw [if_neg hb, if_neg hb]
      exact denotes_checked _ _
  case rem =>
    simp only [evalBinaryArith, arithToken, binInt]
    by_cases hb : b = 0
    · rw [if_pos hb, if_pos hb]
      exact fun _ => .inl ⟨_, rfl⟩
    · rw [if_neg hb, if_neg hb]
      by_cases hm : a = i64Min ∧ b = -1
      · rw [if_pos hm]
        exact fun _ => .inr (hX rfl hm.1 hm.2)
      · have hr := tmod_representable b ha
        rw [if_neg hm, intRes, if_pos hr]
        exact ⟨hr, rfl⟩

theorem toU64_eq_bits64 (v : Int) : toU64 v = bits64 v := by
  simp [toU64, bits64, two_pow_64]

theorem ofU64_eq_ofBits64 (n : Nat) : ofU64 n = ofBits64 n := by
  have h2 : (2 : Nat) ^ 63 = 9223372036854775808 := by decide
  simp [ofU64, ofBits64, two_pow_64, h2]

theorem bits64_lt (v : Int) : bits64 v < 2 ^ 64 := by
  unfold bits64
  omega

theorem ofBits64_rep (n : Nat) (h : n < 2 ^ 64) : representable (ofBits64 n) = true := by
  rw [← ofU64_eq_ofBits64, representable_iff]
  rcases ofU64_cases n with ⟨hlt, he⟩ | ⟨hlt, he⟩ <;> omega

theorem bitNat_lt (op : BitOp) (a b : Int) : bitNat op (bits64 a) (bits64 b) < 2 ^ 64 := by
  cases op
  · exact Nat.lt_of_le_of_lt Nat.and_le_left (bits64_lt a)
  · exact Nat.xor_lt_two_pow (bits64_lt a) (bits64_lt b)
  · exact Nat.or_lt_two_pow (bits64_lt a) (bits64_lt b)

theorem denotes_int_bitwise (X : Prop) (op : BitOp) (a b : Int) :
    Denotes X (binInt (bitToken op) a b) (evalBinaryBitwise op (.integer a) (.integer b)) := by
  refine ⟨?_, ?_⟩
  · simp only [inRange, toU64_eq_bits64, ofU64_eq_ofBits64]
    exact ofBits64_rep _ (bitNat_lt op a b)
  · simp only [valOf, toU64_eq_bits64, ofU64_eq_ofBits64]
    cases op <;> rfl

theorem evalShift_int (op : ShiftOp) (a b : Int) : evalShift op (.integer a) (.integer b) =
    if b < 0 ∨ b > 4294967295 then .error .integerConversion
    else if b ≥ 64 then .error .integerOverflow
    else
      (match op with
       | .shr => .ok (.integer (a / (2 : Int) ^ b.toNat))
       | .shl =>
         if wrapI64 (a * (2 : Int) ^ b.toNat) / (2 : Int) ^ b.toNat = a
         then .ok (.integer (wrapI64 (a * (2 : Int) ^ b.toNat))) else .error .integerOverflow) := rfl

/-- arithmetic shift right keeps the magnitude within that of the operand -/
theorem shr_representable {a : Int} (n : Nat) (ha : representable a = true) :
    representable (a / (2 : Int) ^ n) = true := by
  rw [representable_iff] at ha ⊢
  have hp : (0 : Int) < (2 : Int) ^ n := Int.pow_pos (by decide)
  have h1 : a / (2 : Int) ^ n ≤ a ∨ a < 0 := by
    by_cases ha : 0 ≤ a
    · exact Or.inl (Int.ediv_le_self _ ha)
    · exact Or.inr (by omega)
  have h2 : 0 ≤ a → 0 ≤ a / (2 : Int) ^ n := fun ha => Int.ediv_nonneg ha (Int.le_of_lt hp)
  have h3 : a < 0 → a / (2 : Int) ^ n < 0 := fun ha => Int.ediv_neg_of_neg_of_pos ha hp
  have h4 : a < 0 → a ≤ a / (2 : Int) ^ n := by
    -- with `q` the quotient: `a < (q + 1) * 2 ^ n`, and `(q + 1) * 2 ^ n ≤ q + 1` as `q + 1 ≤ 0`
    intro ha
    have := Int.lt_ediv_add_one_mul_self a hp
    have hm : (a / (2 : Int) ^ n + 1) * (2 : Int) ^ n ≤ a / (2 : Int) ^ n + 1 ∨ 0 < a / (2 : Int) ^ n + 1 := by
      by_cases hq : 0 < a / (2 : Int) ^ n + 1
      · exact Or.inr hq
      · left
        have hq' : a / (2 : Int) ^ n + 1 ≤ 0 := by omega
        have h1p : (1 : Int) ≤ (2 : Int) ^ n := hp
        calc (a / (2 : Int) ^ n + 1) * (2 : Int) ^ n
            ≤ (a / (2 : Int) ^ n + 1) * 1 := Int.mul_le_mul_of_nonpos_left hq' h1p
          _ = a / (2 : Int) ^ n + 1 := Int.mul_one _
    omega
  omega

/-- shifts: the folder refuses exactly what has no value -/
theorem denotes_int_shift (X : Prop) (op : ShiftOp) (a b : Int) (ha : representable a = true) :
    Denotes X (binInt (shiftToken op) a b) (evalShift op (.integer a) (.integer b)) := by
  rw [evalShift_int]
  have hbin : binInt (shiftToken op) a b =
      if b < 0 then .undefined "negative shift" else if b ≥ 64 then .undefined "shift count too large"
      else (match op with
        | .shl => intRes (a * (2 : Int) ^ b.toNat)
        | .shr => .val (.int (a / (2 : Int) ^ b.toNat))) := by cases op <;> rfl
  rw [hbin]
  by_cases h1 : b < 0
  · rw [if_pos (Or.inl h1), if_pos h1]
    exact fun _ => .inl ⟨_, rfl⟩
  · by_cases h2 : b ≥ 64
    · rw [if_neg h1, if_pos h2]
      split <;> exact fun _ => .inl ⟨_, rfl⟩
    · have hn : b.toNat < 64 := by omega
      rw [if_neg (show ¬ (b < 0 ∨ b > 4294967295) by omega), if_neg h2, if_neg h1, if_neg h2]
      cases op
      case shr => exact ⟨shr_representable _ ha, rfl⟩
      case shl =>
        simp only
        by_cases hr : representable (a * (2 : Int) ^ b.toNat) = true
        · rw [if_pos ((shl_check_iff a b.toNat hn).mpr hr), wrap_of_representable _ hr, intRes, if_pos hr]
          exact ⟨hr, rfl⟩
        · rw [if_neg (fun h => hr ((shl_check_iff a b.toNat hn).mp h)), intRes, if_neg hr]
          exact fun _ => .inl ⟨_, rfl⟩

def cmpPick : CmpOp → Bool → Bool → Bool → Bool
  | .eq, eq, _, _ => eq | .ne, eq, _, _ => !eq | .lt, _, lt, _ => lt | .le, eq, lt, _ => lt || eq
  | .gt, _, _, gt => gt | .ge, eq, _, gt => gt || eq

/-- the token of an operator: determined by it for arithmetic, bit and shift operators; a token of the comparison `o`
    (`==` and `===`, `!=` and `!==` are two each) denotes `cmpPick o` of the three relations, on every kind -/
theorem tok_inv {tok : BinaryToken} {op : BinaryOp} (htok : tok.toOp = some op) :
    match op with
    | .arith o => tok = arithToken o
    | .bitwise o => tok = bitToken o
    | .shift o => tok = shiftToken o
    | .cmp o =>
      (∀ a b, binInt tok a b = .val (.bool (cmpPick o (a == b) (decide (a < b)) (decide (b < a))))) ∧
      (∀ a b, binBool tok a b = .val (.bool (cmpPick o (a == b) (!a && b) (!b && a)))) ∧
      (∀ a b, binStr tok a b = .val (.bool (cmpPick o (a == b) (strLess a b) (strLess b a))))
    | .logical _ => True := by
  cases tok <;> cases htok <;> first | rfl | exact ⟨fun _ _ => rfl, fun _ _ => rfl, fun _ _ => rfl⟩ | exact True.intro

theorem cmpBy_pick {α : Type} (op : CmpOp) (eq lt : α → α → Bool) (a b : α) :
    cmpBy op eq lt a b = cmpPick op (eq a b) (lt a b) (lt b a) := by
  cases op <;> simp [cmpBy, cmpPick, Bool.or_comm]

theorem utf16_eq_units (s : List Char) : utf16 s = units s := by
  induction s with
  | nil => rfl
  | cons c cs ih => simp [utf16, units, ih]

theorem unitsLt_eq : ∀ (a b : List Nat), unitsLt a b = unitsLess a b
  | [], [] => rfl
  | [], _ :: _ => rfl
  | _ :: _, [] => rfl
  | a :: as, b :: bs => by simp [unitsLt, unitsLess, unitsLt_eq as bs]

theorem strLt_eq (a b : List Char) : strLt a b = strLess a b := by
  simp [strLt, strLess, utf16_eq_units, unitsLt_eq]

/-- the folder against the denotation, for every operator but `&&` and `||`, by the arms of each evaluator: on
    integers the `denotes_int_*` lemmas, on the other kinds the value is read off; a refusal for the kinds of the
    operands is no value error.  Only the left operand's range is used: `%` and `>>` stay within it -/
theorem cevalBinary_denotes (F : FloatOps) (tok : BinaryToken) (op : BinaryOp) (htok : tok.toOp = some op)
    (hlog : ∀ lop, op ≠ .logical lop) (l r : ConstantValue) (hl : inRange l) :
    Denotes (op = .arith .rem ∧ l = .integer i64Min ∧ r = .integer (-1))
      (binary F tok (valOf l) (valOf r)) (cevalBinary F op l r) := by
  cases op with
  | logical lop => exact absurd rfl (hlog lop)
  | arith o =>
    cases (tok_inv htok : tok = arithToken o)
    show Denotes _ _ (evalBinaryArith F o l r)
    unfold evalBinaryArith
    split
    · exact fun h => Bool.noConfusion h                     -- bool, bool: refused
    · exact denotes_int_arith F o _ _ hl fun h1 h2 h3 => ⟨by rw [h1], by rw [h2], by rw [h3]⟩
    · exact ⟨trivial, by cases o <;> rfl⟩                    -- float, float
    · cases o <;> first | exact ⟨trivial, rfl⟩ | exact fun h => Bool.noConfusion h   -- cstring, cstring: `+` only
    · exact fun h => Bool.noConfusion h                     -- qstring, qstring: refused
    · exact fun h => Bool.noConfusion h                     -- mixed: refused
  | bitwise o =>
    cases (tok_inv htok : tok = bitToken o)
    show Denotes _ _ (evalBinaryBitwise o l r)
    unfold evalBinaryBitwise
    split
    · exact ⟨trivial, by cases o <;> rfl⟩
    · exact denotes_int_bitwise _ o _ _
    all_goals exact fun h => Bool.noConfusion h
  | shift o =>
    cases (tok_inv htok : tok = shiftToken o)
    show Denotes _ _ (evalShift o l r)
    unfold evalShift
    split
    · exact denotes_int_shift _ o _ _ hl
    · exact fun h => Bool.noConfusion h
  | cmp o =>
    obtain ⟨hint, hbool, hstr⟩ := tok_inv htok
    show Denotes _ _ (evalComparison F o l r)
    unfold evalComparison
    split
    case h_1 a b => exact ⟨trivial, by show binBool tok a b = _; rw [hbool, valOf, cmpBy_pick]⟩
    case h_2 a b => exact ⟨trivial, by show binInt tok a b = _; rw [hint, valOf, cmpBy_pick]⟩
    case h_3 a b => exact ⟨trivial, by cases tok <;> cases htok <;> rfl⟩     -- float, float
    case h_4 a b | h_5 a b =>     -- cstring, cstring | qstring, qstring
      exact ⟨trivial, by show binStr tok a b = _; rw [hstr, valOf, cmpBy_pick, strLt_eq, strLt_eq]⟩
    case h_6 =>     -- null, null: `==` and `!=` only
      split
      · rename_i hop
        exact ⟨trivial, by cases tok <;> cases htok <;> first | rfl | simp at hop⟩
      · exact fun h => Bool.noConfusion h
    case h_7 => exact fun h => Bool.noConfusion h     -- mixed: refused

theorem cevalBinary_sound (F : FloatOps) (tok : BinaryToken) (op : BinaryOp) (htok : tok.toOp = some op)
    (hlog : ∀ lop, op ≠ .logical lop) (l r c : ConstantValue) (hl : inRange l) (h : cevalBinary F op l r = .ok c) :
    inRange c ∧ binary F tok (valOf l) (valOf r) = .val (valOf c) :=
  (h ▸ cevalBinary_denotes F tok op htok hlog l r hl : Denotes _ _ (.ok c))

theorem cevalUnary_denotes (F : FloatOps) (tok : UnaryToken) (op : UnaryOp) (htok : tok.toOp = some op)
    (a : ConstantValue) (ha : inRange a) : Denotes False (unary F tok (valOf a)) (cevalUnary F op a) := by
  cases tok <;> cases htok <;> cases a
  case minus.refl.integer v => exact denotes_checked _ (-v)     -- range-checked
  case plus.refl.integer v => exact ⟨ha, rfl⟩
  case bitwiseNot.refl.integer v =>
    refine ⟨?_, rfl⟩
    simp only [inRange, representable_iff] at ha ⊢
    omega
  -- the other kinds: the value is read off (`-`/`+` on a float, `!` on a Boolean), or the refusal is no value error
  all_goals first | exact ⟨trivial, rfl⟩ | exact fun h => Bool.noConfusion h

theorem cevalUnary_sound (F : FloatOps) (tok : UnaryToken) (op : UnaryOp) (htok : tok.toOp = some op)
    (a c : ConstantValue) (ha : inRange a) (h : cevalUnary F op a = .ok c) :
    inRange c ∧ unary F tok (valOf a) = .val (valOf c) :=
  (h ▸ cevalUnary_denotes F tok op htok a ha : Denotes _ _ (.ok c))

end QV.Proofs.ConstFold
