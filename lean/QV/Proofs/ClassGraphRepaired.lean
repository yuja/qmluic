import QV.Model.ClassGraphRepaired
import QV.Proofs.ClassGraph

/-
  Lemmas about QV.Model.ClassGraph.Repaired — the query functions of /repo since the repair of F10 (8d2984c):
  with errors deferred, every answer is complete on *all* tables.  "search" is `findMapSelfAndBaseClasses`,
  "loop" is `findMapItems`.
-/
namespace QV.Proofs.ClassGraph.Repaired
open QV.Model.ClassGraph QV.Proofs.ClassGraph

/-- **What the repaired loop returns**: the answer of the first class on which `f` answers, whatever unresolved
    references surround it — and of that class everything holds that holds up to the first answering class
    (`Upto`); if `f` answers on no class, "not found" or the deferred error. -/
theorem loop_first_answer {α : Type} {f : ClassDecl → Lookup α} {Inv : ClassDecl → Prop} {l : List Item}
    (hU : Upto (f · = .notFound) Inv l) (fe : Option TypeMapError) :
    (∃ d, .ok d ∈ l ∧ Inv d ∧ f d ≠ .notFound ∧ Repaired.findMapItems f l fe = f d) ∨
    ((∀ d, .ok d ∈ l → f d = .notFound) ∧
      (Repaired.findMapItems f l fe = .notFound ∨
        ∃ e, Repaired.findMapItems f l fe = .error e ∧ (fe = some e ∨ .err e ∈ l))) := by
  induction l generalizing fe with
  | nil =>
    refine .inr ⟨fun _ hd => (nomatch hd), ?_⟩
    cases fe with
    | none => exact .inl rfl
    | some e => exact .inr ⟨e, rfl, .inl rfl⟩
  | cons i rest ih =>
    cases i with
    | err e =>
      -- the error is remembered unless one is remembered already
      have heq : Repaired.findMapItems f (.err e :: rest) fe = Repaired.findMapItems f rest (some (fe.getD e)) := by
        cases fe <;> rfl
      rw [heq]
      rcases ih hU (some (fe.getD e)) with ⟨d, h1, h2⟩ | ⟨hall, hres⟩
      · exact .inl ⟨d, List.mem_cons_of_mem _ h1, h2⟩
      · refine .inr ⟨fun d hd => hall d (List.mem_of_ne_of_mem Item.noConfusion hd),
          hres.imp id fun ⟨e', h1, h2⟩ => ⟨e', h1, ?_⟩⟩
        rcases h2 with h2 | h2
        · cases fe with
          | none => cases h2; exact .inr List.mem_cons_self
          | some e0 => exact .inl h2
        · exact .inr (List.mem_cons_of_mem _ h2)
    | ok c =>
      by_cases hfc : f c = .notFound
      · have heq : Repaired.findMapItems f (.ok c :: rest) fe = Repaired.findMapItems f rest fe := by
          rw [Repaired.findMapItems, hfc]
        rw [heq]
        rcases ih (hU.2 hfc) fe with ⟨d, h1, h2⟩ | ⟨hall, hres⟩
        · exact .inl ⟨d, List.mem_cons_of_mem _ h1, h2⟩
        · refine .inr ⟨fun d hd => ?_,
            hres.imp id fun ⟨e', h1, h2⟩ => ⟨e', h1, h2.imp id (List.mem_cons_of_mem _)⟩⟩
          rcases List.mem_cons.mp hd with h | h
          · cases h; exact hfc
          · exact hall d h
      · refine .inl ⟨c, List.mem_cons_self, hU.1, hfc, ?_⟩
        rw [Repaired.findMapItems]
        split
        · next h => exact absurd h hfc
        · rfl

theorem search_eq {α : Type} (t : Table) (self : ClassDecl) (f : ClassDecl → Lookup α) :
    Repaired.findMapSelfAndBaseClasses t self f = Repaired.findMapItems f (.ok self :: baseClasses t self) none := by
  rw [Repaired.findMapSelfAndBaseClasses, Repaired.findMapItems]

/-- **Which class decides the repaired search** (all tables).  Either the answer is the answer of a class reached
    from `self` on which `f` answers — and of which `Inv` holds, `Inv` being any property of `self` that passes from a
    class on which `f` does not answer to its public super classes — or `f` answers on no class reachable from
    `self` and the result is "not found" resp. the deferred error of an unresolved super class. -/
theorem search_first_answer {α : Type} {t : Table} {self : ClassDecl} {f : ClassDecl → Lookup α}
    {Inv : ClassDecl → Prop}
    (hself : Inv self)
    (step : ∀ a, Inv a → f a = .notFound →
      ∀ n ∈ a.publicSuperClassNames, ∀ c, lookupClass t.classes n = some c → Inv c) :
    (∃ d, Reach t self d ∧ Inv d ∧ f d ≠ .notFound ∧ Repaired.findMapSelfAndBaseClasses t self f = f d) ∨
    ((∀ d, Reach t self d → f d = .notFound) ∧
      (Repaired.findMapSelfAndBaseClasses t self f = .notFound ∨
        ∃ e, Repaired.findMapSelfAndBaseClasses t self f = .error e ∧ .err e ∈ baseClasses t self)) := by
  have hU : Upto (f · = .notFound) Inv (.ok self :: baseClasses t self) :=
    ⟨hself, fun hfs => run_upto step (baseClasses_run t self) fun n hn c hc =>
      step self hself hfs n (by simpa using hn) c hc⟩
  rw [search_eq]
  rcases loop_first_answer hU none with ⟨d, hd, h⟩ | ⟨hall, hres⟩
  · exact .inl ⟨d, mem_self_baseClasses.mp hd, h⟩
  · refine .inr ⟨fun d hd => hall d (mem_self_baseClasses.mpr hd), hres.imp id fun ⟨e, h1, h2⟩ => ⟨e, h1, ?_⟩⟩
    rcases h2 with h2 | h2
    · cases h2
    · exact List.mem_of_ne_of_mem Item.noConfusion h2

theorem search_cases {α : Type} (t : Table) (self : ClassDecl) (f : ClassDecl → Lookup α) :
    (∃ d, Reach t self d ∧ f d ≠ .notFound ∧ Repaired.findMapSelfAndBaseClasses t self f = f d) ∨
    ((∀ d, Reach t self d → f d = .notFound) ∧
      (Repaired.findMapSelfAndBaseClasses t self f = .notFound ∨
        ∃ e, Repaired.findMapSelfAndBaseClasses t self f = .error e ∧ .err e ∈ baseClasses t self)) :=
  (search_first_answer (Inv := fun _ => True) trivial fun _ _ _ _ _ _ _ => trivial).imp
    (fun ⟨d, hr, _, h⟩ => ⟨d, hr, h⟩) id

theorem search_found {α : Type} {t : Table} {self : ClassDecl} {f : ClassDecl → Lookup α} {x : α}
    (h : Repaired.findMapSelfAndBaseClasses t self f = .found x) : ∃ d, Reach t self d ∧ f d = .found x := by
  rcases search_cases t self f with ⟨d, hr, _, heq⟩ | ⟨_, h0 | ⟨e, h0, _⟩⟩
  · exact ⟨d, hr, heq ▸ h⟩
  · rw [h0] at h; cases h
  · rw [h0] at h; cases h

theorem search_hit {α : Type} {t : Table} {self d : ClassDecl} {f : ClassDecl → Lookup α}
    (hr : Reach t self d) (hf : f d ≠ .notFound) :
    ∃ d', Reach t self d' ∧ f d' ≠ .notFound ∧ Repaired.findMapSelfAndBaseClasses t self f = f d' := by
  rcases search_cases t self f with h | ⟨hall, _⟩
  · exact h
  · exact absurd (hall d hr) hf

/-- the class's own answer — `Ok` or `Err` — is the result: nothing falls through to an ancestor -/
theorem search_own {α : Type} (t : Table) (self : ClassDecl) (f : ClassDecl → Lookup α) (h : f self ≠ .notFound) :
    Repaired.findMapSelfAndBaseClasses t self f = f self := by
  rw [Repaired.findMapSelfAndBaseClasses]
  split
  · next hf => exact absurd hf h
  · rfl

theorem loop_congr {α : Type} {f g : ClassDecl → Lookup α} {l : List Item} (h : ∀ d, .ok d ∈ l → f d = g d)
    (fe : Option TypeMapError) : Repaired.findMapItems f l fe = Repaired.findMapItems g l fe := by
  induction l generalizing fe with
  | nil => cases fe <;> rfl
  | cons i rest ih =>
    have hrest : ∀ d, Item.ok d ∈ rest → f d = g d := fun d hd => h d (List.mem_cons_of_mem _ hd)
    cases i with
    | err e =>
      cases fe with
      | none => exact ih hrest _
      | some e0 => exact ih hrest _
    | ok c =>
      simp only [Repaired.findMapItems, h c List.mem_cons_self]
      cases g c with
      | notFound => exact ih hrest _
      | found x => rfl
      | error e => rfl

theorem search_congr {α : Type} {t : Table} {self : ClassDecl} {f g : ClassDecl → Lookup α}
    (hs : lookupClass t.classes self.name = some self)
    (h : ∀ d, lookupClass t.classes d.name = some d → f d = g d) :
    Repaired.findMapSelfAndBaseClasses t self f = Repaired.findMapSelfAndBaseClasses t self g := by
  rw [search_eq, search_eq]
  exact loop_congr (fun d hd => h d (reach_handle (mem_self_baseClasses.mp hd) hs)) none

section member
variable {α : Type} {t : Table} {f : ClassDecl → Lookup α} {P : ClassDecl → Prop} {owner : α → ClassDecl}

/-- a per-class look-up that never fails (`P d`: class `d` declares the member).  Those of QV.Model.ClassGraph.Repaired
    are such because its member types are `int`/`void`, which always resolve; with declared member types
    (QV.Model.ClassGraph.Typed) a per-class look-up can answer with an error, and `search_first_answer` applies instead -/
structure TotalMemberLookup (f : ClassDecl → Lookup α) (P : ClassDecl → Prop) (owner : α → ClassDecl) : Prop where
  found : ∀ d x, f d = .found x → owner x = d ∧ P d
  notFound : ∀ d, f d = .notFound → ¬ P d
  noError : ∀ d e, f d ≠ .error e

/-- a per-class look-up that answers with `g d` exactly on the classes that declare the member -/
theorem TotalMemberLookup.ite [DecidablePred P] {g : ClassDecl → α} (ho : ∀ d, owner (g d) = d) :
    TotalMemberLookup (fun d => if P d then .found (g d) else .notFound) P owner := by
  refine ⟨fun d x h => ?_, fun d h => ?_, fun d e h => ?_⟩ <;> split at h <;> cases h
  · exact ⟨ho d, ‹P d›⟩
  · assumption

theorem TotalMemberLookup.sound (m : TotalMemberLookup f P owner) {self : ClassDecl} {x : α}
    (h : Repaired.findMapSelfAndBaseClasses t self f = .found x) : Reach t self (owner x) ∧ P (owner x) := by
  obtain ⟨d, hd, hfd⟩ := search_found h
  obtain ⟨h1, h2⟩ := m.found d x hfd
  rw [h1]; exact ⟨hd, h2⟩

theorem TotalMemberLookup.complete (m : TotalMemberLookup f P owner) {self d : ClassDecl}
    (hd : Reach t self d) (hp : P d) : ∃ x, Repaired.findMapSelfAndBaseClasses t self f = .found x := by
  have hf : f d ≠ .notFound := fun h => m.notFound d h hp
  obtain ⟨d', _, h2, h3⟩ := search_hit (t := t) hd hf
  cases hfd : f d' with
  | found x => exact ⟨x, by rw [h3, hfd]⟩
  | notFound => exact absurd hfd h2
  | error e => exact absurd hfd (m.noError d' e)

theorem TotalMemberLookup.own_first (m : TotalMemberLookup f P owner) {self : ClassDecl} (hp : P self) :
    ∃ x, Repaired.findMapSelfAndBaseClasses t self f = .found x ∧ owner x = self := by
  cases h : f self with
  | found x => exact ⟨x, by rw [search_own t self f (by simp [h]), h], (m.found self x h).1⟩
  | notFound => exact absurd hp (m.notFound self h)
  | error e => exact absurd h (m.noError self e)

theorem TotalMemberLookup.none (m : TotalMemberLookup f P owner) {self : ClassDecl}
    (h : ¬ ∃ x, Repaired.findMapSelfAndBaseClasses t self f = .found x) : ∀ d, Reach t self d → ¬ P d :=
  fun _ hd hp => h (m.complete hd hp)

end member

theorem getType_eq_found {t : Table} {self : ClassDecl} {n : Name} {x : ClassDecl × EnumDecl} :
    Repaired.getType t self n = .found x ↔
      Repaired.findMapSelfAndBaseClasses t self (fun cls => getTypeNoSuper cls n) = .found x := by
  unfold Repaired.getType
  cases Repaired.findMapSelfAndBaseClasses t self (fun cls => getTypeNoSuper cls n) <;> simp

theorem getType_ne_error (t : Table) (self : ClassDecl) (n : Name) (e : TypeMapError) :
    Repaired.getType t self n ≠ .error e := by
  unfold Repaired.getType
  cases Repaired.findMapSelfAndBaseClasses t self (fun cls => getTypeNoSuper cls n) <;> simp

theorem getType_found_name {t : Table} {self : ClassDecl} {n : Name} {x : ClassDecl × EnumDecl}
    (h : Repaired.getType t self n = .found x) : x.2.name = n := by
  obtain ⟨d, _, hd⟩ := search_found (getType_eq_found.mp h)
  exact (getTypeNoSuper_found hd).2.2

theorem resolveMemberType_found (t : Table) (d : ClassDecl) (ty : Name) :
    Repaired.resolveMemberType t d ty = .found () := by
  unfold Repaired.resolveMemberType
  cases h : Repaired.getType t d ty with
  | error e => exact absurd h (getType_ne_error t d ty e)
  | found x => rfl
  | notFound => rfl

theorem resolveMemberTypes_found (t : Table) (d : ClassDecl) (tys : List Name) :
    Repaired.resolveMemberTypes t d tys = .found () := by
  induction tys with
  | nil => rfl
  | cons ty rest ih => simp only [Repaired.resolveMemberTypes, resolveMemberType_found, ih]

theorem getType_total (n : Name) :
    TotalMemberLookup (fun cls => getTypeNoSuper cls n) (fun d => ∃ e ∈ d.enums, e.name = n) (·.1) :=
  ⟨fun _ x h => ⟨(getTypeNoSuper_found h).1, x.2, (getTypeNoSuper_found h).2⟩, fun _ => getTypeNoSuper_notFound,
    fun d => getTypeNoSuper_ne_error d n⟩

theorem getEnumByVariant_total (v : Name) :
    TotalMemberLookup (fun cls => getEnumByVariantNoSuper cls v)
      (fun d => ∃ e ∈ d.enums, e.isScoped = false ∧ v ∈ e.variants) (·.1) :=
  ⟨fun _ x h => ⟨(getEnumByVariantNoSuper_found h).1, x.2, (getEnumByVariantNoSuper_found h).2⟩,
    fun _ => getEnumByVariantNoSuper_notFound, fun d => getEnumByVariantNoSuper_ne_error d v⟩

/-- the member type `int` always resolves, so a property is found where it is declared -/
theorem getPropertyNoSuper_eq (t : Table) (d : ClassDecl) (p : Name) :
    Repaired.getPropertyNoSuper t d p = if p ∈ d.props then .found d else .notFound := by
  rw [Repaired.getPropertyNoSuper, resolveMemberType_found]

theorem getProperty_total (t : Table) (p : Name) :
    TotalMemberLookup (fun cls => Repaired.getPropertyNoSuper t cls p) (fun d => p ∈ d.props) id := by
  simp only [getPropertyNoSuper_eq]
  exact .ite fun _ => rfl

theorem getPublicMethodNoSuper_eq (t : Table) (d : ClassDecl) (m : Name) :
    Repaired.getPublicMethodNoSuper t d m =
      if methodSlice (methodTable d) m ≠ [] then .found (d, methodSlice (methodTable d) m) else .notFound := by
  rw [Repaired.getPublicMethodNoSuper]
  split
  · next h => rw [if_neg (not_not_intro h)]
  · next h => rw [resolveMemberTypes_found, if_pos h]

theorem getPublicMethod_total (t : Table) (m : Name) :
    TotalMemberLookup (fun cls => Repaired.getPublicMethodNoSuper t cls m)
      (fun d => methodSlice (methodTable d) m ≠ []) (·.1) := by
  simp only [getPublicMethodNoSuper_eq]
  exact .ite fun _ => rfl

theorem derives_eq_search (t : Table) (self base : ClassDecl) :
    Repaired.isDerivedFromPedantic t self base =
      Repaired.findMapSelfAndBaseClasses t self fun c => if c.name = base.name then .found () else .notFound := by
  unfold Repaired.isDerivedFromPedantic Repaired.findMapSelfAndBaseClasses
  split
  · next h => simp only [h, if_true]
  · next h => simp only [h, if_false]

theorem pedantic_found_iff {t : Table} {self base : ClassDecl}
    (hs : lookupClass t.classes self.name = some self) (hb : lookupClass t.classes base.name = some base) :
    Repaired.isDerivedFromPedantic t self base = .found () ↔ Reach t self base := by
  rw [derives_eq_search]
  constructor
  · intro h
    obtain ⟨d, hr, hfd⟩ := search_found h
    split at hfd
    · next hn => rw [← handle_eq_of_name_eq (reach_handle hr hs) hb hn]; exact hr
    · cases hfd
  · intro hr
    obtain ⟨d', _, h2, h3⟩ := search_hit (f := fun c => if c.name = base.name then Lookup.found () else .notFound)
      hr (by simp)
    rw [h3]
    split
    · rfl
    · next hne => simp [hne] at h2

theorem isDerivedFrom_iff {t : Table} {self base : ClassDecl}
    (hs : lookupClass t.classes self.name = some self) (hb : lookupClass t.classes base.name = some base) :
    Repaired.isDerivedFrom t self base = true ↔ Reach t self base := by
  rw [← pedantic_found_iff hs hb]
  unfold Repaired.isDerivedFrom
  cases Repaired.isDerivedFromPedantic t self base <;> simp

theorem commonBase_sound {t : Table} {self other c : ClassDecl}
    (hs : lookupClass t.classes self.name = some self) (ho : lookupClass t.classes other.name = some other)
    (h : Repaired.commonBaseClass t self other = .found c) : Reach t self c ∧ Reach t other c := by
  unfold Repaired.commonBaseClass at h
  cases heq : Repaired.findMapSelfAndBaseClasses t self (Repaired.commonBaseStep t other) with
  | notFound =>
    simp only [heq] at h
    split at h <;> cases h
  | error e => simp only [heq] at h; cases h
  | found r =>
    simp only [heq] at h
    cases h
    obtain ⟨d, hd, hfd⟩ := search_found heq
    unfold Repaired.commonBaseStep at hfd
    split at hfd
    · next hp => cases hfd; exact ⟨hd, (pedantic_found_iff ho (reach_handle hd hs)).mp hp⟩
    · cases hfd

theorem commonBase_complete {t : Table} {self other c : ClassDecl}
    (hs : lookupClass t.classes self.name = some self) (ho : lookupClass t.classes other.name = some other)
    (h1 : Reach t self c) (h2 : Reach t other c) : ∃ c', Repaired.commonBaseClass t self other = .found c' := by
  have hp := (pedantic_found_iff ho (reach_handle h1 hs)).mpr h2
  have hstep : ∀ d, Repaired.commonBaseStep t other d ≠ .notFound → Repaired.commonBaseStep t other d = .found d := by
    intro d hne
    unfold Repaired.commonBaseStep at hne ⊢
    split at hne
    · rfl
    · exact absurd rfl hne
  obtain ⟨d', _, hne, heq⟩ := search_hit (t := t) (self := self) (d := c) (f := Repaired.commonBaseStep t other) h1
    (by unfold Repaired.commonBaseStep; rw [hp]; simp)
  refine ⟨d', ?_⟩
  unfold Repaired.commonBaseClass
  rw [heq, hstep d' hne]

end QV.Proofs.ClassGraph.Repaired
