/-
  Shared by the expression inductions: the constants folding produces (`ConstOk`, `fold_const_*`), equations of the
  reference semantics, the agreement of the three contexts (`Agree`), the operands a walk returns (`OperandOk`).
  Then the single-block form of the induction's claim for expressions without `&&`, `||`, `?:` and with no variable in
  scope (`Straight`, `Sound`, `Result`): the walk only appends statements (`Grows` instead of `Walked`), and executing
  them yields the reference value.  `walk_straight` proves it in QV.Proofs.SemCfgCtl, from `walk_cfg`, which contains
  the fragment (`straight_cfgFrag`).
-/
import QV.Proofs.SemWalk
import QV.Proofs.SemFold

namespace QV.Proofs.SemStraight
open QV.Model QV.Model.IrSem QV.Proofs.SemIr QV.Proofs.SemVisit QV.Proofs.SemWalk
open QV.Spec.Sem (Val World Host Ev Ty STy coerceTo binop unop)

/-- constants the fragment produces: integers within 64 bits, booleans -/
def ConstOk : ConstantValue → Prop
  | .integer k => QV.Spec.ConstSem.representable k = true
  | .bool _ => True
  | _ => False

theorem cmpBy_bool (o : CmpOp) (a b : Bool) :
    cmpBy o (· == ·) (fun x y => !x && y) a b = QV.Spec.Sem.cmpOrd o (a == b) (!a && b) (!b && a) := by
  cases o <;> cases a <;> cases b <;> rfl

theorem ConstOk.intOrBool {c : ConstantValue} (h : ConstOk c) : QV.Proofs.SemFold.IntOrBool c := by
  cases c with
  | integer _ | bool _ => trivial
  | _ => exact h

theorem fold_const_binary (F : FloatOps) (env : Env) (b : Builder) (op : BinaryOp)
    (hlog : ∀ lop, op ≠ .logical lop) (cl cr : ConstantValue) (hl : ConstOk cl) (hr : ConstOk cr)
    (res : Operand) (b' : Builder)
    (h : visitBinaryExpression F env b op (.const cl) (.const cr) = .ok (res, b')) :
    b' = b ∧ ∃ c, res = .const c ∧ ConstOk c ∧ ∀ (ic : ICtx) (L : IrSem.Locals) (vl vr v : Val),
      evalOperand ic L (.const cl) = some vl → evalOperand ic L (.const cr) = some vr → binop F op vl vr = some v →
      evalOperand ic L res = some v := by
  obtain ⟨hb, hs⟩ := QV.Proofs.SemFold.visitBinary_shape hlog hl.intOrBool hr.intOrBool h
  refine ⟨hb, ?_⟩
  -- two integers: the folder's answer is the reference value (`fold_agrees_spec`)
  have hval : ∀ x y, cl = .integer x → cr = .integer y → ∀ (ic : ICtx) (L : IrSem.Locals) (vl vr v : Val),
      evalOperand ic L (.const cl) = some vl → evalOperand ic L (.const cr) = some vr → binop F op vl vr = some v →
      evalOperand ic L res = some v := by
    rintro x y rfl rfl ic L vl vr v hvl hvr hv
    cases hvl; cases hvr
    obtain ⟨_, v', he, hv'⟩ := QV.Proofs.SemFold.fold_agrees_spec ic L F env b op hlog x y hl _ b' h
    rw [hv'] at hv
    cases hv
    exact he
  cases hs with
  | int x y k _ =>
    -- an integer answer is in range (C03)
    obtain ⟨_, cst, hres, hin, _⟩ := QV.Props.C03.fold_binary_sound F env b (QV.Spec.Sem.tokOf op) op
      (QV.Proofs.SemFold.tokOf_toOp op) hlog (.integer x) (.integer y) hl _ b' h
    cases hres
    exact ⟨_, rfl, hin, hval x y rfl rfl⟩
  | intCmp x y c k _ => exact ⟨_, rfl, trivial, hval x y rfl rfl⟩
  | boolBit x y o hop =>
    subst hop
    refine ⟨_, rfl, trivial, ?_⟩
    intro ic L vl vr v hvl hvr hv
    cases hvl; cases hvr
    simp only [binop, QV.Spec.Sem.unify, Option.some.injEq] at hv
    subst hv
    cases o <;> rfl
  | boolCmp x y o hop =>
    subst hop
    refine ⟨_, rfl, trivial, ?_⟩
    intro ic L vl vr v hvl hvr hv
    cases hvl; cases hvr
    simp only [binop, QV.Spec.Sem.unify, Option.some.injEq] at hv
    subst hv
    simp only [evalOperand, cmpBy_bool]

theorem representable_neg_sub (a : Int) (h : QV.Spec.ConstSem.representable a = true) :
    QV.Spec.ConstSem.representable (-a - 1) = true := by
  rw [QV.Proofs.ConstFold.representable_iff] at h ⊢
  omega

theorem fold_const_unary (F : FloatOps) (b : Builder) (op : UnaryOp)
    (c : ConstantValue) (hc : ConstOk c) (res : Operand) (b' : Builder)
    (h : visitUnaryExpression F b op (.const c) = .ok (res, b')) :
    b' = b ∧ ∃ c', res = .const c' ∧ ConstOk c' ∧ ∀ (ic : ICtx) (L : IrSem.Locals) (va v : Val),
      evalOperand ic L (.const c) = some va → unop F op va = some v → evalOperand ic L res = some v := by
  cases c with
  | integer x =>
    have he : ∀ (ic : ICtx) (L : IrSem.Locals) (va v : Val), evalOperand ic L (.const (.integer x)) = some va →
        unop F op va = some v → evalOperand ic L res = some v := by
      intro ic L va v hva hv
      cases hva
      obtain ⟨_, v', he', hu⟩ := QV.Proofs.SemFold.fold_unary_agrees_spec ic L F b op x hc res b' h
      rw [hu] at hv; cases hv; exact he'
    obtain ⟨hb, ⟨-, rfl⟩ | ⟨-, hr, rfl⟩ | ⟨-, rfl⟩⟩ := QV.Proofs.SemFold.visitUnary_const h
    · exact ⟨hb, _, rfl, hc, he⟩
    · exact ⟨hb, _, rfl, hr, he⟩
    · exact ⟨hb, _, rfl, representable_neg_sub x hc, he⟩
  | bool x =>
    obtain ⟨hb, rfl, rfl⟩ := QV.Proofs.SemFold.visitUnary_const h
    refine ⟨hb, _, rfl, trivial, ?_⟩
    intro ic L va v hva hv
    cases hva
    simp only [unop, Option.some.injEq] at hv
    subst hv
    rfl
  | _ => exact absurd hc (by simp [ConstOk])

theorem spec_integer (c : QV.Spec.Sem.Ctx) (v : Nat) (s : QV.Spec.Sem.St) :
    QV.Spec.Sem.evalExpr c (.integer v) s = if (v : Int) < (2 : Int) ^ 63 then some (.cint v, s) else none := by
  rw [QV.Spec.Sem.evalExpr.eq_def]

theorem spec_bool (c : QV.Spec.Sem.Ctx) (v : Bool) (s : QV.Spec.Sem.St) :
    QV.Spec.Sem.evalExpr c (.bool v) s = some (.bool v, s) := by
  rw [QV.Spec.Sem.evalExpr.eq_def]

theorem spec_unary (c : QV.Spec.Sem.Ctx) (tok : UnaryToken) (a : Expr) (s : QV.Spec.Sem.St) :
    QV.Spec.Sem.evalExpr c (.unary tok a) s =
      match tok.toOp, QV.Spec.Sem.evalExpr c a s with
      | some op, some (v, s) => (unop c.H.F op v).map fun r => (r, s)
      | _, _ => none := by
  rw [QV.Spec.Sem.evalExpr.eq_def]
  simp only
  cases tok.toOp <;> rcases QV.Spec.Sem.evalExpr c a s with _ | ⟨v, s1⟩ <;> rfl

theorem spec_binary (c : QV.Spec.Sem.Ctx) (tok : BinaryToken) (op : BinaryOp) (l r : Expr) (s : QV.Spec.Sem.St)
    (htok : tok.toOp = some op) (hlog : ∀ lop, op ≠ .logical lop) :
    QV.Spec.Sem.evalExpr c (.binary tok l r) s =
      match QV.Spec.Sem.evalExpr c l s with
      | none => none
      | some (a, s) =>
        match QV.Spec.Sem.evalExpr c r s with
        | none => none
        | some (b, s) => (binop c.H.F op a b).map fun v => (v, s) := by
  rw [QV.Spec.Sem.evalExpr.eq_def]
  simp only [htok]
  cases op with
  | logical lop => exact absurd rfl (hlog lop)
  | _ => rfl

theorem spec_unary_some {c : QV.Spec.Sem.Ctx} {tok : UnaryToken} {u : UnaryOp} {a : Expr} {s s' : QV.Spec.Sem.St} {v : Val}
    (htok : tok.toOp = some u) (h : QV.Spec.Sem.evalExpr c (.unary tok a) s = some (v, s')) :
    ∃ va, QV.Spec.Sem.evalExpr c a s = some (va, s') ∧ unop c.H.F u va = some v := by
  rw [spec_unary, htok] at h
  cases hsa : QV.Spec.Sem.evalExpr c a s with
  | none => simp [hsa] at h
  | some p =>
    obtain ⟨va, sa⟩ := p
    simp only [hsa, Option.map_eq_some_iff, Prod.mk.injEq] at h
    obtain ⟨v', hu, rfl, rfl⟩ := h
    exact ⟨va, rfl, hu⟩

theorem spec_binary_some {c : QV.Spec.Sem.Ctx} {tok : BinaryToken} {op : BinaryOp} {l r : Expr} {s s' : QV.Spec.Sem.St}
    {v : Val} (htok : tok.toOp = some op) (hlog : ∀ lop, op ≠ .logical lop)
    (h : QV.Spec.Sem.evalExpr c (.binary tok l r) s = some (v, s')) :
    ∃ va sa vb, QV.Spec.Sem.evalExpr c l s = some (va, sa) ∧ QV.Spec.Sem.evalExpr c r sa = some (vb, s') ∧
      binop c.H.F op va vb = some v := by
  rw [spec_binary c tok op l r s htok hlog] at h
  cases hsl : QV.Spec.Sem.evalExpr c l s with
  | none => simp [hsl] at h
  | some p =>
    obtain ⟨va, sa⟩ := p
    simp only [hsl] at h
    cases hsr : QV.Spec.Sem.evalExpr c r sa with
    | none => simp [hsr] at h
    | some q =>
      obtain ⟨vb, sb⟩ := q
      simp only [hsr, Option.map_eq_some_iff, Prod.mk.injEq] at h
      obtain ⟨v', hbin, rfl, rfl⟩ := h
      exact ⟨va, sa, vb, rfl, hsr, hbin⟩

/-- the three contexts describe the same host, object ids and property types: what the expression fragment needs of
    `QV.Props.C01.CtxAgree` (which also relates `this`, methods, type names and enum variants) -/
structure Agree (wc : Ctx) (sc : QV.Spec.Sem.Ctx) (ic : ICtx) : Prop where
  host : sc.H = ic.H
  float : sc.H.F = wc.F
  objects : ∀ name cls, wc.objects.find? (·.1 = name) = some (name, cls) →
    ∃ o, sc.objects.find? (·.1 = name) = some (name, o, cls) ∧ ic.named name = some o
  props : ∀ cls p, sc.propTy cls p =
    ((wc.env.findClass cls).bind fun ci => ci.props.find? (·.name = p)).map fun pi => styOf pi.ty

/-- the straight-line expression fragment -/
inductive Straight (wc : Ctx) : Expr → Prop
  | int (v : Nat) : Straight wc (.integer v)
  | bool (b : Bool) : Straight wc (.bool b)
  | read (o p cls : String) (ci : ClassInfo) (pinfo : PropInfo) :
      wc.objects.find? (·.1 = o) = some (o, cls) → wc.env.findClass cls = some ci →
      ci.props.find? (·.name = p) = some pinfo → pinfo.ty ≠ .void → Straight wc (.member (.ident o) p)
  | unary (tok : UnaryToken) (a : Expr) : Straight wc a → Straight wc (.unary tok a)
  | binary (tok : BinaryToken) (op : BinaryOp) (l r : Expr) : tok.toOp = some op → (∀ lop, op ≠ .logical lop) →
      Straight wc l → Straight wc r → Straight wc (.binary tok l r)

/-- what a walk of the fragment returns: a folded integer / bool constant, or one of the `n` locals allocated so far -/
def OperandOk (n : Nat) : Operand → Prop
  | .const c => ConstOk c
  | .local m _ => m < n
  | _ => False

theorem OperandOk.fresh {l l' : List TypeKind} {ty ty' : TypeKind} (h : l' = l ++ [ty]) :
    OperandOk l'.length (.local l.length ty') := by
  show l.length < l'.length
  rw [h, List.length_append]
  exact Nat.lt_succ_self _

theorem OperandOk.mono {n n' : Nat} {op : Operand} (h : OperandOk n op) (hn : n ≤ n') : OperandOk n' op := by
  cases op <;> simp_all [OperandOk] <;> omega

theorem evalOperand_agree (ic : ICtx) (L L' : IrSem.Locals) (n : Nat) (op : Operand) (hok : OperandOk n op)
    (h : ∀ m, m < n → L' m = L m) : evalOperand ic L' op = evalOperand ic L op := by
  cases op with
  | const c => cases c <;> rfl
  | «local» m ty => simp only [evalOperand]; exact h m hok
  | _ => exact absurd hok (by simp [OperandOk])

/-- the emitted statements compute the value the reference semantics gives to `e`, in every state and for every final
    list of locals that extends the builder's -/
def Sound (sc : QV.Spec.Sem.Ctx) (ic : ICtx) (e : Expr) (nOld : Nat) (ss : List Statement) (op : Operand)
    (locals' : List TypeKind) : Prop :=
  ∀ (LL : List TypeKind), locals' <+: LL →
  ∀ (st : State) (sst sst' : QV.Spec.Sem.St) (v : Val),
    sst.vars = [] → sst.w = st.w → (∀ x q u, st.w.prop x q = some u → isCint u = false) →
    QV.Spec.Sem.evalExpr sc e sst = some (v, sst') →
    sst' = sst ∧ ∃ st', execStatements ic LL ss st = some st' ∧ evalOperand ic st'.L op = some v ∧
      (∀ m, m < nOld → st'.L m = st.L m) ∧ st'.w = st.w ∧ st'.trace = st.trace ∧
      ((∀ c, op ≠ .const c) → isCint v = false)

theorem prefix_getElem? {α} {l LL : List α} (h : l <+: LL) (n : Nat) (x : α) (hx : l[n]? = some x) : LL[n]? = some x := by
  obtain ⟨t, rfl⟩ := h
  rw [List.getElem?_append_left (lt_length_of_getElem? hx)]
  exact hx

def Result (sc : QV.Spec.Sem.Ctx) (ic : ICtx) (e : Expr) (s s' : WState) (op : Operand) : Prop :=
  ∃ ss, s'.locals = [] ∧ Grows s.b ss s'.b ∧ OperandOk s'.b.code.locals.length op ∧
    Sound sc ic e s.b.code.locals.length ss op s'.b.code.locals

end QV.Proofs.SemStraight
