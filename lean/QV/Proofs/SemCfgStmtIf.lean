/-
  QV.Props.C01 — the `if` statement in the CFG-level induction over statement lists: `if (c) { A } else { B }` and
  `if (c) { A }` followed by more statements, where the branch bodies are lists of assignments to variables in scope
  (`BodyFrag`).  The condition's exit block branches to the first block of a branch, each branch's exit block jumps to
  the new current block (`visit_if_statement`); the variables' values are in their locals at the join.
  The step itself (`g_if`, for both forms) asks of a branch only `BranchOk` — it reaches its exit position with the states
  related, or returns — and sees the finished walks of condition and branches inside the final builder as `Piece`s.
  The steps (`g_`) are for every `Tail`, as in SemCfgStmt; `walk_i` is the induction over `IFrag`.
-/
import QV.Proofs.SemCfgStmt

namespace QV.Proofs.SemCfgStmtIf
open QV.Model QV.Model.IrSem QV.Proofs.SemIr QV.Proofs.SemVisit QV.Proofs.SemWalk QV.Proofs.SemStraight
open QV.Proofs.SemCfg QV.Proofs.SemCfgWalk QV.Proofs.SemCfgCtl QV.Proofs.SemCfgBlock QV.Proofs.SemCfgStmt
open QV.Spec.Sem (Val World Host Ev Ty STy coerceTo binop unop staticTy)

theorem run_attempt {α} (x : W α) (s : WState) : (attempt x).run s = (some (x.run s).1, (x.run s).2) := rfl

/-- `if (c) a [else b]` as a successful walk: the walks of the condition and of the branches, each branch in a block of its
    own and with the name map of the condition's exit, then `visit_if_statement` -/
theorem run_if (wc : Ctx) (cnd : Expr) (a : Stmt) (b : Option Stmt) (s s' : WState)
    (h : BuilderInv.StmtRun wc none (.if_ cnd a b) s s') :
    ∃ cop s1 s2, (walkRvalue wc cnd).run s = (some cop, s1) ∧
      BuilderInv.StmtRun wc none a { s1 with b := s1.b.newBlock.2 } s2 ∧
      match b with
      | none => s'.locals = s1.locals ∧
          s'.b = visitIfStatement s2.b.newBlock.2 cop s1.b.currentRef s2.b.currentRef none
      | some n => ∃ s3, BuilderInv.StmtRun wc none n { s2 with b := s2.b.newBlock.2, locals := s1.locals } s3 ∧
          s'.locals = s1.locals ∧
          s'.b = visitIfStatement s3.b.newBlock.2 cop s1.b.currentRef s2.b.currentRef (some s3.b.currentRef) := by
  -- the visitor stays behind the equation the derivation gives for it: substituted, the unifier would unfold it
  cases h with
  | if_ hc ha _ hb => exact ⟨_, _, _, hc.run_eq, ha, rfl, hb⟩
  | ifElse hc ha hn _ hb => exact ⟨_, _, _, hc.run_eq, ha, _, hn, rfl, hb⟩

/-- branch bodies: `A ::= ε | x = e; A` (x a variable in scope, e in `CfgFrag`) -/
inductive BodyFrag (wc : Ctx) (scope : List String) : List Stmt → Prop
  | nil : BodyFrag wc scope []
  | assign (x : String) (e : Expr) (rest : List Stmt) : x ∈ scope → CfgFrag wc scope e → BodyFrag wc scope rest →
      BodyFrag wc scope (.expr (.assign (.ident x) e) :: rest)

/-- what the walk of a branch body achieves: a CFG walk that leaves the name map as it is, and over any covering final
    code execution from the entry position reaches the exit position in a state in which the variables — updated as the
    reference semantics updates them — are in their locals again; the world is untouched -/
def BodyOk (wc : Ctx) (sc : QV.Spec.Sem.Ctx) (ic : ICtx) (wl : QV.Model.Locals)
    (vars : List QV.Spec.Sem.Var) (body : List Stmt) : Prop :=
  ∀ s s', (walkStmts wc none body).run s = (some true, s') → s.locals = wl → VarRel s.b.code.locals wl vars →
    VarInj wl → (∃ blk, OpenAt s.b blk) →
    s'.locals = wl ∧ Walked s.b s'.b ∧
      ∀ C, Covers C s'.b s.b.currentRef →
      ∀ (st : State) (sst : QV.Spec.Sem.St) (o : QV.Spec.Sem.Outcome) (sst' : QV.Spec.Sem.St),
        shapeOf sst.vars = shapeOf vars → sst.w = st.w → (∀ x q u, st.w.prop x q = some u → isCint u = false) →
        ValRel wl sst.vars st.L →
        QV.Spec.Sem.execStmts sc body sst = some (o, sst') →
        (∃ w, o = .normal w) ∧ shapeOf sst'.vars = shapeOf vars ∧ ∃ d st', d ≤ s'.b.currentRef - s.b.currentRef ∧
          (∀ fuel, runAt ic C (fuel + d) s.b.currentRef (curLen s.b) st =
            runAt ic C fuel s'.b.currentRef (curLen s'.b) st') ∧
          ValRel wl sst'.vars st'.L ∧ sst'.w = st'.w ∧ st'.w = st.w

theorem body_nil (wc : Ctx) (sc : QV.Spec.Sem.Ctx) (ic : ICtx) (wl : QV.Model.Locals) (vars : List QV.Spec.Sem.Var) :
    BodyOk wc sc ic wl vars [] := by
  intro s s' h hl _ _ ⟨blk, ho⟩
  cases stmtsRun h
  refine ⟨hl, Walked.of_grows (Grows.refl s.b blk ho), ?_⟩
  intro C _ st sst o sst' hvars hw _ hval hsp
  rw [QV.Spec.Sem.execStmts.eq_def] at hsp
  simp only [Option.some.injEq, Prod.mk.injEq] at hsp
  obtain ⟨rfl, rfl⟩ := hsp
  exact ⟨⟨_, rfl⟩, hvars, 0, st, by omega, fun _ => rfl, hval, hw, rfl⟩

theorem body_assign (wc : Ctx) (sc : QV.Spec.Sem.Ctx) (ic : ICtx) (wl : QV.Model.Locals)
    (vars : List QV.Spec.Sem.Var) (x : String) (n : Nat) (k : DeclKind) (e : Expr) (rest : List Stmt)
    (hx : wl.get? x = some (n, k)) (he : WalkOk wc sc ic wl vars e) (hrest : BodyOk wc sc ic wl vars rest) :
    BodyOk wc sc ic wl vars (.expr (.assign (.ident x) e) :: rest) := by
  intro s s' h hl hvr hinj ho
  obtain ⟨sd, hd, h⟩ := run_stmts_cons_ok wc _ rest s s' h
  obtain ⟨hsdl, wd, hstep⟩ := assign_step wc sc ic wl vars x n k e hx he s sd hd hl hvr hinj ho
  obtain ⟨hl2, w2, hsim2⟩ := hrest sd s' h hsdl (hvr.mono wd.locals) hinj wd.exitOpen
  refine ⟨hl2, wd.trans w2, ?_⟩
  intro C hC st sst out sst' hvars hw hnc hval hsp
  obtain ⟨sst1, st1, out', hrel1, hw1, hrs, hout, d, hd1, hrun⟩ :=
    hstep C (Covers.of_ext w2.toExt hC wd.cur_le) st sst rest out sst' ⟨hvars, hw, hnc, hval⟩ hsp
  obtain ⟨⟨w, hout'⟩, hsh2, d2, st2, hd2, hrun2, hval2, hww2, hw2⟩ :=
    hsim2 C (hC.mono wd.cur_le) st1 sst1 out' sst' hrel1.shape hrel1.world hrel1.nc hrel1.vals hrs
  refine ⟨⟨_, by rw [hout, hout']; rfl⟩, hsh2, d + d2, st2,
    fuel_seq hd1 wd.cur_le hd2 w2.cur_le, Reaches.trans hrun hrun2, hval2, hww2, hw2.trans hw1⟩

theorem walk_body (wc : Ctx) (sc : QV.Spec.Sem.Ctx) (ic : ICtx) (hag : Agree wc sc ic)
    (scope : List String) (wl : QV.Model.Locals) (vars : List QV.Spec.Sem.Var) (hsc : ScopeOf scope wl)
    (body : List Stmt) (hf : BodyFrag wc scope body) : BodyOk wc sc ic wl vars body := by
  induction hf with
  | nil => exact body_nil wc sc ic wl vars
  | assign x e rest hx he _ ih =>
    obtain ⟨n, k, hg⟩ := scopeOf_get hsc hx
    exact body_assign wc sc ic wl vars x n k e rest hg (walk_cfg wc sc ic hag scope wl vars hsc e he) ih

/-- `visit_if_statement` with an alternative on three open blocks: nothing but the three terminators changes; the targets
    `cRef + 1`, `aRef + 1`, `bRef + 1` are those the visitor computes from the labels -/
theorem visitIf_patched (b : Builder) (cond : Operand) (cRef aRef bRef : Nat) (blkC blkA blkB : BasicBlock)
    (hC : b.code.blocks[cRef]? = some blkC) (hCt : blkC.terminator = none)
    (hA : b.code.blocks[aRef]? = some blkA) (hAt : blkA.terminator = none)
    (hB : b.code.blocks[bRef]? = some blkB) (hBt : blkB.terminator = none)
    (hca : cRef ≠ aRef) (hcb : cRef ≠ bRef) (hab : aRef ≠ bRef) :
    Patched b (visitIfStatement b cond cRef aRef (some bRef)) []
      [(cRef, blkC, [], .brCond cond (cRef + 1) (aRef + 1)), (aRef, blkA, [], .br (bRef + 1)),
        (bRef, blkB, [], .br (bRef + 1))] := by
  refine Patched.of_eq (tys := []) ?_ (List.pairwise_cons.mpr ⟨forall_mem₂ hca hcb, List.pairwise_pair.mpr hab⟩)
    (forall_mem₃ hC hA hB)
  simp only [visitIfStatement, Option.getD_some, setAll, List.foldl, BlockPatch.block, List.append_nil]
  rw [finalizeAt_open _ cRef blkC _ hC hCt,
    finalizeAt_open _ aRef blkA _ ((List.getElem?_set_ne hca).trans hA) hAt,
    finalizeAt_open _ bRef blkB _ ((List.getElem?_set_ne hab).trans ((List.getElem?_set_ne hcb).trans hB)) hBt]

/-- the same without `else`: the false edge and the consequence's exit both go to `aRef + 1` -/
theorem visitIf1_patched (b : Builder) (cond : Operand) (cRef aRef : Nat) (blkC blkA : BasicBlock)
    (hC : b.code.blocks[cRef]? = some blkC) (hCt : blkC.terminator = none)
    (hA : b.code.blocks[aRef]? = some blkA) (hAt : blkA.terminator = none) (hca : cRef ≠ aRef) :
    Patched b (visitIfStatement b cond cRef aRef none) []
      [(cRef, blkC, [], .brCond cond (cRef + 1) (aRef + 1)), (aRef, blkA, [], .br (aRef + 1))] := by
  refine Patched.of_eq (tys := []) ?_ (List.pairwise_pair.mpr hca) (forall_mem₂ hC hA)
  simp only [visitIfStatement, Option.getD_none, setAll, List.foldl, BlockPatch.block, List.append_nil]
  rw [finalizeAt_open _ cRef blkC _ hC hCt, finalizeAt_open _ aRef blkA _ ((List.getElem?_set_ne hca).trans hA) hAt]

theorem leave_same (s : QV.Spec.Sem.St) (n : Nat) (h : s.vars.length = n) : s.leave n = s := by
  cases s
  simp only [QV.Spec.Sem.St.leave] at h ⊢
  simp [h]

theorem length_of_shape {a b : List QV.Spec.Sem.Var} (h : shapeOf a = shapeOf b) : a.length = b.length := by
  have := congrArg List.length h
  simpa [shapeOf] using this

/-- what `if` makes of the result of the branch `{ X }` it executes in a state with `n` variables (`Spec.Sem.execStmt`):
    the `.block` arm and the `.if_` arm each `leave` the scope, and `close` turns an empty completion value into `void` -/
def closeBranch (n : Nat) (r : Option (QV.Spec.Sem.Outcome × QV.Spec.Sem.St)) : Option (QV.Spec.Sem.Outcome × QV.Spec.Sem.St) :=
  r.map fun p =>
    match p.1 with
    | .normal v => (.normal (some (v.getD .void)), (p.2.leave n).leave n)
    | .brk v => (.brk (some (v.getD .void)), (p.2.leave n).leave n)
    | o => (o, (p.2.leave n).leave n)

/-- `if` when the branch the condition selects is a block `{ X }` -/
theorem execStmt_if_taken (c : QV.Spec.Sem.Ctx) (cnd : Expr) (a : Stmt) (b : Option Stmt) (xc : Bool) (X : List Stmt)
    (s sC : QV.Spec.Sem.St) (he : QV.Spec.Sem.evalExpr c cnd s = some (.bool xc, sC))
    (hX : (bif xc then some a else b) = some (.block X)) :
    QV.Spec.Sem.execStmt c (.if_ cnd a b) s = closeBranch sC.vars.length (QV.Spec.Sem.execStmts c X sC) := by
  rw [QV.Spec.Sem.execStmt.eq_def]
  cases xc <;> cases hX
  all_goals
    simp only [he]
    rw [QV.Spec.Sem.execStmt.eq_def]
    simp only
    cases QV.Spec.Sem.execStmts c X sC with
    | none => rfl
    | some p => obtain ⟨o, s1⟩ := p; cases o <;> rfl

theorem execStmt_if_skip (c : QV.Spec.Sem.Ctx) (cnd : Expr) (a : Stmt) (s sC : QV.Spec.Sem.St)
    (he : QV.Spec.Sem.evalExpr c cnd s = some (.bool false, sC)) :
    QV.Spec.Sem.execStmt c (.if_ cnd a none) s = some (.normal (some .void), sC) := by
  rw [QV.Spec.Sem.execStmt.eq_def]
  simp only [he]

/-- how `if …; rest` goes on after the condition, by the branch that is executed (`none`: there is no `else`): the
    branch's outcome `o1`; if it completed normally the rest runs, if it returned the list returns.  Nothing is said for
    `o1 = .brk _`: a `BranchOk` branch completes normally or returns. -/
def IfCont (c : QV.Spec.Sem.Ctx) (rest : List Stmt) (sC : QV.Spec.Sem.St) (out : QV.Spec.Sem.Outcome)
    (s' : QV.Spec.Sem.St) : Option (List Stmt) → Prop
  | some X => ∃ o1 s1', QV.Spec.Sem.execStmts c X sC = some (o1, s1') ∧
      (∀ w, o1 = .normal w → ∃ out', QV.Spec.Sem.execStmts c rest ((s1'.leave sC.vars.length).leave sC.vars.length) =
        some (out', s') ∧ out = afterVal (w.getD .void) out') ∧
      (∀ v, o1 = .ret v → out = .ret v)
  | none => ∃ out', QV.Spec.Sem.execStmts c rest sC = some (out', s') ∧ out = afterVal .void out'

theorem ifCont_of_close (c : QV.Spec.Sem.Ctx) (st : Stmt) (X rest : List Stmt) (s sC s' : QV.Spec.Sem.St)
    (out : QV.Spec.Sem.Outcome)
    (hs : QV.Spec.Sem.execStmt c st s = closeBranch sC.vars.length (QV.Spec.Sem.execStmts c X sC))
    (h : QV.Spec.Sem.execStmts c (st :: rest) s = some (out, s')) : IfCont c rest sC out s' (some X) := by
  obtain ⟨o, s1, hst, hk⟩ := execStmts_cons_inv h
  rw [hs] at hst
  cases hx : QV.Spec.Sem.execStmts c X sC with
  | none => rw [hx] at hst; cases hst
  | some p =>
    obtain ⟨o1, s1'⟩ := p
    rw [hx] at hst
    refine ⟨o1, s1', hx, ?_, ?_⟩
    · rintro w rfl
      cases hst
      exact hk
    · rintro v rfl
      cases hst
      exact hk.1

theorem spec_stmts_if (c : QV.Spec.Sem.Ctx) (cnd : Expr) (A : List Stmt) (els : Option (List Stmt)) (rest : List Stmt)
    (s : QV.Spec.Sem.St) (out : QV.Spec.Sem.Outcome) (s' : QV.Spec.Sem.St)
    (h : QV.Spec.Sem.execStmts c (.if_ cnd (.block A) (els.map .block) :: rest) s = some (out, s')) :
    ∃ xc sC, QV.Spec.Sem.evalExpr c cnd s = some (.bool xc, sC) ∧ IfCont c rest sC out s' (bif xc then some A else els) := by
  obtain ⟨o, s1, hst, hk⟩ := execStmts_cons_inv h
  have hb : ∃ xc sC, QV.Spec.Sem.evalExpr c cnd s = some (.bool xc, sC) := by
    rw [QV.Spec.Sem.execStmt.eq_def] at hst
    simp only at hst
    cases he : QV.Spec.Sem.evalExpr c cnd s with
    | none => simp [he] at hst
    | some p =>
      obtain ⟨vc, sC⟩ := p
      cases vc with
      | bool xc => exact ⟨xc, sC, rfl⟩
      | _ => simp [he] at hst
  obtain ⟨xc, sC, he⟩ := hb
  refine ⟨xc, sC, he, ?_⟩
  cases xc with
  | true => exact ifCont_of_close c _ A rest s sC s' out (execStmt_if_taken c cnd _ _ true A s sC he rfl) h
  | false =>
    cases els with
    | some B => exact ifCont_of_close c _ B rest s sC s' out (execStmt_if_taken c cnd _ _ false B s sC he rfl) h
    | none =>
      rw [show (none : Option (List Stmt)).map Stmt.block = none from rfl, execStmt_if_skip c cnd _ s sC he] at hst
      cases hst
      exact hk

/-- the CFG of `if (c) { A } else { B }`: the walks of `c`, `A`, `B` one after the other, each in a block of its own;
    the exit block of `c` branches to the entry blocks of `A` and `B`, their exit blocks to the new current block -/
theorem visitIf_wiring (b1 b2 b3 bF : Builder) (blkC blkA blkB : BasicBlock) (cop : Operand)
    (hoC : OpenAt b1 blkC) (w2 : Walked b1.newBlock.2 b2) (hoA : OpenAt b2 blkA)
    (w3 : Walked b2.newBlock.2 b3) (hoB : OpenAt b3 blkB)
    (hF : bF = visitIfStatement b3.newBlock.2 cop b1.currentRef b2.currentRef (some b3.currentRef)) :
    Piece 0 b1 bF [] (some (.brCond cop b1.newBlock.2.currentRef b2.newBlock.2.currentRef)) ∧
    Piece b1.newBlock.2.currentRef b2 bF [] (some (.br bF.currentRef)) ∧
    Piece b2.newBlock.2.currentRef b3 bF [] (some (.br bF.currentRef)) ∧
    OpenAt bF {} ∧ Sealed bF.code bF.currentRef (b1.currentRef + 1) bF.currentRef := by
  -- `bF` stays a variable: with the visitor call in its place the unifier would unfold it
  obtain ⟨-, p1, p2, p3, hoF, -, c⟩ := wiring3 (Q := True) hoC w2 hoA w3 hoB fun hC hA hB hca hab =>
    ⟨trivial, hF ▸ visitIf_patched b3.newBlock.2 cop _ _ _ blkC blkA blkB hC hoC.2 hA hoA.2 hB hoB.2 (Nat.ne_of_lt hca)
      (Nat.ne_of_lt (Nat.lt_trans hca hab)) (Nat.ne_of_lt hab)⟩
  rw [← newBlock_cur hoC, ← newBlock_cur hoA] at p1
  exact ⟨p1, p2, p3, hoF, c⟩

/-- the CFG of `if (c) { A }`: the exit block of `c` branches to the entry block of `A` and to the new current block,
    the exit block of `A` to the new current block -/
theorem visitIf1_wiring (b1 b2 bF : Builder) (blkC blkA : BasicBlock) (cop : Operand)
    (hoC : OpenAt b1 blkC) (w2 : Walked b1.newBlock.2 b2) (hoA : OpenAt b2 blkA)
    (hF : bF = visitIfStatement b2.newBlock.2 cop b1.currentRef b2.currentRef none) :
    Piece 0 b1 bF [] (some (.brCond cop b1.newBlock.2.currentRef bF.currentRef)) ∧
    Piece b1.newBlock.2.currentRef b2 bF [] (some (.br bF.currentRef)) ∧
    OpenAt bF {} ∧ Sealed bF.code bF.currentRef (b1.currentRef + 1) bF.currentRef := by
  obtain ⟨-, p1, p2, hoF, hcur, c⟩ := wiring2 (Q := True) hoC w2 hoA fun hC hA hca =>
    ⟨trivial, hF ▸ visitIf1_patched b2.newBlock.2 cop _ _ blkC blkA hC hoC.2 hA hoA.2 (Nat.ne_of_lt hca)⟩
  rw [← newBlock_cur hoC, ← hcur] at p1
  exact ⟨p1, p2, hoF, c⟩

/-- what the walk of a branch `{ A }` of an `if` statement achieves: a CFG walk, over which execution from the entry
    position either reaches the exit position with the states related again (the branch completed normally; from there
    `visit_if_statement` branches to the join block), or — only if `r` — returns the value the branch `return`s -/
def BranchOk (r : Bool) (wc : Ctx) (sc : QV.Spec.Sem.Ctx) (ic : ICtx) (wl : QV.Model.Locals)
    (vars : List QV.Spec.Sem.Var) (A : List Stmt) : Prop :=
  ∀ s s2, BuilderInv.StmtRun wc none (.block A) s s2 → s.locals = wl → VarRel s.b.code.locals wl vars →
    VarInj wl → (∃ blk, OpenAt s.b blk) →
    Walked s.b s2.b ∧
      ∀ C, Covers C s2.b s.b.currentRef →
      ∀ (st : State) (sst : QV.Spec.Sem.St) (o : QV.Spec.Sem.Outcome) (sst' : QV.Spec.Sem.St),
        Rel wl vars sst st → QV.Spec.Sem.execStmts sc A sst = some (o, sst') →
        ((∃ w, o = .normal w) ∧ ∃ d st', d ≤ s2.b.currentRef - s.b.currentRef ∧
          (∀ fuel, runAt ic C (fuel + d) s.b.currentRef (curLen s.b) st =
            runAt ic C fuel s2.b.currentRef (curLen s2.b) st') ∧ Rel wl vars sst' st') ∨
        (r = true ∧ ∃ v, o = .ret v ∧ ∃ d res, d ≤ s2.b.currentRef - s.b.currentRef ∧
          ∀ fuel, runAt ic C (fuel + d) s.b.currentRef (curLen s.b) st = some (v, res))

/-- a branch `{ A }` of assignments: the block statement restores the name map; the rest is `BodyOk` -/
theorem branch_of_body {wc : Ctx} {sc : QV.Spec.Sem.Ctx} {ic : ICtx} {wl : QV.Model.Locals}
    {vars : List QV.Spec.Sem.Var} {A : List Stmt} (hA : BodyOk wc sc ic wl vars A) :
    BranchOk false wc sc ic wl vars A := by
  intro s s2 h hl hvr hinj ho
  cases h with | @block _ _ _ sA hss =>
  obtain ⟨_, wA, simA⟩ := hA s sA hss.run_eq hl hvr hinj ho
  refine ⟨wA, fun C hC st sst o sst' hrel hsp => Or.inl ?_⟩
  obtain ⟨hn, hsh, d, st', hd, hrun, hval, hw1, hw2⟩ :=
    simA C hC st sst o sst' hrel.shape hrel.world hrel.nc hrel.vals hsp
  exact ⟨hn, d, st', hd, hrun, hsh, hw1, by rw [hw2]; exact hrel.nc, hval⟩

/-- a `Tail` that holds of a run that returns what the reference semantics returns -/
def RetTail (T : Tail) : Prop :=
  ∀ {C b1 op n} {run : Nat → Option (Val × State)} (v : Val) (d : Nat) (res : State),
    d ≤ n → (∀ fuel, run (fuel + d) = some (v, res)) → T C b1 op (.ret v) n run

/-- the run through a branch of an `if` from its entry position `(e, k)` and — unless the branch returns — from its exit
    position `(x, kx)` to the join position `(j, kj)` and on into the rest of the statement list -/
theorem branch_then_rest {T : Tail} (hT : TailOk T) {r : Bool} (hret : r = true → RetTail T)
    {sc : QV.Spec.Sem.Ctx} {ic : ICtx} {C : CodeBody} {wl : QV.Model.Locals} {vars : List QV.Spec.Sem.Var}
    {rest : List Stmt} {b4 : Builder} {op4 : Operand} {e k x kx j kj nb n4 : Nat} {st1 : State}
    {sC sJ sst' : QV.Spec.Sem.St} {o1 out : QV.Spec.Sem.Outcome} (hrelC : Rel wl vars sC st1)
    (hbr : ((∃ w, o1 = .normal w) ∧ ∃ d st', d ≤ nb ∧
        (∀ fuel, runAt ic C (fuel + d) e k st1 = runAt ic C fuel x kx st') ∧ Rel wl vars sJ st') ∨
      (r = true ∧ ∃ v, o1 = .ret v ∧ ∃ d res, d ≤ nb ∧ ∀ fuel, runAt ic C (fuel + d) e k st1 = some (v, res)))
    (hjump : ∀ fuel st, runAt ic C (fuel + 1) x kx st = runAt ic C fuel j kj st)
    (hcont : (∀ w, o1 = .normal w → ∃ out', QV.Spec.Sem.execStmts sc rest
        ((sJ.leave sC.vars.length).leave sC.vars.length) = some (out', sst') ∧ out = afterVal (w.getD .void) out') ∧
      (∀ v, o1 = .ret v → out = .ret v))
    (hrest : ∀ st sst out', Rel wl vars sst st → QV.Spec.Sem.execStmts sc rest sst = some (out', sst') →
      T C b4 op4 out' n4 fun fuel => runAt ic C fuel j kj st) :
    T C b4 op4 out (nb + 1 + n4) fun fuel => runAt ic C fuel e k st1 := by
  rcases hbr with ⟨⟨w, ho1⟩, d, st2, hd, hrun, hrelJ⟩ | ⟨hr, v, ho1, d, res, hd, hrun⟩
  · obtain ⟨out', hrs, hout⟩ := hcont.1 w ho1
    -- the branch declared nothing: leaving it changes nothing
    have hlenJ : sJ.vars.length = sC.vars.length := by
      rw [length_of_shape hrelJ.shape, length_of_shape hrelC.shape]
    rw [leave_same sJ _ hlenJ, leave_same sJ _ hlenJ] at hrs
    rw [hout]
    refine hT.after _ (hT.step (d := d + 1) (fun fuel => ?_) (by omega) (hrest st2 sJ out' hrelJ hrs))
    exact Reaches.trans hrun (fun fuel => hjump fuel st2) fuel
  · rw [hcont.2 v ho1]
    exact hret hr v d res (by omega) hrun

/-- the transitions of condition, branch and rest add up: blocks `s0 ≤ c < e ≤ a < j ≤ x` -/
theorem bound_diamond {s0 c e a j x d1 : Nat} (h0 : s0 ≤ c) (he : c < e) (ha : e ≤ a) (hj : a < j) (hx : j ≤ x)
    (hd : d1 ≤ c - s0) : (d1 + 1) + ((a - e) + 1 + (x - j)) ≤ x - s0 := by omega

/-- the same when the condition is false: from the block `f` it branches to, `c < f ≤ j` -/
theorem bound_else {s0 c f j x d1 : Nat} (h0 : s0 ≤ c) (hf : c < f) (hj : f ≤ j) (hx : j ≤ x) (hd : d1 ≤ c - s0) :
    (d1 + 1) + ((j - f) + (x - j)) ≤ x - s0 := by omega

/-- `if (c) { A } [else { B }]; rest`.  The two forms differ in the block `f` the exit block of `c` branches to when the
    condition is false — the entry block of `B`, or the join block — and in the run from there. -/
theorem g_if {T : Tail} (hT : TailOk T) (ra rb : Bool) (hret : (ra || rb) = true → RetTail T)
    (wc : Ctx) (sc : QV.Spec.Sem.Ctx) (ic : ICtx) (isRet : Bool) (wl : QV.Model.Locals)
    (vars : List QV.Spec.Sem.Var) (cnd : Expr) (A : List Stmt) (els : Option (List Stmt)) (rest : List Stmt)
    (hc : WalkOk wc sc ic wl vars cnd) (hA : BranchOk ra wc sc ic wl vars A)
    (hB : ∀ B, els = some B → BranchOk rb wc sc ic wl vars B) (hrest : GOk T wc sc ic isRet wl vars rest) :
    GOk T wc sc ic isRet wl vars (.if_ cnd (.block A) (els.map .block) :: rest) := by
  intro s s' h hl hvr hinj ho
  obtain ⟨sd, hd, h⟩ := run_stmts_cons_ok wc _ rest s s' h
  obtain ⟨cop, s1, s2, hw1, hwa, hsd⟩ := run_if wc cnd (.block A) (els.map .block) s sd hd
  have r1 := hc s s1 cop hw1 hl hvr ho
  obtain ⟨blkC, hoC⟩ := r1.walked.exitOpen
  have w1 : Walked s.b s1.b := r1.walked
  have hvr1 : VarRel s1.b.newBlock.2.code.locals wl vars := hvr.mono w1.locals
  obtain ⟨w2, simA⟩ := hA { s1 with b := s1.b.newBlock.2 } s2 hwa r1.locals hvr1 hinj ⟨{}, newBlock_open hoC⟩
  have w2 : Walked s1.b.newBlock.2 s2.b := w2  -- `{ s1 with b := … }.b` reduced
  obtain ⟨blkA, hoA⟩ := w2.exitOpen
  have hlt1 : s1.b.currentRef < s1.b.newBlock.2.currentRef := by rw [newBlock_cur hoC]; exact Nat.lt_succ_self _
  have cfg : ∃ f, s1.b.currentRef < f ∧ f ≤ sd.b.currentRef ∧ sd.locals = s1.locals ∧
      Piece 0 s1.b sd.b [] (some (.brCond cop s1.b.newBlock.2.currentRef f)) ∧
      Piece s1.b.newBlock.2.currentRef s2.b sd.b [] (some (.br sd.b.currentRef)) ∧
      OpenAt sd.b {} ∧ Sealed sd.b.code sd.b.currentRef (s1.b.currentRef + 1) sd.b.currentRef ∧
      -- the run from `f` into the rest
      ∀ C, Covers C sd.b s.b.currentRef → ∀ st1 sC out sst' b4 op4 n4,
        Rel wl vars sC st1 → IfCont sc rest sC out sst' els →
        (∀ st sst out', Rel wl vars sst st → QV.Spec.Sem.execStmts sc rest sst = some (out', sst') →
          T C b4 op4 out' n4 fun fuel => runAt ic C fuel sd.b.currentRef 0 st) →
        T C b4 op4 out ((sd.b.currentRef - f) + n4) fun fuel => runAt ic C fuel f 0 st1 := by
    cases els with
    | none =>
      obtain ⟨p1, p2, hoF, cF⟩ := visitIf1_wiring s1.b s2.b sd.b blkC blkA cop hoC w2 hoA hsd.2
      refine ⟨_, p1.lt, Nat.le_refl _, hsd.1, p1, p2, hoF, cF, ?_⟩
      intro C _ st1 sC out sst' b4 op4 n4 hrel1 hcont hrest'
      obtain ⟨out', hrs, hout⟩ := hcont
      rw [hout]
      exact hT.after _ (hT.step (d := 0) (fun _ => rfl) (by rw [Nat.zero_add]; exact Nat.le_add_left _ _)
        (hrest' st1 sC out' hrel1 hrs))
    | some B =>
      obtain ⟨s3, hwb, hsd⟩ := hsd
      have hvr2 : VarRel s2.b.newBlock.2.code.locals wl vars := hvr1.mono w2.locals
      obtain ⟨w3, simB⟩ := hB B rfl { s2 with b := s2.b.newBlock.2, locals := s1.locals } s3 hwb r1.locals hvr2 hinj
        ⟨{}, newBlock_open hoA⟩
      have w3 : Walked s2.b.newBlock.2 s3.b := w3
      obtain ⟨blkB, hoB⟩ := w3.exitOpen
      have hlt2 : s1.b.currentRef < s2.b.newBlock.2.currentRef := by
        rw [newBlock_cur hoA]; exact Nat.lt_succ_of_le (Nat.le_trans (Nat.le_of_lt hlt1) w2.cur_le)
      obtain ⟨p1, p2, p3, hoF, cF⟩ :=
        visitIf_wiring s1.b s2.b s3.b sd.b blkC blkA blkB cop hoC w2 hoA w3 hoB hsd.2
      refine ⟨_, hlt2, Nat.le_trans w3.cur_le (Nat.le_of_lt p3.lt), hsd.1, p1, p2, hoF, cF, ?_⟩
      intro C hC' st1 sC out sst' b4 op4 n4 hrel1 hcont hrest'
      obtain ⟨o1, sJ, hsbr, hcont⟩ := hcont
      have hk2 : curLen s2.b.newBlock.2 = 0 := curLen_of_open (newBlock_open hoA)
      have := branch_then_rest hT (fun hr => hret (by rw [hr, Bool.or_true])) hrel1
        (simB C (p3.covers (hC'.mono (Nat.le_trans w1.cur_le (Nat.le_of_lt hlt2))) (Nat.le_refl _) w3.cur_le)
          st1 sC o1 sJ hrel1 hsbr)
        (fun fuel st => p3.run_br hC' (Nat.le_trans w1.cur_le (Nat.le_trans (Nat.le_of_lt hlt2) w3.cur_le)) ic st fuel)
        hcont hrest'
      rw [hk2] at this
      refine hT.step (d := 0) (fun _ => rfl) ?_ this
      rw [Nat.zero_add]
      exact Nat.add_le_add_right (Nat.sub_lt_sub_right w3.cur_le p3.lt) _
  obtain ⟨f, hcf, hfj, hsdl, p1, p2, hoF, cF, helse⟩ := cfg
  have hwalked : Walked s.b sd.b := p1.walked w1 nofun ⟨_, hoF⟩ cF  -- `nofun`: a `brCond` is no `br`
  obtain ⟨s4, op4, hfin, w4, hok4, hsim4⟩ :=
    hrest sd s' h (by rw [hsdl]; exact r1.locals) (hvr.mono hwalked.locals) hinj hwalked.exitOpen
  refine ⟨s4, op4, hfin, hwalked.trans w4, hok4, ?_⟩
  intro C hC st sst out sst' hrel hsp
  have hC' : Covers C sd.b s.b.currentRef := Covers.of_ext w4.toExt hC hwalked.cur_le
  obtain ⟨xc, sC, hsc, hcont⟩ := spec_stmts_if sc cnd A els rest sst out sst' hsp
  obtain ⟨hsa, d1, st1, hd1, hrun1, hv1, _, hrel1⟩ :=
    expr_run r1 hvr (p1.covers hC' (Nat.zero_le _) w1.cur_le) hrel hsc
  subst hsa
  have hkF : curLen sd.b = 0 := curLen_of_open hoF
  have hrest' : ∀ st sst out', Rel wl vars sst st → QV.Spec.Sem.execStmts sc rest sst = some (out', sst') →
      T C s4.b op4 out' (s4.b.currentRef - sd.b.currentRef) fun fuel => runAt ic C fuel sd.b.currentRef 0 st :=
    fun st sst out' hr hs => hkF ▸ hsim4 C (hC.mono hwalked.cur_le) st sst out' sst' hr hs
  cases xc with
  | true =>
    obtain ⟨o1, sJ, hsbr, hcont⟩ := hcont
    have hk1 : curLen s1.b.newBlock.2 = 0 := curLen_of_open (newBlock_open hoC)
    refine hT.step (d := d1 + 1) (fun fuel => ?_) (bound_diamond w1.cur_le hlt1 w2.cur_le p2.lt w4.cur_le hd1)
      (branch_then_rest hT (fun hr => hret (by rw [hr, Bool.true_or])) hrel1
        (simA C (p2.covers (hC'.mono (Nat.le_trans w1.cur_le (Nat.le_of_lt hlt1))) (Nat.le_refl _) w2.cur_le)
          st1 sC o1 sJ hrel1 hsbr)
        (fun fuel st => p2.run_br hC' (Nat.le_trans w1.cur_le (Nat.le_trans (Nat.le_of_lt hlt1) w2.cur_le)) ic st fuel)
        hcont hrest')
    rw [hk1]
    exact Reaches.trans hrun1 (p1.run_brCond hC' w1.cur_le ic st1 true hv1) fuel
  | false =>
    refine hT.step (d := d1 + 1) (fun fuel => ?_) (bound_else w1.cur_le hcf hfj w4.cur_le hd1)
      (helse C hC' st1 sC out sst' s4.b op4 _ hrel1 hcont hrest')
    exact Reaches.trans hrun1 (p1.run_brCond hC' w1.cur_le ic st1 false hv1) fuel

theorem g_if_else {T : Tail} (hT : TailOk T) (ra rb : Bool) (hret : (ra || rb) = true → RetTail T)
    (wc : Ctx) (sc : QV.Spec.Sem.Ctx) (ic : ICtx) (isRet : Bool) (wl : QV.Model.Locals)
    (vars : List QV.Spec.Sem.Var) (cnd : Expr) (A B rest : List Stmt)
    (hc : WalkOk wc sc ic wl vars cnd) (hA : BranchOk ra wc sc ic wl vars A) (hB : BranchOk rb wc sc ic wl vars B)
    (hrest : GOk T wc sc ic isRet wl vars rest) :
    GOk T wc sc ic isRet wl vars (.if_ cnd (.block A) (some (.block B)) :: rest) :=
  g_if hT ra rb hret wc sc ic isRet wl vars cnd A (some B) rest hc hA (fun _ h => Option.some.inj h ▸ hB) hrest

theorem g_if1 {T : Tail} (hT : TailOk T) (ra : Bool) (hret : ra = true → RetTail T)
    (wc : Ctx) (sc : QV.Spec.Sem.Ctx) (ic : ICtx) (isRet : Bool) (wl : QV.Model.Locals)
    (vars : List QV.Spec.Sem.Var) (cnd : Expr) (A rest : List Stmt)
    (hc : WalkOk wc sc ic wl vars cnd) (hA : BranchOk ra wc sc ic wl vars A)
    (hrest : GOk T wc sc ic isRet wl vars rest) :
    GOk T wc sc ic isRet wl vars (.if_ cnd (.block A) none :: rest) :=
  g_if hT ra false (fun h => hret (Bool.or_false ra ▸ h)) wc sc ic isRet wl vars cnd A none rest hc hA nofun hrest

/-- statement lists
      S ::= e | return e | let x = e; S | const x = e; S | x = e; S | if (e) { A } else { A }; S | if (e) { A }; S
      A ::= ε | x = e; A
    (`x` a variable in scope; every expression in `CfgFrag` relative to the variables declared before it) -/
inductive IFrag (wc : Ctx) : Bool → List String → List Stmt → Prop
  | expr (scope : List String) (e : Expr) : CfgFrag wc scope e → IFrag wc false scope [.expr e]
  | ret (scope : List String) (e : Expr) : CfgFrag wc scope e → IFrag wc true scope [.return_ (some e)]
  | decl (isRet : Bool) (scope : List String) (kind : DeclKind) (x : String) (e : Expr) (rest : List Stmt) :
      CfgFrag wc scope e → IFrag wc isRet (x :: scope) rest →
      IFrag wc isRet scope (.lexical kind [{ name := x, ty := none, value := some e }] :: rest)
  | assign (isRet : Bool) (scope : List String) (x : String) (e : Expr) (rest : List Stmt) :
      x ∈ scope → CfgFrag wc scope e → IFrag wc isRet scope rest →
      IFrag wc isRet scope (.expr (.assign (.ident x) e) :: rest)
  | ifElse (isRet : Bool) (scope : List String) (cnd : Expr) (A B rest : List Stmt) :
      CfgFrag wc scope cnd → BodyFrag wc scope A → BodyFrag wc scope B → IFrag wc isRet scope rest →
      IFrag wc isRet scope (.if_ cnd (.block A) (some (.block B)) :: rest)
  | if1 (isRet : Bool) (scope : List String) (cnd : Expr) (A rest : List Stmt) :
      CfgFrag wc scope cnd → BodyFrag wc scope A → IFrag wc isRet scope rest →
      IFrag wc isRet scope (.if_ cnd (.block A) none :: rest)

theorem sFrag_iFrag {wc : Ctx} {isRet : Bool} {scope : List String} {stmts : List Stmt}
    (h : SFrag wc isRet scope stmts) : IFrag wc isRet scope stmts := by
  induction h with
  | expr scope e he => exact .expr scope e he
  | ret scope e he => exact .ret scope e he
  | decl isRet scope kind x e rest he _ ih => exact .decl isRet scope kind x e rest he ih
  | assign isRet scope x e rest hx he _ ih => exact .assign isRet scope x e rest hx he ih

theorem walk_i (wc : Ctx) (sc : QV.Spec.Sem.Ctx) (ic : ICtx) (hag : Agree wc sc ic) (isRet : Bool)
    (scope : List String) (stmts : List Stmt) (hf : IFrag wc isRet scope stmts) :
    ∀ (wl : QV.Model.Locals) (vars : List QV.Spec.Sem.Var), ScopeOf scope wl → SOk wc sc ic isRet wl vars stmts := by
  suffices h : ∀ wl vars, ScopeOf scope wl → GOk (sTail ic isRet) wc sc ic isRet wl vars stmts from
    fun wl vars hsc => sOk_iff_gOk.mpr (h wl vars hsc)
  induction hf with
  | expr scope e he =>
    intro wl vars hsc
    exact sOk_iff_gOk.mp (sOk_of_blockOk (walk_block wc sc ic hag false scope _ (.expr scope e he) wl vars hsc))
  | ret scope e he =>
    intro wl vars hsc
    exact sOk_iff_gOk.mp (sOk_of_blockOk (walk_block wc sc ic hag true scope _ (.ret scope e he) wl vars hsc))
  | decl isRet scope kind x e rest he _ ih =>
    intro wl vars hsc
    exact g_decl (sTail_ok ic isRet) wc sc ic isRet wl vars kind x e rest (walk_cfg wc sc ic hag scope wl vars hsc e he)
      (fun vars' h => sty_shape wc sc scope vars vars' h e he)
      (fun n sty => ih _ _ (scopeOf_insert hsc x (n, kind)))
  | assign isRet scope x e rest hx he _ ih =>
    intro wl vars hsc
    obtain ⟨n, k, hg⟩ := scopeOf_get hsc hx
    exact g_assign (sTail_ok ic isRet) wc sc ic isRet wl vars x n k e rest hg
      (walk_cfg wc sc ic hag scope wl vars hsc e he) (ih wl vars hsc)
  | ifElse isRet scope cnd A B rest hc hA hB _ ih =>
    intro wl vars hsc
    -- `BodyOk` branches do not return (`BranchOk false`), so no `RetTail` is asked for: `nofun`
    exact g_if_else (sTail_ok ic isRet) false false nofun wc sc ic isRet wl vars cnd A B rest
      (walk_cfg wc sc ic hag scope wl vars hsc cnd hc) (branch_of_body (walk_body wc sc ic hag scope wl vars hsc A hA))
      (branch_of_body (walk_body wc sc ic hag scope wl vars hsc B hB)) (ih wl vars hsc)
  | if1 isRet scope cnd A rest hc hA _ ih =>
    intro wl vars hsc
    exact g_if1 (sTail_ok ic isRet) false nofun wc sc ic isRet wl vars cnd A rest
      (walk_cfg wc sc ic hag scope wl vars hsc cnd hc) (branch_of_body (walk_body wc sc ic hag scope wl vars hsc A hA))
      (ih wl vars hsc)

end QV.Proofs.SemCfgStmtIf
