/-
  `finalize_completion_values` (QV.Model.finalizeCompletionValues): the two tables it computes for its loop, under names, and
  its two arms as equations.  For the builder invariants (BuilderFinalize) and the Sem chain (SemCfgBlock, SemFold).
-/
import QV.Model.Finalize

namespace QV.Proofs.Finalize
open QV.Model

/-- `incoming_map`: for every block, the blocks that end in a `br` to it -/
def brIncoming (code : CodeBody) : List (List Nat) :=
  (List.range code.blocks.length).map fun l =>
    (List.range code.blocks.length).filter fun i =>
      match code.blocks[i]? with
      | some b => b.terminator = some (.br l)
      | none => false

/-- `reachable`: block 0 and the targets of conditional branches -/
def condTargets (code : CodeBody) : List Bool :=
  (List.range code.blocks.length).map fun l =>
    l = 0 || code.blocks.any fun b =>
      match b.terminator with
      | some (.brCond _ x y) => x = l || y = l
      | _ => false

/-- the start block has a completion value: it becomes that block's `return`, nothing else changes -/
theorem finalizeCompletionValues_completion {code : CodeBody} {start : Nat} {b : BasicBlock} {a : Operand}
    (hb : code.blocks[start]? = some b) (hc : b.completionValue = some a) :
    finalizeCompletionValues code start =
      ({ code with blocks := setBlock code.blocks start { b with completionValue := none, terminator := some (.ret a) } },
       if b.terminator.isSome then some "assert!(start_block.terminator.is_none())" else none) := by
  simp only [finalizeCompletionValues, hb, hc]

/-- the start block has no completion value: the loop runs from it -/
theorem finalizeCompletionValues_loop {code : CodeBody} {start : Nat} {b : BasicBlock} (hb : code.blocks[start]? = some b)
    (hc : b.completionValue = none) :
    finalizeCompletionValues code start =
      let r := finalizeLoop (condTargets code) (code.blocks.length + 1) [start] (brIncoming code) code.blocks
        (if b.terminator.isSome then some "assert!(start_block.terminator.is_none())" else none)
      ({ code with blocks := r.1 }, r.2) := by
  simp only [finalizeCompletionValues, hb, hc]
  rfl

theorem finalizeLoop_nil (reachable : List Bool) (fuel : Nat) (incoming : List (List Nat)) (blocks : List BasicBlock)
    (panic : Option String) : finalizeLoop reachable fuel [] incoming blocks panic = (blocks, panic) := by
  cases fuel <;> simp [finalizeLoop]

theorem mem_brIncoming {code : CodeBody} {i j : Nat} (hi : i < code.blocks.length) :
    j ∈ (brIncoming code).getD i [] ↔ ∃ b, code.blocks[j]? = some b ∧ b.terminator = some (.br i) := by
  unfold brIncoming
  rw [List.getD_eq_getElem?_getD, List.getElem?_map, List.getElem?_range hi]
  simp only [Option.map_some, Option.getD_some, List.mem_filter, List.mem_range]
  constructor
  · rintro ⟨hj, h⟩
    rw [List.getElem?_eq_getElem hj] at h
    exact ⟨_, List.getElem?_eq_getElem hj, by simpa using h⟩
  · rintro ⟨b, hb, ht⟩
    exact ⟨(List.getElem?_eq_some_iff.1 hb).1, by simp [hb, ht]⟩

theorem condTargets_getD {code : CodeBody} {l : Nat} (hl : l < code.blocks.length) :
    (condTargets code).getD l false = true ↔
      l = 0 ∨ ∃ b ∈ code.blocks, ∃ c x y, b.terminator = some (.brCond c x y) ∧ (x = l ∨ y = l) := by
  unfold condTargets
  rw [List.getD_eq_getElem?_getD, List.getElem?_map, List.getElem?_range hl]
  simp only [Option.map_some, Option.getD_some, Bool.or_eq_true, decide_eq_true_eq, List.any_eq_true]
  refine or_congr_right ⟨fun ⟨b, hb, h⟩ => ⟨b, hb, ?_⟩,
    fun ⟨b, hb, c, x, y, ht, hxy⟩ => ⟨b, hb, by simpa [ht] using hxy⟩⟩
  split at h
  · exact ⟨_, _, _, ‹_›, by simpa using h⟩
  · cases h

end QV.Proofs.Finalize
