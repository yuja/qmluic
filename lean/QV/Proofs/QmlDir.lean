/- The work-list of `populate_directories` is reasoned about through one invariant and one measure.  `Inv`: what is stored
   or pending is reachable (`MReach`), and what a stored directory names is stored or pending; when nothing is pending the
   stored directories are therefore exactly the reachable ones (`run_spec`).  `measure` = pending + (pushBound + 1) ·
   unvisited falls at every step: a pop costs one, a read adds at most `pushBound` and visits a directory.  The base-class
   walk is the fuel-free `Bases`; `ReachesQt`/`chainAt` say where a chain of components ends. -/
import QV.Model.QmlDir
import QV.Spec.QmlDir

namespace QV.Proofs.QmlDir
open QV.Model.QmlDir

theorem filter_length_lt {α} (p q : α → Bool) (l : List α) (a : α) (himp : ∀ x ∈ l, q x = true → p x = true)
    (ha : a ∈ l) (hpa : p a = true) (hqa : q a = false) : (l.filter q).length < (l.filter p).length := by
  -- `filter q l` is `filter p l` filtered once more, which drops `a`
  have h : l.filter q = (l.filter p).filter q := by
    rw [List.filter_filter]
    refine List.filter_congr fun x hx => ?_
    cases hq : q x
    · rfl
    · rw [himp x hx hq]; rfl
  rw [h]
  exact List.length_filter_lt_length_iff_exists.2 ⟨a, List.mem_filter.2 ⟨ha, hpa⟩, by simp [hqa]⟩

theorem sum_le_of_mem {l : List Nat} {a : Nat} (h : a ∈ l) : a ≤ l.sum := by
  induction l with
  | nil => cases h
  | cons x xs ih =>
    rcases List.mem_cons.1 h with h | h
    · subst h; simp
    · have := ih h
      simp only [List.sum_cons]
      omega

/-- a bound on each element that contributes bounds the whole -/
theorem length_flatMap_filterMap_le {α β γ} (f : α → Option β) (g : β → List γ) (b : α → Nat) (l : List α)
    (h : ∀ a c, f a = some c → (g c).length ≤ b a) : ((l.filterMap f).flatMap g).length ≤ (l.map b).sum := by
  induction l with
  | nil => exact Nat.le_refl 0
  | cons a l ih =>
    rw [List.map_cons, List.sum_cons]
    cases hf : f a with
    | none => rw [List.filterMap_cons_none hf]; omega
    | some c =>
      have := h a c hf
      rw [List.filterMap_cons_some hf, List.flatMap_cons, List.length_append]
      omega

theorem contains_iff {ms : DirMap} {p : Path} : ms.contains p = true ↔ ∃ e ∈ ms, e.1 = p := by
  simp [DirMap.contains, DirMap.get?, List.find?_isSome]

theorem contains_false_iff {ms : DirMap} {p : Path} : ms.contains p = false ↔ ¬ ∃ e ∈ ms, e.1 = p := by
  rw [← contains_iff]; simp

theorem contains_append {ms : DirMap} {b p : Path} {m : Module} :
    (ms ++ [(b, m)]).contains p = true ↔ ms.contains p = true ∨ p = b := by
  simp only [contains_iff, List.mem_append, List.mem_singleton]
  constructor
  · rintro ⟨e, he | he, h⟩
    · exact .inl ⟨e, he, h⟩
    · subst he; exact .inr h.symm
  · rintro (⟨e, he, h⟩ | h)
    · exact ⟨e, .inl he, h⟩
    · exact ⟨(b, m), .inr rfl, h.symm⟩

theorem get?_some_mem {ms : DirMap} {p : Path} {m : Module} (h : ms.get? p = some m) : (p, m) ∈ ms := by
  obtain ⟨⟨p', m'⟩, he, rfl⟩ := Option.map_eq_some_iff.1 h
  have hp : p' = p := by simpa using List.find?_some he
  exact hp ▸ List.mem_of_find?_eq_some he

theorem get?_isSome_iff {ms : DirMap} {p : Path} : (ms.get? p).isSome = true ↔ ms.contains p = true := Iff.rfl

theorem findDir_some {t : Tree} {p : Path} {d : Dir} (h : findDir t p = some d) : d ∈ t ∧ d.path = p := by
  refine ⟨List.mem_of_find?_eq_some h, ?_⟩
  have := List.find?_some h
  simpa using this

theorem isDir_of_findDir {t : Tree} {p : Path} {d : Dir} (h : findDir t p = some d) : isDir t p = true := by
  simp [isDir, h]

theorem findDir_of_isDir {t : Tree} {p : Path} (h : isDir t p = true) : ∃ d, findDir t p = some d := by
  simpa [isDir, Option.isSome_iff_exists] using h

theorem resolve_eq (t : Tree) (base : Path) (segs : List String) :
    resolve t base segs = (walk t base segs).filter (isDir t) := by
  unfold resolve
  cases walk t base segs <;> rfl

theorem resolve_isDir {t : Tree} {base q : Path} {segs : List String} (h : resolve t base segs = some q) :
    isDir t q = true := by
  rw [resolve_eq] at h
  exact (Option.filter_eq_some_iff.1 h).2

variable {t : Tree}

def dirOf : ModuleId → Option Path
  | .dir p => some p
  | _ => none

/-- the directories the components of a module import -/
def dirTargets (m : Module) : List Path := m.flatMap fun c => c.imports.filterMap dirOf

theorem mem_dirOf {l : List ModuleId} {q : Path} : q ∈ l.filterMap dirOf ↔ ModuleId.dir q ∈ l := by
  rw [List.mem_filterMap]
  exact ⟨fun ⟨id, hid, h⟩ => by cases id <;> cases h; exact hid, fun h => ⟨_, h, rfl⟩⟩

theorem mem_pushesOf {mods : DirMap} {c : CompData} {q : Path} :
    q ∈ pushesOf mods c ↔ ModuleId.dir q ∈ c.imports ∧ mods.contains q = false := by
  unfold pushesOf
  rw [List.mem_filterMap]
  constructor
  · rintro ⟨id, hid, h⟩
    cases id with
    | dir p =>
      cases hc : mods.contains p <;> simp only [hc, Bool.false_eq_true, if_false, if_true] at h <;> cases h
      exact ⟨hid, hc⟩
    | _ => cases h
  · rintro ⟨h1, h2⟩
    exact ⟨_, h1, by simp [h2]⟩

theorem mem_pushes {mods : DirMap} {m : Module} {q : Path} :
    q ∈ m.flatMap (pushesOf mods) ↔ q ∈ dirTargets m ∧ mods.contains q = false := by
  simp only [dirTargets, List.mem_flatMap, mem_pushesOf, mem_dirOf]
  constructor
  · rintro ⟨c, hc, h1, h2⟩; exact ⟨⟨c, hc, h1⟩, h2⟩
  · rintro ⟨⟨c, hc, h1⟩, h2⟩; exact ⟨c, hc, h1, h2⟩

theorem mem_moduleOf {d : Dir} {c : CompData} :
    c ∈ moduleOf t d ↔ ∃ f ∈ d.files, f.hasRoot = true ∧
      c = { name := f.stem, super := f.root.typeName,
            imports := [.builtins, .dir d.path] ++ f.imports.filterMap (importId t d.path) } := by
  unfold moduleOf componentOf
  rw [List.mem_filterMap]
  constructor
  · rintro ⟨f, hf, h⟩
    split at h
    · rename_i h1; cases h; exact ⟨f, hf, h1, rfl⟩
    · cases h
  · rintro ⟨f, hf, hr, rfl⟩
    exact ⟨f, hf, by rw [if_pos hr]⟩

theorem mem_dirTargets {d : Dir} {q : Path} :
    q ∈ dirTargets (moduleOf t d) ↔
      ∃ f ∈ d.files, f.hasRoot = true ∧
        (q = d.path ∨ ∃ segs, Import.dir segs ∈ f.imports ∧ resolve t d.path segs = some q) := by
  simp only [dirTargets, List.mem_flatMap, mem_dirOf]
  constructor
  · rintro ⟨c, hc, hq⟩
    obtain ⟨f, hf, hr, rfl⟩ := mem_moduleOf.1 hc
    refine ⟨f, hf, hr, ?_⟩
    simp only [List.mem_cons, reduceCtorEq, ModuleId.dir.injEq, false_or,
      List.mem_filterMap, List.cons_append, List.nil_append] at hq
    rcases hq with hq | ⟨imp, himp, hq⟩
    · exact .inl hq
    · cases imp with
      | named n => simp [importId] at hq
      | dir segs =>
        simp only [importId, Option.map_eq_some_iff] at hq
        obtain ⟨q', hq', hq''⟩ := hq
        cases hq''
        exact .inr ⟨segs, himp, hq'⟩
  · rintro ⟨f, hf, hr, hq⟩
    refine ⟨_, mem_moduleOf.2 ⟨f, hf, hr, rfl⟩, ?_⟩
    simp only [List.mem_cons, reduceCtorEq, ModuleId.dir.injEq, false_or, List.mem_filterMap, List.cons_append,
      List.nil_append]
    rcases hq with hq | ⟨segs, hs, hq⟩
    · exact .inl hq
    · exact .inr ⟨.dir segs, hs, by simp [importId, hq]⟩

theorem dirTargets_isDir {d : Dir} {q : Path} (hd : isDir t d.path = true)
    (h : q ∈ dirTargets (moduleOf t d)) : isDir t q = true := by
  obtain ⟨f, _, _, h | ⟨segs, _, h⟩⟩ := mem_dirTargets.1 h
  · subst h; exact hd
  · exact resolve_isDir h

/-- The model's edge (`M`; the specification's is `Spec.QmlDir.Edge`, see `edge_of_medge`): `q` is named by a component of
    directory `p`.  Every directory that holds a component has this edge to
    itself: the implicit import of its own directory (`make_doc_component_data`). -/
def MEdge (t : Tree) (p q : Path) : Prop := ∃ d, findDir t p = some d ∧ q ∈ dirTargets (moduleOf t d)

/-- what the work-list can get to: the sources' directories and whatever `MEdge` leads to from them -/
inductive MReach (t : Tree) (srcs : List Path) : Path → Prop where
  | src {p} : p ∈ srcs → MReach t srcs p
  | step {p q} : MReach t srcs p → MEdge t p q → MReach t srcs q

theorem MReach.mono {srcs srcs' : List Path} (h : ∀ p ∈ srcs, p ∈ srcs') {p : Path}
    (hp : MReach t srcs p) : MReach t srcs' p := by
  induction hp with
  | src hs => exact .src (h _ hs)
  | step _ he ih => exact .step ih he

/-- The invariant of the work-list.  `modsSound`: what is stored is reachable and is the module of its directory;
    `pendReach`, `pendDir`: what is pending is reachable and exists; `closed`: the targets of a stored directory are
    stored or pending; `srcsIn`: so is every source. -/
structure Inv (t : Tree) (srcs : List Path) (s : PState) : Prop where
  modsSound : ∀ e ∈ s.mods, MReach t srcs e.1 ∧ ∃ d, findDir t e.1 = some d ∧ e.2 = moduleOf t d
  pendReach : ∀ p ∈ s.pending, MReach t srcs p
  pendDir : ∀ p ∈ s.pending, isDir t p = true
  closed : ∀ e ∈ s.mods, ∀ q, MEdge t e.1 q → s.mods.contains q = true ∨ q ∈ s.pending
  srcsIn : ∀ p ∈ srcs, s.mods.contains p = true ∨ p ∈ s.pending

theorem inv_init {srcs : List Path} (h : ∀ p ∈ srcs, isDir t p = true) : Inv t srcs (initState srcs) where
  modsSound := by simp [initState]
  pendReach := by intro p hp; exact .src (by simpa [initState] using hp)
  pendDir := by intro p hp; exact h p (by simpa [initState] using hp)
  closed := by simp [initState]
  srcsIn := by intro p hp; exact .inr (by simpa [initState] using hp)

theorem step_next {s s' : PState} (hs : step t s = .next s') :
    ∃ b rest, s.pending = b :: rest ∧
      ((s.mods.contains b = true ∧ s' = { pending := rest, mods := s.mods }) ∨
       (s.mods.contains b = false ∧ ∃ d, findDir t b = some d ∧
          s' = { pending := ((moduleOf t d).flatMap (pushesOf s.mods)).reverse ++ rest,
                 mods := s.mods ++ [(b, moduleOf t d)] })) := by
  unfold step at hs
  split at hs
  · cases hs
  · rename_i b rest hpend
    refine ⟨b, rest, hpend, ?_⟩
    split at hs
    · rename_i hc; cases hs; exact .inl ⟨hc, rfl⟩
    · rename_i hc
      split at hs
      · cases hs
      · rename_i d hd; cases hs; exact .inr ⟨by simpa using hc, d, hd, rfl⟩

theorem step_done {s : PState} {r : PopResult} (hs : step t s = .done r) :
    (s.pending = [] ∧ r = .ok s.mods) ∨ ∃ b ∈ s.pending, findDir t b = none ∧ r = .readDirError b := by
  unfold step at hs
  split at hs
  · rename_i h; cases hs; exact .inl ⟨h, rfl⟩
  · rename_i b rest hpend
    split at hs
    · cases hs
    · split at hs
      · rename_i hnone; cases hs; exact .inr ⟨b, hpend ▸ List.mem_cons_self, hnone, rfl⟩
      · cases hs

theorem inv_step {srcs : List Path} {s s' : PState} (hi : Inv t srcs s) (hs : step t s = .next s') :
    Inv t srcs s' := by
  obtain ⟨b, rest, hpend, hcase⟩ := step_next hs
  have hb : b ∈ s.pending := hpend ▸ List.mem_cons_self
  have hsub : ∀ p ∈ rest, p ∈ s.pending := fun p hp => hpend ▸ List.mem_cons_of_mem _ hp
  -- what was visited or pending is visited or pending afterwards
  have hkeep : ∀ q, s.mods.contains q = true ∨ q ∈ s.pending → s'.mods.contains q = true ∨ q ∈ s'.pending := by
    intro q hq
    have hq : s.mods.contains q = true ∨ q = b ∨ q ∈ rest := hq.imp_right fun h => List.mem_cons.1 (hpend ▸ h)
    rcases hcase with ⟨hc, rfl⟩ | ⟨_, d, _, rfl⟩
    · rcases hq with h | rfl | h
      · exact .inl h
      · exact .inl hc
      · exact .inr h
    · simp only [contains_append, List.mem_append]
      rcases hq with h | h | h
      · exact .inl (.inl h)
      · exact .inl (.inr h)
      · exact .inr (.inr h)
  rcases hcase with ⟨hc, rfl⟩ | ⟨hc, d, hd, rfl⟩
  · exact ⟨hi.modsSound, fun p hp => hi.pendReach p (hsub p hp), fun p hp => hi.pendDir p (hsub p hp),
      fun e he q hq => hkeep q (hi.closed e he q hq), fun p hp => hkeep p (hi.srcsIn p hp)⟩
  · have hbdir : isDir t d.path = true := (findDir_some hd).2 ▸ hi.pendDir b hb
    have hpushed : ∀ p ∈ ((moduleOf t d).flatMap (pushesOf s.mods)).reverse, p ∈ dirTargets (moduleOf t d) :=
      fun p hp => (mem_pushes.1 (List.mem_reverse.1 hp)).1
    refine ⟨List.forall_mem_append.2 ⟨hi.modsSound, List.forall_mem_singleton.2 ⟨hi.pendReach b hb, d, hd, rfl⟩⟩,
      List.forall_mem_append.2 ⟨fun p hp => .step (hi.pendReach b hb) ⟨d, hd, hpushed p hp⟩,
        fun p hp => hi.pendReach p (hsub p hp)⟩,
      List.forall_mem_append.2 ⟨fun p hp => dirTargets_isDir hbdir (hpushed p hp), fun p hp => hi.pendDir p (hsub p hp)⟩,
      List.forall_mem_append.2 ⟨fun e he q hq => hkeep q (hi.closed e he q hq), List.forall_mem_singleton.2 ?_⟩,
      fun p hp => hkeep p (hi.srcsIn p hp)⟩
    -- the targets of the directory just read: visited already, or pushed now
    rintro q ⟨d', hd', hq⟩
    cases hd.symm.trans hd'
    simp only [contains_append, List.mem_append, List.mem_reverse]
    cases hc' : s.mods.contains q with
    | true => exact .inl (.inl rfl)
    | false => exact .inr (.inl (mem_pushes.2 ⟨hq, hc'⟩))

theorem inv_done {srcs : List Path} {s : PState} {r : PopResult} (hi : Inv t srcs s)
    (hs : step t s = .done r) : r = .ok s.mods ∧ s.pending = [] := by
  rcases step_done hs with ⟨h, rfl⟩ | ⟨b, hb, hnone, _⟩
  · exact ⟨rfl, h⟩
  · have := hi.pendDir b hb
    simp [isDir, hnone] at this

theorem run_inv {P : PState → Prop} (hstep : ∀ {s s'}, P s → step t s = .next s' → P s') :
    ∀ (n : Nat) {s : PState} {r : PopResult}, P s → run t n s = some r → ∃ s', P s' ∧ step t s' = .done r := by
  intro n
  induction n with
  | zero => intro s r _ h; cases h
  | succ n ih =>
    intro s r hp h
    unfold run at h
    split at h
    · rename_i r' hs; cases h; exact ⟨s, hp, hs⟩
    · rename_i s' hs; exact ih (hstep hp hs) h

/-- what a finished work-list holds: exactly the reachable directories, each with the module of its directory -/
theorem run_spec {srcs : List Path} (n : Nat) (s : PState) (r : PopResult)
    (hi : Inv t srcs s) (h : run t n s = some r) :
    ∃ ms, r = .ok ms ∧ (∀ p, ms.contains p = true ↔ MReach t srcs p) ∧
      (∀ e ∈ ms, ∃ d, findDir t e.1 = some d ∧ e.2 = moduleOf t d) := by
  obtain ⟨s', hi, hs⟩ := run_inv inv_step n hi h
  obtain ⟨hr, hp⟩ := inv_done hi hs
  refine ⟨s'.mods, hr, fun p => ⟨fun hc => ?_, fun hr => ?_⟩, fun e he => (hi.modsSound e he).2⟩
  · obtain ⟨e, he, rfl⟩ := contains_iff.1 hc
    exact (hi.modsSound e he).1
  · -- nothing is pending any more, so what is closed under edges and holds the sources holds all that is reachable
    have hnil : ∀ {q}, s'.mods.contains q = true ∨ q ∈ s'.pending → s'.mods.contains q = true :=
      fun h => h.resolve_right (by rw [hp]; exact List.not_mem_nil)
    induction hr with
    | src hs' => exact hnil (hi.srcsIn _ hs')
    | step _ he ih' =>
      obtain ⟨e, hmem, rfl⟩ := contains_iff.1 ih'
      exact hnil (hi.closed e hmem _ he)

/-- The type map discovery ends with IS the visible part of the tree: exactly the directories the work-list can get to
    are mapped, each to its component list. -/
theorem discovered_get? {srcs : List Path} {ms : DirMap} (hsrc : ∀ p ∈ srcs, isDir t p = true)
    (h : populate t srcs = some (.ok ms)) (p : Path) (m : Module) :
    ms.get? p = some m ↔ MReach t srcs p ∧ ∃ d, findDir t p = some d ∧ m = moduleOf t d := by
  obtain ⟨ms', hms, hiff, hsound⟩ := run_spec _ _ _ (inv_init hsrc) h
  cases hms
  refine ⟨fun hm => ⟨(hiff p).1 (by simp [DirMap.contains, hm]), hsound _ (get?_some_mem hm)⟩, fun ⟨hr, d, hd, hm⟩ => ?_⟩
  obtain ⟨m', hm'⟩ := Option.isSome_iff_exists.1 ((hiff p).2 hr)
  obtain ⟨d', hd', rfl⟩ := hsound _ (get?_some_mem hm')
  rw [hm', hm, Option.some.inj (hd.symm.trans hd')]

def unvisited (t : Tree) (mods : DirMap) : Nat := (t.filter fun d => !mods.contains d.path).length

def measure (t : Tree) (s : PState) : Nat := s.pending.length + (pushBound t + 1) * unvisited t s.mods

theorem pushes_length_le {d : Dir} (hd : d ∈ t) (mods : DirMap) :
    ((moduleOf t d).flatMap (pushesOf mods)).length ≤ pushBound t := by
  refine Nat.le_trans (length_flatMap_filterMap_le _ _ (fun f => f.imports.length + 2) d.files ?_)
    (sum_le_of_mem (List.mem_map.2 ⟨d, hd, rfl⟩))
  -- the `+ 2` of `pushBound`: a component imports the builtins and its own directory, then at most what its file imports
  intro f c hc
  unfold componentOf at hc
  split at hc <;> cases hc
  refine Nat.le_trans (List.length_filterMap_le _ _) ?_
  have := List.length_filterMap_le (importId t d.path) f.imports
  simp only [List.length_append, List.length_cons, List.length_nil]
  omega

theorem measure_step {s s' : PState} (hs : step t s = .next s') : measure t s' < measure t s := by
  obtain ⟨b, rest, hpend, ⟨_, rfl⟩ | ⟨hc, d, hd, rfl⟩⟩ := step_next hs
  · simp [measure, hpend]
  · obtain ⟨hdt, hdp⟩ := findDir_some hd
    have hlen := pushes_length_le hdt s.mods
    -- `d` was unvisited and is visited now; nothing visited becomes unvisited
    have hun : unvisited t (s.mods ++ [(b, moduleOf t d)]) < unvisited t s.mods := by
      apply filter_length_lt _ _ t d ?_ hdt
      · rw [hdp, hc]; rfl
      · rw [contains_append.2 (.inr hdp)]; rfl
      · intro x _ hx
        cases hc' : s.mods.contains x.path with
        | false => rfl
        | true => rw [contains_append.2 (.inl hc')] at hx; exact hx
    have hmul := Nat.mul_le_mul_left (pushBound t + 1) hun
    simp only [measure, hpend, List.length_append, List.length_reverse, List.length_cons]
    rw [Nat.mul_succ] at hmul
    omega

theorem run_isSome : ∀ (n : Nat) (s : PState), measure t s < n → (run t n s).isSome = true := by
  intro n
  induction n with
  | zero => intro s h; omega
  | succ n ih =>
    intro s h
    unfold run
    split
    · rfl
    · rename_i s' hs
      exact ih s' (by have := measure_step hs; omega)

theorem measure_init_lt (t : Tree) (srcs : List Path) : measure t (initState srcs) < fuelBound t srcs := by
  simp only [measure, initState, fuelBound, List.length_reverse]
  have : unvisited t [] ≤ t.length := by unfold unvisited; exact List.length_filter_le _ _
  have := Nat.mul_le_mul_left (pushBound t + 1) this
  omega

theorem run_mono : ∀ (n k : Nat) (s : PState) (r : PopResult), run t n s = some r → run t (n + k) s = some r := by
  intro n
  induction n with
  | zero => intro k s r h; simp [run] at h
  | succ n ih =>
    intro k s r h
    rw [Nat.add_right_comm]
    simp only [run] at h ⊢
    cases hs : step t s with
    | done r' => rw [hs] at h; simpa using h
    | next s' => rw [hs] at h; exact ih k s' r h

theorem step_keys_nodup {s s' : PState} (hn : s.mods.keys.Nodup) (hs : step t s = .next s') :
    s'.mods.keys.Nodup := by
  obtain ⟨b, rest, _, ⟨_, rfl⟩ | ⟨hc, d, _, rfl⟩⟩ := step_next hs
  · exact hn
  · simp only [DirMap.keys, List.map_append, List.map_cons, List.map_nil]
    refine List.nodup_append.2 ⟨hn, by simp, fun a ha b' hb => ?_⟩
    cases List.mem_singleton.1 hb
    rintro rfl
    obtain ⟨e, he, rfl⟩ := List.mem_map.1 ha
    rw [contains_iff.2 ⟨e, he, rfl⟩] at hc
    cases hc

theorem step_done_mods {s : PState} {ms : DirMap} (hs : step t s = .done (.ok ms)) : ms = s.mods := by
  rcases step_done hs with ⟨_, h⟩ | ⟨_, _, _, h⟩ <;> cases h
  rfl

theorem run_keys_nodup (n : Nat) (s : PState) (ms : DirMap) (hn : s.mods.keys.Nodup)
    (h : run t n s = some (.ok ms)) : ms.keys.Nodup := by
  obtain ⟨s', hn', hs⟩ := run_inv (P := fun s => s.mods.keys.Nodup) step_keys_nodup n hn h
  rw [step_done_mods hs]; exact hn'

/-- the number of directories read (`read_dir` calls that succeed) up to the end of the work-list: one per
    iteration that takes the "not yet visited" branch -/
def readsOf (t : Tree) : Nat → PState → Nat
  | 0, _ => 0
  | n + 1, s =>
    match step t s with
    | .done _ => 0
    | .next s' => (if s'.mods.length = s.mods.length then 0 else 1) + readsOf t n s'

theorem run_reads : ∀ (n : Nat) (s : PState) (ms : DirMap),
    run t n s = some (.ok ms) → s.mods.length + readsOf t n s = ms.length := by
  intro n
  induction n with
  | zero => intro s ms h; simp [run] at h
  | succ n ih =>
    intro s ms h
    unfold run at h
    unfold readsOf
    split at h
    · rename_i r hs
      cases h
      rw [hs, step_done_mods hs]; rfl
    · rename_i s' hs
      rw [hs]
      have := ih s' ms h
      -- a step that reads a directory stores one module more, any other step as many as before
      obtain ⟨b, rest, _, ⟨_, rfl⟩ | ⟨_, d, _, rfl⟩⟩ := step_next hs
      · simp only [if_true] at this ⊢; omega
      · simp only [List.length_append, List.length_singleton, Nat.succ_ne_self, if_false] at this ⊢; omega

open QV.Spec.QmlDir (FS Resolves Edge Reach)

def dirSegs : Import → Option (List String)
  | .dir segs => some segs
  | .named _ => none

/-- the tree as the specification's file system: which paths are directories, and per directory the string imports
    (segment lists) of its files that have a root object -/
def specOf (t : Tree) : FS where
  isDir := isDir t
  imports p := match findDir t p with
    | some d => (d.files.filter (·.hasRoot)).flatMap fun f => f.imports.filterMap dirSegs
    | none => []

theorem walk_iff (t : Tree) {segs : List String} {p q : Path} :
    walk t p segs = some q ↔ Resolves (specOf t) p segs q := by
  constructor
  · intro h
    induction segs generalizing p with
    | nil => cases h; exact .done
    | cons seg rest ih =>
      rw [walk] at h
      by_cases h1 : seg = "." ∨ seg = ""
      · rw [if_pos h1] at h; exact .stay h1 (ih h)
      rw [if_neg h1] at h
      by_cases h2 : seg = ".."
      · rw [if_pos h2] at h; subst h2; exact .up (ih h)
      rw [if_neg h2] at h
      by_cases h3 : isDir t (p ++ [seg]) = true
      · rw [if_pos h3] at h; exact .down h1 h2 h3 (ih h)
      · rw [if_neg h3] at h; cases h
  · intro h
    induction h with
    | done => rfl
    | stay h1 _ ih => rw [walk, if_pos h1]; exact ih
    | up _ ih => rw [walk, if_neg (by decide), if_pos rfl]; exact ih
    | down h1 h2 h3 _ ih => rw [walk, if_neg h1, if_neg h2, if_pos (show isDir t _ = true from h3)]; exact ih

theorem resolve_iff (t : Tree) (p q : Path) (segs : List String) :
    resolve t p segs = some q ↔ Resolves (specOf t) p segs q ∧ (specOf t).isDir q = true := by
  rw [resolve_eq, Option.filter_eq_some_iff]
  exact and_congr_left' (walk_iff t)

theorem walk_append (t : Tree) : ∀ (a : List String) (p : Path) (b : List String),
    walk t p (a ++ b) = (walk t p a).bind fun q => walk t q b := by
  intro a
  induction a with
  | nil => intro p b; rfl
  | cons seg rest ih =>
    intro p b
    rw [List.cons_append, walk, walk]
    by_cases h1 : seg = "." ∨ seg = ""
    · rw [if_pos h1, if_pos h1]; exact ih p b
    rw [if_neg h1, if_neg h1]
    by_cases h2 : seg = ".."
    · rw [if_pos h2, if_pos h2]; exact ih _ b
    rw [if_neg h2, if_neg h2]
    by_cases h3 : isDir t (p ++ [seg]) = true
    · rw [if_pos h3, if_pos h3]; exact ih _ b
    · rw [if_neg h3, if_neg h3]; rfl

theorem walk_skip (t : Tree) (p : Path) (seg : String) (h : seg = "." ∨ seg = "") (rest : List String) :
    walk t p (seg :: rest) = walk t p rest := by
  rw [walk, if_pos h]

theorem walk_insert (t : Tree) (p : Path) (a b : List String) (seg : String) (h : seg = "." ∨ seg = "") :
    walk t p (a ++ seg :: b) = walk t p (a ++ b) := by
  simp only [walk_append, walk_skip t _ seg h b]

theorem walk_down_up (t : Tree) (p : Path) (n : String) (rest : List String) (hn : n ≠ "." ∧ n ≠ "" ∧ n ≠ "..")
    (hd : isDir t (p ++ [n]) = true) : walk t p (n :: ".." :: rest) = walk t p rest := by
  have h1 : ¬ (n = "." ∨ n = "") := fun h => h.elim hn.1 hn.2.1
  rw [walk, if_neg h1, if_neg hn.2.2, if_pos hd, walk, if_neg (by decide), if_pos rfl, List.dropLast_concat]

theorem mem_dirSegs {l : List Import} {segs : List String} : segs ∈ l.filterMap dirSegs ↔ Import.dir segs ∈ l := by
  rw [List.mem_filterMap]
  exact ⟨fun ⟨i, hi, h⟩ => by cases i <;> cases h; exact hi, fun h => ⟨_, h, rfl⟩⟩

theorem edge_iff (t : Tree) (p q : Path) :
    Edge (specOf t) p q ↔ ∃ d, findDir t p = some d ∧ ∃ f ∈ d.files, f.hasRoot = true ∧
      ∃ segs, Import.dir segs ∈ f.imports ∧ resolve t p segs = some q := by
  constructor
  · rintro ⟨hs, hr, hd⟩
    simp only [specOf] at hs
    split at hs
    · rename_i d hfd
      obtain ⟨f, hf, hs⟩ := List.mem_flatMap.1 hs
      obtain ⟨hf1, hf2⟩ := List.mem_filter.1 hf
      exact ⟨d, hfd, f, hf1, hf2, _, mem_dirSegs.1 hs, (resolve_iff t _ _ _).2 ⟨hr, hd⟩⟩
    · cases hs
  · rintro ⟨d, hfd, f, hf, hr, segs, hs, hres⟩
    obtain ⟨h1, h2⟩ := (resolve_iff t _ _ _).1 hres
    refine .imp ?_ h1 h2
    simp only [specOf, hfd]
    exact List.mem_flatMap.2 ⟨f, List.mem_filter.2 ⟨hf, hr⟩, mem_dirSegs.2 hs⟩

/-- a model edge is an edge of the specification, or the loop at a directory that holds a component (its
    implicit import of its own directory) -/
theorem edge_of_medge {p q : Path} (h : MEdge t p q) : q = p ∨ Edge (specOf t) p q := by
  obtain ⟨d, hfd, hq⟩ := h
  have hdp := (findDir_some hfd).2
  obtain ⟨f, hf, hr, rfl | ⟨segs, hs, h⟩⟩ := mem_dirTargets.1 hq
  · exact .inl hdp
  · exact .inr ((edge_iff t p q).2 ⟨d, hfd, f, hf, hr, segs, hs, hdp ▸ h⟩)

theorem medge_of_edge {p q : Path} (h : Edge (specOf t) p q) : MEdge t p q := by
  obtain ⟨d, hfd, f, hf, hr, segs, hs, h⟩ := (edge_iff t p q).1 h
  exact ⟨d, hfd, mem_dirTargets.2 ⟨f, hf, hr, .inr ⟨segs, hs, (findDir_some hfd).2.symm ▸ h⟩⟩⟩

theorem mreach_iff_reach (t : Tree) (srcs : List Path) (p : Path) :
    MReach t srcs p ↔ Reach (specOf t) srcs p := by
  constructor
  · intro h
    induction h with
    | src hs => exact .src hs
    | step _ he ih =>
      rcases edge_of_medge he with rfl | h
      · exact ih
      · exact .step ih h
  · intro h
    induction h with
    | src hs => exact .src hs
    | step _ he ih => exact .step ih (medge_of_edge he)

theorem mem_uniq {α} [DecidableEq α] {x : α} : ∀ {l seen : List α}, x ∈ uniq seen l ↔ x ∈ l ∧ x ∉ seen := by
  intro l
  induction l with
  | nil => intro seen; simp [uniq]
  | cons y ys ih =>
    intro seen
    unfold uniq
    split
    · rename_i hy
      rw [ih, List.mem_cons]
      exact ⟨fun ⟨h1, h2⟩ => ⟨.inr h1, h2⟩, fun ⟨h1, h2⟩ => ⟨h1.resolve_left fun e => h2 (e ▸ hy), h2⟩⟩
    · rename_i hy
      rw [List.mem_cons, ih, List.mem_cons, List.mem_cons, not_or]
      by_cases hxy : x = y
      · subst hxy; simp [hy]
      · simp [hxy]

theorem uniq_nodup {α} [DecidableEq α] : ∀ (l seen : List α), (uniq seen l).Nodup := by
  intro l
  induction l with
  | nil => intro seen; simp [uniq]
  | cons y ys ih =>
    intro seen
    unfold uniq
    split
    · exact ih seen
    · rw [List.nodup_cons]
      refine ⟨?_, ih _⟩
      intro h
      exact (mem_uniq.1 h).2 List.mem_cons_self

theorem mem_customKeys {nodes : List (Obj × Cls)} {k : Path × CompData} :
    k ∈ customKeys nodes ↔ ∃ o, (o, Cls.comp k.1 k.2) ∈ nodes := by
  unfold customKeys
  rw [mem_uniq, List.mem_filterMap]
  constructor
  · rintro ⟨⟨⟨o, c⟩, hn, h⟩, _⟩
    cases c <;> cases h
    exact ⟨o, hn⟩
  · rintro ⟨o, h⟩; exact ⟨⟨_, h, rfl⟩, List.not_mem_nil⟩

theorem customOf_some {env : Env} {look : Path → Option Module} {c : CompData} {w : CustomWidget}
    (h : customOf env look c = some w) :
    ∃ s, superClass env look c = .ok s ∧ w = { cls := c.name, ext := s.name, header := headerName c.name } := by
  unfold customOf at h
  split at h
  · rename_i s hs; cases h; exact ⟨s, hs, rfl⟩
  · cases h

theorem mem_customWidgets {env : Env} {look : Path → Option Module} {nodes : List (Obj × Cls)} {w : CustomWidget} :
    w ∈ customWidgets env look nodes ↔
      ∃ d c s, (∃ o, (o, Cls.comp d c) ∈ nodes) ∧ superClass env look c = .ok s ∧
        w = { cls := c.name, ext := s.name, header := headerName c.name } := by
  unfold customWidgets
  rw [List.mem_filterMap]
  constructor
  · rintro ⟨⟨d, c⟩, hk, h⟩
    obtain ⟨s, hs, hw⟩ := customOf_some h
    exact ⟨d, c, s, mem_customKeys.1 hk, hs, hw⟩
  · rintro ⟨d, c, s, ho, hs, rfl⟩
    exact ⟨(d, c), mem_customKeys.2 ho, by simp [customOf, hs]⟩

variable {env : Env} {look : Path → Option Module}

theorem findComp_some {m : Module} {name : String} {c : CompData} (h : findComp m name = some c) :
    c ∈ m ∧ c.name = name := by
  unfold findComp at h
  have h1 := List.mem_of_find?_eq_some h
  have h2 := List.find?_some h
  exact ⟨List.mem_reverse.1 h1, by simpa using h2⟩

theorem lookupRev_ok {name : String} {s : Cls} : ∀ {ids : List ModuleId}, lookupRev env look ids name = .ok s →
    s.name = name ∧
      ∀ {p c}, s = .comp p c → ModuleId.dir p ∈ ids ∧ ∃ m, look p = some m ∧ findComp m name = some c := by
  intro ids
  induction ids with
  | nil => intro h; cases h
  | cons id rest ih =>
    intro h
    have hrest : lookupRev env look rest name = .ok s → s.name = name ∧ ∀ {p c}, s = .comp p c →
        ModuleId.dir p ∈ id :: rest ∧ ∃ m, look p = some m ∧ findComp m name = some c :=
      fun h => ⟨(ih h).1, fun e => ⟨List.mem_cons_of_mem _ ((ih h).2 e).1, ((ih h).2 e).2⟩⟩
    unfold lookupRev at h
    split at h
    · -- builtins
      exact hrest h
    · -- a named module: the Qt module, searched for a class of that name
      split at h
      · split at h
        · rename_i q hq
          cases h
          exact ⟨by simpa [Cls.name] using List.find?_some hq, nofun⟩
        · exact hrest h
      · cases h
    · -- a directory module: its last component of that name
      split at h
      · cases h
      · rename_i p' m hm
        split at h
        · rename_i c' hc
          cases h
          exact ⟨(findComp_some hc).2, fun e => by cases e; exact ⟨List.mem_cons_self, m, hm, hc⟩⟩
        · exact hrest h

theorem getType_comp {ids : List ModuleId} {name : String} {p : Path}
    {c : CompData} (h : getType env look ids name = .ok (.comp p c)) :
    ModuleId.dir p ∈ ids ∧ ∃ m, look p = some m ∧ c ∈ m ∧ c.name = name := by
  obtain ⟨h1, m, hm, hc⟩ := (lookupRev_ok h).2 rfl
  exact ⟨List.mem_reverse.1 h1, m, hm, findComp_some hc⟩

theorem superClass_ok {c : CompData} {s : Cls} (h : superClass env look c = .ok s) :
    getType env look c.imports c.super = .ok s := by
  unfold superClass at h
  split at h
  · cases h
  · cases h
  · rename_i s' hs; cases h; exact hs

theorem superClass_name {c : CompData} {s : Cls} (h : superClass env look c = .ok s) : s.name = c.super :=
  (lookupRev_ok (superClass_ok h)).1

def allComps (t : Tree) : List (Path × CompData) := t.flatMap fun d => (moduleOf t d).map fun c => (d.path, c)

/-- the type map holds nothing but modules of the tree's directories -/
def SoundLook (t : Tree) (look : Path → Option Module) : Prop :=
  ∀ p m, look p = some m → ∃ d ∈ t, d.path = p ∧ m = moduleOf t d

theorem allComps_length_le (t : Tree) : (allComps t).length ≤ fileCount t := by
  have := length_flatMap_filterMap_le some (fun d => (moduleOf t d).map fun c => (d.path, c)) (·.files.length) t
    fun d c hc => by cases hc; rw [List.length_map]; exact List.length_filterMap_le _ _
  rwa [List.filterMap_some] at this

theorem mem_allComps (hs : SoundLook t look) {p : Path} {m : Module}
    {c : CompData} (hm : look p = some m) (hc : c ∈ m) : (p, c) ∈ allComps t := by
  obtain ⟨d, hd, hp, rfl⟩ := hs p m hm
  exact List.mem_flatMap.2 ⟨d, hd, List.mem_map.2 ⟨c, hc, by rw [hp]⟩⟩

def unseen (t : Tree) (visited : List (Path × CompData)) : Nat :=
  ((allComps t).filter fun k => !decide (k ∈ visited)).length

theorem baseClasses_isSome (hs : SoundLook t look) :
    ∀ (n : Nat) (visited : List (Path × CompData)) (c : CompData), unseen t visited < n →
      (baseClasses env look n visited c).isSome = true := by
  intro n
  induction n with
  | zero => intro v c h; omega
  | succ n ih =>
    intro v c h
    unfold baseClasses
    split
    · rfl
    · rfl
    · rename_i d' c' hsup
      split
      · rfl
      · rename_i hv
        obtain ⟨_, m, hm, hc, _⟩ := getType_comp (superClass_ok hsup)
        have hmem := mem_allComps hs hm hc
        have hlt : unseen t ((d', c') :: v) < unseen t v := by
          unfold unseen
          apply filter_length_lt _ _ _ (d', c')
          · intro x _ hx
            simp only [Bool.not_eq_eq_eq_not, Bool.not_true, decide_eq_false_iff_not, List.mem_cons, not_or] at hx ⊢
            exact hx.2
          · exact hmem
          · simpa using hv
          · simp
        have := ih ((d', c') :: v) c' (by omega)
        simpa [Option.isSome_map] using this

/-- the walk over mutually inheriting components ends within the fuel `basesOf` provides -/
theorem basesOf_isSome (hs : SoundLook t look) (c : CompData) :
    (basesOf env t look c).isSome = true := by
  unfold basesOf
  apply baseClasses_isSome hs
  have h1 : unseen t [] ≤ (allComps t).length := by unfold unseen; exact List.length_filter_le _ _
  have h2 := allComps_length_le t
  omega

theorem clsBases_isSome (hs : SoundLook t look) (c : Cls) :
    (clsBases env t look c).isSome = true := by
  cases c with
  | qt q => rfl
  | comp d c => exact basesOf_isSome hs c

theorem infos_isSome (hs : SoundLook t look) :
    ∀ nodes : List (Obj × Cls), (infos env t look nodes).isSome = true := by
  intro nodes
  induction nodes with
  | nil => rfl
  | cons n rest ih =>
    unfold infos
    have h1 := clsBases_isSome (env := env) hs n.2
    obtain ⟨b, hb⟩ := Option.isSome_iff_exists.1 h1
    obtain ⟨r, hr⟩ := Option.isSome_iff_exists.1 ih
    rw [hb, hr]; rfl

theorem infos_length :
    ∀ (nodes : List (Obj × Cls)) (l : List NodeInfo), infos env t look nodes = some l → l.length = nodes.length := by
  intro nodes
  induction nodes with
  | nil => intro l h; simp [infos] at h; subst h; rfl
  | cons n rest ih =>
    intro l h
    unfold infos at h
    split at h
    · rename_i b r hb hr; cases h; simp [ih r hr]
    · cases h

theorem translate_isSome (hs : SoundLook t look)
    (base : Path) (f : File) : (translate env t look base f).isSome = true := by
  unfold translate
  dsimp only
  cases getType env look (docSpace env t look base f.imports).1 f.root.typeName with
  | notFound => rfl
  | err e => rfl
  | ok rootCls =>
    obtain ⟨kids, hk⟩ := Option.isSome_iff_exists.1 (infos_isSome (env := env) hs (kidNodes env look _ f))
    obtain ⟨b, hb⟩ := Option.isSome_iff_exists.1 (clsBases_isSome (env := env) hs rootCls)
    have hr : infos env t look [(f.root, rootCls)] = some [{ obj := f.root, cls := rootCls, bases := b }] := by
      simp only [infos, hb]
    dsimp only
    rw [hk, hr]
    rfl

/-- what the class test of the form lets through: the root must be a widget, a child a widget, a layout or an action -/
def passesClass (isRoot : Bool) (l : List BaseItem) : Bool :=
  if isRoot then derivesWidget l else (derivesAction l || derivesLayout l || derivesWidget l)

theorem classDiag_eq (isRoot : Bool) (n : NodeInfo) :
    classDiag isRoot n = if passesClass isRoot n.bases then []
      else [if isRoot then .notQWidget n.cls.name else .notActionLayoutWidget n.cls.name] := by
  cases isRoot <;> rfl

theorem classDiag_nil_iff {isRoot : Bool} {n : NodeInfo} : classDiag isRoot n = [] ↔ passesClass isRoot n.bases = true := by
  rw [classDiag_eq]
  split <;> simp_all

/-- the class test reports errors only: if all its diagnostics are warnings there are none -/
theorem classDiag_of_warnings {isRoot : Bool} {n : NodeInfo} (h : ∀ d ∈ classDiag isRoot n, d.isWarning = true) :
    classDiag isRoot n = [] := by
  rw [classDiag_eq] at h ⊢
  split
  · rfl
  · rename_i hp
    have := h _ (by rw [if_neg hp]; exact List.mem_cons_self)
    cases isRoot <;> cases this

theorem accepted_iff {o : Output} : o.accepted = true ↔ o.built = true ∧ ∀ d ∈ o.diags, d.isWarning = true := by
  simp [Output.accepted, List.all_eq_true]

theorem translate_built {base : Path} {f : File} {o : Output}
    (h : translate env t look base f = some o) (hb : o.built = true) :
    ∃ rootCls kids root,
      getType env look (docSpace env t look base f.imports).1 f.root.typeName = .ok rootCls ∧
      infos env t look (kidNodes env look (docSpace env t look base f.imports).1 f) = some kids ∧
      infos env t look [(f.root, rootCls)] = some [root] ∧
      o.customs = customWidgets env look (nodesOf env look (docSpace env t look base f.imports).1 f rootCls) ∧
      o.widgets = widgetOf root :: kids.map kidWidgetOf ∧
      ((∀ d ∈ o.diags, d.isWarning = true) → classDiag true root = [] ∧ ∀ k ∈ kids, classDiag false k = []) := by
  unfold translate at h
  dsimp only at h
  generalize getType env look (docSpace env t look base f.imports).1 f.root.typeName = g at h ⊢
  cases g with
  | notFound => cases h; cases hb
  | err e => cases h; cases hb
  | ok rootCls =>
    dsimp only at h
    split at h
    · rename_i kids root hk hr
      cases h
      refine ⟨rootCls, kids, root, rfl, hk, hr, rfl, rfl, ?_⟩
      intro hd
      refine ⟨classDiag_of_warnings fun d hdm => hd d ?_, fun k hk' => classDiag_of_warnings fun d hdm => hd d ?_⟩
      · simp only [List.mem_append]; exact .inl (.inr hdm)
      · simp only [List.mem_append, List.mem_flatMap]; exact .inr ⟨k, hk', hdm⟩
    · cases h

theorem mem_kidNodes {sp : List ModuleId} {f : File} {n : Obj × Cls} :
    n ∈ kidNodes env look sp f ↔ n.1 ∈ f.children ∧ getType env look sp n.1.typeName = .ok n.2 := by
  unfold kidNodes kidResults
  simp only [List.mem_filterMap, List.mem_map]
  constructor
  · rintro ⟨r, ⟨o, ho, hr⟩, hn⟩
    subst hr
    split at hn
    · cases hn
    · rename_i n' heq
      cases hn
      split at heq
      · cases heq
      · cases heq
      · rename_i c hc
        cases heq
        exact ⟨ho, hc⟩
  · rintro ⟨ho, hc⟩
    refine ⟨.inr n, ⟨n.1, ho, ?_⟩, rfl⟩
    rw [hc]

theorem mem_nodesOf {sp : List ModuleId} {f : File} {rootCls : Cls}
    (hroot : getType env look sp f.root.typeName = .ok rootCls) {n : Obj × Cls} :
    n ∈ nodesOf env look sp f rootCls ↔
      (n.1 ∈ f.children ∨ n.1 = f.root) ∧ getType env look sp n.1.typeName = .ok n.2 := by
  unfold nodesOf
  rw [List.mem_append, mem_kidNodes, List.mem_singleton]
  constructor
  · rintro (⟨h1, h2⟩ | rfl)
    · exact ⟨.inl h1, h2⟩
    · exact ⟨.inr rfl, hroot⟩
  · rintro ⟨h1 | h1, h2⟩
    · exact .inl ⟨h1, h2⟩
    · obtain ⟨o, c⟩ := n
      cases h1
      cases hroot.symm.trans h2
      exact .inr rfl

/-- no class name is listed twice: within one document a name denotes one class -/
theorem customWidgets_nodup {sp : List ModuleId} {f : File} {rootCls : Cls}
    (hroot : getType env look sp f.root.typeName = .ok rootCls) :
    ((customWidgets env look (nodesOf env look sp f rootCls)).map (·.cls)).Nodup := by
  unfold customWidgets
  -- the keys are distinct, and distinct keys give entries with distinct class names
  rw [List.Nodup, List.pairwise_map, List.pairwise_filterMap]
  refine List.Pairwise.imp_of_mem ?_ (uniq_nodup _ [])
  rintro ⟨d, c⟩ ⟨d', c'⟩ ha ha' hne b hb b' hb' hbb
  apply hne
  obtain ⟨o, ho⟩ := mem_customKeys.1 ha
  obtain ⟨o', ho'⟩ := mem_customKeys.1 ha'
  have g := ((mem_nodesOf hroot).1 ho).2
  have g' := ((mem_nodesOf hroot).1 ho').2
  obtain ⟨_, _, rfl⟩ := customOf_some hb
  obtain ⟨_, _, rfl⟩ := customOf_some hb'
  -- each key bears the type name of its object; equal names resolve to one class
  obtain ⟨_, _, _, _, e1⟩ := getType_comp g
  obtain ⟨_, _, _, _, e2⟩ := getType_comp g'
  have e : o.typeName = o'.typeName := e1.symm.trans ((show c.name = c'.name from hbb).trans e2)
  rw [e, g'] at g
  cases g
  rfl

theorem infos_mem :
    ∀ (nodes : List (Obj × Cls)) (l : List NodeInfo), infos env t look nodes = some l →
      ∀ n ∈ nodes, ∃ i ∈ l, i.obj = n.1 ∧ i.cls = n.2 ∧ clsBases env t look n.2 = some i.bases := by
  intro nodes
  induction nodes with
  | nil => intro l _ n hn; cases hn
  | cons x rest ih =>
    intro l h n hn
    unfold infos at h
    split at h
    · rename_i b r hb hr
      cases h
      rcases List.mem_cons.1 hn with hn | hn
      · subst hn; exact ⟨_, List.mem_cons_self, rfl, rfl, hb⟩
      · obtain ⟨i, hi, h'⟩ := ih r hr n hn
        exact ⟨i, List.mem_cons_of_mem _ hi, h'⟩
    · cases h

theorem derivesWidget_eq_derivesQt : ∀ l : List BaseItem, derivesWidget l = derivesQt (·.isWidget) l
  | [] => rfl
  | .err _ :: _ => rfl
  | .cls (.qt _) :: _ => rfl
  | .cls (.comp _ _) :: rest => by simp only [derivesWidget, derivesQt]; exact derivesWidget_eq_derivesQt rest

/-- `Bases env look v c l`: the walk over the base classes of `c`, with `v` visited, yields `l` — what `baseClasses`
    computes when it does not run out of fuel -/
inductive Bases (env : Env) (look : Path → Option Module) :
    List (Path × CompData) → CompData → List BaseItem → Prop where
  | err {v c e} : superClass env look c = .err e → Bases env look v c [.err e]
  | qt {v c q} : superClass env look c = .ok (.qt q) → Bases env look v c [.cls (.qt q)]
  | seen {v c d c'} : superClass env look c = .ok (.comp d c') → (d, c') ∈ v → Bases env look v c []
  | step {v c d c' l} : superClass env look c = .ok (.comp d c') → (d, c') ∉ v →
      Bases env look ((d, c') :: v) c' l → Bases env look v c (.cls (.comp d c') :: l)

theorem baseClasses_bases : ∀ (n : Nat) {v : List (Path × CompData)}
    {c : CompData} {l : List BaseItem}, baseClasses env look n v c = some l → Bases env look v c l := by
  intro n
  induction n with
  | zero => intro v c l h; cases h
  | succ n ih =>
    intro v c l h
    unfold baseClasses at h
    split at h
    · rename_i e he; cases h; exact .err he
    · rename_i q hq; cases h; exact .qt hq
    · rename_i d' c' hq
      split at h
      · rename_i hv; cases h; exact .seen hq hv
      · rename_i hv
        obtain ⟨l', hl', rfl⟩ := Option.map_eq_some_iff.1 h
        exact .step hq hv (ih hl')

theorem baseClasses_mono : ∀ (n m : Nat) (v : List (Path × CompData)) (c : CompData) (l : List BaseItem),
    baseClasses env look n v c = some l → baseClasses env look (n + m) v c = some l := by
  intro n
  induction n with
  | zero => intro m v c l h; cases h
  | succ n ih =>
    intro m v c l h
    rw [Nat.add_right_comm]
    unfold baseClasses at h ⊢
    split at h
    · exact h
    · exact h
    · rename_i d' c' hq
      split at h
      · rename_i hv; rw [if_pos hv]; exact h
      · rename_i hv
        obtain ⟨l', hl', rfl⟩ := Option.map_eq_some_iff.1 h
        rw [if_neg hv, ih m _ _ _ hl']; rfl

theorem clsBases_bases {d : Path} {c : CompData} {l : List BaseItem}
    (h : clsBases env t look (.comp d c) = some l) : Bases env look [] c l :=
  baseClasses_bases _ h

/-- `ReachesQt k c q`: following root types from component `c`, `k` components are passed and then the Qt
    class `q` is reached (every step resolved in the respective component's own imports). -/
inductive ReachesQt (env : Env) (look : Path → Option Module) : Nat → CompData → QtClass → Prop where
  | base {c q} : superClass env look c = .ok (.qt q) → ReachesQt env look 0 c q
  | step {c d c' k q} : superClass env look c = .ok (.comp d c') → ReachesQt env look k c' q →
      ReachesQt env look (k + 1) c q

theorem ReachesQt.det {k : Nat} {c : CompData} {q : QtClass}
    (h : ReachesQt env look k c q) : ∀ {k' q'}, ReachesQt env look k' c q' → k = k' ∧ q = q' := by
  induction h with
  | base h1 =>
    intro k' q' h'
    cases h' with
    | base h2 => rw [h1] at h2; cases h2; exact ⟨rfl, rfl⟩
    | step h2 _ => rw [h1] at h2; cases h2
  | step h1 _ ih =>
    intro k' q' h'
    cases h' with
    | base h2 => rw [h1] at h2; cases h2
    | step h2 h3 =>
      rw [h1] at h2; cases h2
      obtain ⟨rfl, rfl⟩ := ih h3
      exact ⟨rfl, rfl⟩

theorem reachesQt_of_found {v : List (Path × CompData)} {c : CompData}
    {l : List BaseItem} (h : Bases env look v c l) :
    (∀ {p}, propIn p l = .found → ∃ k q, ReachesQt env look k c q ∧ p ∈ q.props) ∧
    (∀ {sel}, derivesQt sel l = true → ∃ k q, ReachesQt env look k c q) := by
  induction h with
  | err _ => exact ⟨nofun, nofun⟩
  | seen _ _ => exact ⟨nofun, nofun⟩
  | @qt _ _ q hq =>
    refine ⟨fun hp => ⟨0, q, .base hq, ?_⟩, fun _ => ⟨0, q, .base hq⟩⟩
    simp only [propIn] at hp
    split at hp
    · assumption
    · cases hp
  | step hq _ _ ih =>
    refine ⟨fun hp => ?_, fun hd => ?_⟩
    · obtain ⟨k, q, hk, hmem⟩ := ih.1 hp
      exact ⟨k + 1, q, .step hq hk, hmem⟩
    · obtain ⟨k, q, hk⟩ := ih.2 hd
      exact ⟨k + 1, q, .step hq hk⟩

theorem passesClass_super_ok {isRoot : Bool} {v : List (Path × CompData)}
    {c : CompData} {l : List BaseItem} (h : Bases env look v c l) (hw : passesClass isRoot l = true) :
    ∃ s, superClass env look c = .ok s := by
  -- a base list that is empty or a single error passes no class test
  cases h with
  | err _ => cases isRoot <;> cases hw
  | seen _ _ => cases isRoot <;> cases hw
  | qt hq => exact ⟨_, hq⟩
  | step hq _ _ => exact ⟨_, hq⟩

/-- no visited class can be in the way of a chain that reaches a Qt class: the hypothesis on `v` -/
theorem bases_of_reaches {k : Nat} {c : CompData} {q : QtClass}
    (h : ReachesQt env look k c q) : ∀ {v : List (Path × CompData)} {l : List BaseItem}, Bases env look v c l →
    (∀ x ∈ v, ∀ j q', ReachesQt env look j x.2 q' → k ≤ j) →
    (∀ p, propIn p l = if p ∈ q.props then .found else .unknown) ∧ ∀ sel, derivesQt sel l = sel q := by
  induction h with
  | base h1 =>
    intro v l hb _
    cases hb with
    | qt h2 => cases h1.symm.trans h2; exact ⟨fun _ => rfl, fun _ => rfl⟩
    | err h2 => cases h1.symm.trans h2
    | seen h2 _ => cases h1.symm.trans h2
    | step h2 _ _ => cases h1.symm.trans h2
  | @step c d c' k q h1 h2 ih =>
    intro v l hb hv
    cases hb with
    | qt h3 => cases h1.symm.trans h3
    | err h3 => cases h1.symm.trans h3
    | seen h3 hmem =>
      cases h1.symm.trans h3
      exact absurd (hv _ hmem k q h2) (Nat.not_succ_le_self k)
    | step h3 _ hb' =>
      cases h1.symm.trans h3
      have hv' : ∀ x ∈ (d, c') :: v, ∀ j q', ReachesQt env look j x.2 q' → k ≤ j := by
        intro x hx j q' hj
        rcases List.mem_cons.1 hx with rfl | hx
        · exact Nat.le_of_eq (h2.det hj).1
        · exact Nat.le_of_succ_le (hv x hx j q' hj)
      -- `propIn` and `derivesQt` skip the component at the head of the list, so the goal reduces to the hypothesis
      -- (`:)`: elaborated against the goal, `l` would be taken for the longer list)
      exact (ih hb' hv' :)

/-- the component a component's root type resolves to (`none`: a Qt class, or nothing at all) -/
def superComp (env : Env) (look : Path → Option Module) (c : CompData) : Option (Path × CompData) :=
  match superClass env look c with
  | .ok (.comp d c') => some (d, c')
  | _ => none

/-- the component reached from `c` after `k + 1` steps along root types -/
def chainAt (env : Env) (look : Path → Option Module) : Nat → CompData → Option (Path × CompData)
  | 0, c => superComp env look c
  | k + 1, c => (superComp env look c).bind fun x => chainAt env look k x.2

theorem chainAt_add : ∀ (a b : Nat) (c : CompData),
    chainAt env look (a + 1 + b) c = (chainAt env look a c).bind fun x => chainAt env look b x.2 := by
  intro a
  induction a with
  | zero =>
    intro b c
    have : 0 + 1 + b = b + 1 := by omega
    rw [this]; rfl
  | succ a ih =>
    intro b c
    have : a + 1 + 1 + b = (a + 1 + b) + 1 := by omega
    rw [this]
    simp only [chainAt]
    cases superComp env look c with
    | none => rfl
    | some x => simp only [Option.bind_some]; exact ih b x.2

theorem chainAt_prefix {a b : Nat} {c : CompData}
    (h : (chainAt env look (a + 1 + b) c).isSome = true) : (chainAt env look a c).isSome = true :=
  Option.isSome_of_isSome_bind (chainAt_add a b c ▸ h)

theorem chainAt_forever {i j : Nat} {c : CompData} {x : Path × CompData}
    (hij : i < j) (hi : chainAt env look i c = some x) (hj : chainAt env look j c = some x) :
    ∀ k, (chainAt env look k c).isSome = true := by
  intro k
  induction k using Nat.strongRecOn with
  | _ k ih =>
    rcases Nat.lt_trichotomy k j with hlt | rfl | hgt
    · obtain ⟨b, rfl⟩ : ∃ b, j = k + 1 + b := ⟨j - k - 1, by omega⟩
      exact chainAt_prefix (by rw [hj]; rfl)
    · rw [hj]; rfl
    · -- beyond `j` the chain repeats what it did beyond `i`
      obtain ⟨m, rfl⟩ : ∃ m, k = j + 1 + m := ⟨k - j - 1, by omega⟩
      rw [chainAt_add, hj, ← hi, ← chainAt_add]
      exact ih (i + 1 + m) (by omega)

theorem bases_forever {v : List (Path × CompData)} {c : CompData}
    {l : List BaseItem} (h : Bases env look v c l) : (∀ k, (chainAt env look k c).isSome = true) →
    (∀ sel, derivesQt sel l = false) ∧ ∀ p, propIn p l = .unknown := by
  induction h with
  | err he => intro hk; have := hk 0; simp [chainAt, superComp, he] at this
  | qt hq => intro hk; have := hk 0; simp [chainAt, superComp, hq] at this
  | seen _ _ => intro _; exact ⟨fun _ => rfl, fun _ => rfl⟩
  | step hq _ _ ih =>
    intro hk
    -- `derivesQt` and `propIn` skip the component at the head of the list
    exact (ih fun k => by simpa [chainAt, superComp, hq] using hk (k + 1) :)

/-- The translation of a document reads its import STATEMENTS in two ways only: through the imports that count
    (`File.imports`) and through the diagnostics of the statements themselves.  Two files with the same counting imports,
    root object and children are translated alike up to those diagnostics. -/
theorem translate_stmts {base : Path} {f f' : File}
    (hi : f'.imports = f.imports) (hr : f'.root = f.root) (hc : f'.children = f.children) {o : Output}
    (h : translate env t look base f = some o) :
    ∃ R, o.diags = stmtDiags f.stmts ++ R ∧
      translate env t look base f' = some { o with diags := stmtDiags f'.stmts ++ R } := by
  unfold translate at h ⊢
  simp only [hi, hr, kidResults, kidNodes, hc, nodesOf, List.append_assoc] at h ⊢
  split at h
  · cases h; exact ⟨_, rfl, rfl⟩
  · cases h; exact ⟨_, rfl, rfl⟩
  · split at h
    · cases h; exact ⟨_, rfl, rfl⟩
    · cases h

theorem mem_stmtDiags_aliased {l : List ImportStmt} {s : ImportStmt} (hs : s ∈ l) (ha : s.alias.isSome = true) :
    Diag.aliasedImport ∈ stmtDiags l := by
  induction l with
  | nil => cases hs
  | cons x rest ih =>
    unfold stmtDiags
    rcases List.mem_cons.1 hs with rfl | hs
    · simp [ha]
    · exact List.mem_append.2 (.inr (ih hs))

theorem stmtDiags_eraseVersions (l : List ImportStmt) :
    stmtDiags (l.map fun s => { s with version := none }) = (stmtDiags l).filter (· ≠ .importVersionIgnored) := by
  induction l with
  | nil => rfl
  | cons x rest ih =>
    simp only [List.map_cons, stmtDiags, List.filter_append, ih]
    congr 1
    cases ha : x.alias.isSome <;> cases hv : x.version.isSome <;> simp

/-- the loop of `generate_ui` when no source ends in an I/O error -/
theorem cliLoop_eq (l : List (String × SrcOutcome)) (h : ∀ s ∈ l, s.2 ≠ .fatal) (diag : Bool) :
    cliLoop diag l = ((l.filter fun s => s.2 = .accepted).map (·.1),
      if diag || l.any (fun s => s.2 = .rejected) then .diagnosticGenerated else .success) := by
  induction l generalizing diag with
  | nil => cases diag <;> rfl
  | cons x xs ih =>
    obtain ⟨n, o⟩ := x
    have hxs : ∀ s ∈ xs, s.2 ≠ .fatal := fun s hs => h s (List.mem_cons_of_mem _ hs)
    cases o with
    | accepted => exact congrArg (fun r => (n :: r.1, r.2)) (ih hxs diag)
    | rejected => exact (ih hxs true).trans (by cases diag <;> rfl)
    | fatal => exact absurd rfl (h (n, .fatal) List.mem_cons_self)

end QV.Proofs.QmlDir
