/-
  Execution (Model.IrSem) of the IR fragments the builder's visitors produce.
  Two things are called `locals` throughout: `WState.locals : QV.Model.Locals`, the walk's map from names to IR locals,
  and `CodeBody.locals`, the types of the IR locals; `IrSem.Locals` is a third thing, the run-time values of the locals.
-/
import QV.Model.IrSem
import QV.Model.Finalize

namespace QV.Proofs.SemIr
open QV.Model QV.Model.IrSem
open QV.Spec.Sem (Val World Host Ev Ty STy coerceTo)

/-- an untyped integer constant.  An IR assignment converts the value to the type of its local, and `coerceTo` leaves
    alone exactly the values that are not untyped constants; so every value that is stored has to be shown not to be one. -/
def isCint : Val → Bool
  | .cint _ => true
  | _ => false

theorem coerceTo_of_not_cint (t : Ty) (v : Val) (h : isCint v = false) : coerceTo t v = some v := by
  cases v <;> simp_all [coerceTo, isCint]

theorem lt_length_of_getElem? {α} {l : List α} {i : Nat} {x : α} (h : l[i]? = some x) : i < l.length :=
  (List.getElem?_eq_some_iff.1 h).1

theorem mkInt_eq {v : Int} {w : Val} (h : QV.Spec.Sem.mkInt v = some w) : w = .int v := by
  unfold QV.Spec.Sem.mkInt at h
  split at h <;> simp_all

/-- the current block exists and has no terminator yet -/
def OpenAt (b : Builder) (blk : BasicBlock) : Prop :=
  b.code.blocks[b.currentRef]? = some blk ∧ blk.terminator = none

theorem pushStatementAt_open (b : Builder) (i : Nat) (blk : BasicBlock) (s : Statement)
    (hb : b.code.blocks[i]? = some blk) (ht : blk.terminator = none) :
    b.pushStatementAt i s =
      { b with code := { b.code with blocks := b.code.blocks.set i { blk with statements := blk.statements ++ [s] } } } := by
  simp [Builder.pushStatementAt, Builder.blockHasTerminator, Builder.modifyBlock, hb, ht]

theorem finalizeAt_open (b : Builder) (i : Nat) (blk : BasicBlock) (t : Terminator)
    (hb : b.code.blocks[i]? = some blk) (ht : blk.terminator = none) :
    b.finalizeAt i t =
      { b with code := { b.code with blocks := b.code.blocks.set i { blk with terminator := some t } } } := by
  simp [Builder.finalizeAt, Builder.blockHasTerminator, Builder.modifyBlock, hb, ht]

/-- `emit_result` for a non-void type: one fresh local, one statement appended to the open current block -/
theorem emitResult_nonvoid (b : Builder) (ty : TypeKind) (rv : Rvalue) (blk : BasicBlock) (hty : ty ≠ .void)
    (ho : OpenAt b blk) :
    b.emitResult ty rv =
      (.local b.code.locals.length ty,
       { b with code := { b.code with
           locals := b.code.locals ++ [ty],
           blocks := b.code.blocks.set b.currentRef
             { blk with statements := blk.statements ++ [.assign b.code.locals.length rv] } } }) := by
  rw [Builder.emitResult, Builder.alloca, if_pos hty]
  -- `alloca` leaves the blocks alone: `currentRef` and the look-up `ho.1` are, up to unfolding, those of `b`
  exact congrArg (Prod.mk _) (pushStatementAt_open _ _ blk _ ho.1 ho.2)

/-- `emit_result` for `void`: one `exec` statement appended, no local -/
theorem emitResult_void (b : Builder) (rv : Rvalue) (blk : BasicBlock) (ho : OpenAt b blk) :
    b.emitResult .void rv =
      (.void, { b with code := { b.code with
          blocks := b.code.blocks.set b.currentRef { blk with statements := blk.statements ++ [.exec rv] } } }) := by
  rw [Builder.emitResult, Builder.alloca, if_neg (not_not_intro rfl)]
  exact congrArg (Prod.mk _) (pushStatementAt_open _ _ blk _ ho.1 ho.2)

theorem execStatements_append (c : ICtx) (locals : List TypeKind) (xs ys : List Statement) (s : State) :
    execStatements c locals (xs ++ ys) s = (execStatements c locals xs s).bind (execStatements c locals ys) := by
  induction xs generalizing s with
  | nil => simp [execStatements]
  | cons x xs ih =>
    simp only [List.cons_append, execStatements]
    cases h : execStatement c locals s x with
    | none => simp
    | some s1 => simp [ih]

theorem exec_assign (c : ICtx) (locals : List TypeKind) (s s1 : State) (n : Nat) (ty : TypeKind) (rv : Rvalue)
    (v v' : Val) (hn : locals[n]? = some ty) (hev : evalRvalue c s rv = some (v, s1))
    (hv : coerceTo (styOf ty).ty v = some v') :
    execStatement c locals s (.assign n rv) = some { s1 with L := upd s1.L n v' } := by
  simp [execStatement, hev, hn, hv]

theorem upd_same (L : IrSem.Locals) (n : Nat) (v : Val) : upd L n v n = some v := by simp [upd]
theorem upd_other (L : IrSem.Locals) (n m : Nat) (v : Val) (h : m ≠ n) : upd L n v m = L m := by simp [upd, h]

/-- the store `n := copy src` on its own -/
theorem exec_store (c : ICtx) (locals : List TypeKind) (n : Nat) (src : Operand) (ty : TypeKind) (st : State) (v v' : Val)
    (hn : locals[n]? = some ty) (hv : evalOperand c st.L src = some v) (hc : coerceTo (styOf ty).ty v = some v') :
    execStatements c locals [.assign n (.copy src)] st = some { st with L := upd st.L n v' } := by
  simp [execStatements, execStatement, evalRvalue, hv, hn, hc]

/-- "the locals below `n0` are as in `L`" survives a store into a local at or above `n0` -/
theorem upd_frame {L L' : IrSem.Locals} {n0 n : Nat} {v : Val} (h : ∀ m, m < n0 → L' m = L m) (hn : n0 ≤ n) :
    ∀ m, m < n0 → upd L' n v m = L m :=
  fun m hm => (upd_other L' n m v (Nat.ne_of_lt (Nat.lt_of_lt_of_le hm hn))).trans (h m hm)

theorem frame_trans {L L1 L2 : IrSem.Locals} {n0 n1 : Nat} (h1 : ∀ m, m < n0 → L1 m = L m)
    (h2 : ∀ m, m < n1 → L2 m = L1 m) (hn : n0 ≤ n1) : ∀ m, m < n0 → L2 m = L m :=
  fun m hm => (h2 m (Nat.lt_of_lt_of_le hm hn)).trans (h1 m hm)

/-- an operand that does not mention local `n` -/
def Avoids (n : Nat) : Operand → Prop
  | .local m _ => m ≠ n
  | _ => True

theorem evalOperand_upd (c : ICtx) (L : IrSem.Locals) (n : Nat) (v : Val) (a : Operand) (h : Avoids n a) :
    evalOperand c (upd L n v) a = evalOperand c L a := by
  cases a with
  | const k => cases k <;> simp [evalOperand]
  | «local» m ty => simp_all [evalOperand, Avoids, upd]
  | _ => simp [evalOperand]

/-- one unfolding of `runFrom` at a block whose statements run through (`SemCfg.afterBlock` is its right-hand side) -/
theorem runFrom_step (c : ICtx) (code : CodeBody) (fuel i : Nat) (s s1 : State) (b : BasicBlock)
    (hb : code.blocks[i]? = some b) (hs : execStatements c code.locals b.statements s = some s1) :
    runFrom c code (fuel + 1) i s =
      match b.terminator with
      | some (.ret a) => (evalOperand c s1.L a).map fun v => (v, s1)
      | some (.br j) => runFrom c code fuel j s1
      | some (.brCond cnd t f) =>
        (match evalOperand c s1.L cnd with
         | some (.bool true) => runFrom c code fuel t s1
         | some (.bool false) => runFrom c code fuel f s1
         | _ => none)
      | some .unreachable => none
      | none => none := by
  simp only [runFrom, hb, hs]
  cases b.terminator with
  | none => rfl
  | some t => cases t <;> rfl

end QV.Proofs.SemIr
