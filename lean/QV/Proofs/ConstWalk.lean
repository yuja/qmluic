/-
  C03 end to end on constant expressions.  On the fragment the AST walk (Model/Walk.lean) is a pure function, `foldExpr`:
  it hands back the folded constant and the state it was given, or stops with one diagnostic (`walk_eq`, by induction on
  the expression with the monad equations of QV.Proofs.SemWalk).  That function agrees with the denotation
  (`foldExpr_sound`, on top of QV.Proofs.ConstFold); no walk state occurs in that half.

  Fragment  ConstFrag ::= integer | true | false | float | string | null | unary-op ConstFrag | ConstFrag ⊕ ConstFrag
  (⊕ every binary operator token except `&&` and `||`; tokens the language does not support — `**`, `>>>`, `??`,
  `instanceof`, `in`, `typeof`, `void`, `delete` — are in the fragment: the walk refuses them).
  What `walk_const_*` and `build_const*` say is written at their re-exports in QV.Props.C03.
-/
import QV.Proofs.SemWalk
import QV.Proofs.ConstFold
import QV.Proofs.TypingConst

namespace QV.Proofs.ConstWalk
open QV.Model QV.Spec.ConstSem QV.Proofs.ConstFold QV.Proofs.SemWalk
open QV.Proofs.TypingConst (cevalUnary cevalBinary visitUnary_const visitBinary_const)

inductive ConstFrag : Expr → Prop
  | int (v : Nat) : ConstFrag (.integer v)
  | bool (b : Bool) : ConstFrag (.bool b)
  | float (v : Nat) : ConstFrag (.float v)
  | string (s : List Char) : ConstFrag (.string s)
  | null : ConstFrag .null
  | unary (tok : UnaryToken) (a : Expr) : ConstFrag a → ConstFrag (.unary tok a)
  | binary (tok : BinaryToken) (l r : Expr) : (∀ lop, tok.toOp ≠ some (.logical lop)) →
      ConstFrag l → ConstFrag r → ConstFrag (.binary tok l r)

/-- a failed walk: the builder is untouched (no code), at least one diagnostic was added, nothing else changed -/
def FailedWith (s s' : WState) : Prop :=
  s'.b = s.b ∧ s'.locals = s.locals ∧ ∃ d ds, s'.diags = s.diags ++ d :: ds

theorem FailedWith.trans_diag (s s' : WState) (m : String) (h : s' = s) :
    FailedWith s { s' with diags := s'.diags ++ [m] } := by
  subst h
  exact ⟨rfl, rfl, m, [], rfl⟩

/-- what the walk computes on the fragment: the folded constant, or the diagnostic it stops with -/
def foldExpr (F : FloatOps) : Expr → Except String ConstantValue
  | .integer v => if (v : Int) ≤ i64Max then .ok (.integer v) else .error ExprError.integerConversion.message
  | .bool v => .ok (.bool v)
  | .float v => .ok (.float v)
  | .string v => .ok (.cstring v)
  | .null => .ok .nullPointer
  | .unary tok a =>
    (match foldExpr F a with
     | .error m => .error m
     | .ok ca =>
       match tok.toOp with
       | none => .error s!"unsupported operation '{tok.symbol}'"
       | some u => (cevalUnary F u ca).mapError ExprError.message)
  | .binary tok l r =>
    (match tok.toOp with
     | none => .error s!"unsupported operation '{tok.symbol}'"
     | some op =>
       match foldExpr F l with
       | .error m => .error m
       | .ok cl =>
         match foldExpr F r with
         | .error m => .error m
         | .ok cr => (cevalBinary F op cl cr).mapError ExprError.message)
  | _ => .error ""     -- outside the fragment: no statement looks at this arm

/-- the run `foldExpr` stands for -/
def runOf {α : Type} (f : ConstantValue → α) (r : Except String ConstantValue) (s : WState) : Option α × WState :=
  match r with
  | .ok c => (some (f c), s)
  | .error m => (none, { s with diags := s.diags ++ [m] })

theorem rvalue_of_expr {wc : Ctx} {e : Expr} {r : Except String ConstantValue} {s : WState}
    (h : (walkExpr wc e).run s = runOf (fun c => .item (.const c)) r s) : (walkRvalue wc e).run s = runOf .const r s := by
  rw [walkRvalue, run_bind, h]
  cases r <;> rfl

/-- on the fragment the walk is `foldExpr`: an item, the state as it went in; or one more diagnostic -/
theorem walk_eq (wc : Ctx) (e : Expr) (hf : ConstFrag e) :
    ∀ s, (walkExpr wc e).run s = runOf (fun c => .item (.const c)) (foldExpr wc.F e) s := by
  induction hf with
  | int v =>
    intro s
    rw [walkExpr]
    by_cases hv : (v : Int) ≤ i64Max <;> simp only [run_bind, run_getB, visitInteger, foldExpr, hv, ↓reduceIte] <;> rfl
  | unary tok a _ ih =>
    intro s
    rw [walkExpr, foldExpr]
    simp only [run_bind, rvalue_of_expr (ih s)]
    cases foldExpr wc.F a with
    | error m => rfl
    | ok ca =>
      simp only [runOf]
      cases tok.toOp with
      | none => rfl
      | some u =>
        simp only [run_bind, run_getB, visitUnary_const]
        cases cevalUnary wc.F u ca <;> rfl
  | binary tok l r hlog _ _ ihl ihr =>
    intro s
    rw [foldExpr]
    cases htok : tok.toOp with
    | none => rw [walkExpr, htok]; rfl
    | some op =>
      have hlog' : ∀ lop, op ≠ .logical lop := fun lop h => hlog lop (by rw [htok, h])
      rw [BuilderInv.walkExpr_binary wc htok hlog']
      simp only [run_bind, rvalue_of_expr (ihl s)]
      cases foldExpr wc.F l with
      | error m => rfl
      | ok cl =>
        simp only [runOf, rvalue_of_expr (ihr s)]
        cases foldExpr wc.F r with
        | error m => rfl
        | ok cr =>
          simp only [run_getB, visitBinary_const _ _ _ _ _ _ hlog']
          cases cevalBinary wc.F op cl cr <;> rfl
  | _ => intro s; rw [walkExpr]; rfl

/-! equations of the denotation: definitional; the generated equation lemmas of `eval` are too deep to build -/

theorem eval_integer (F : FloatOps) (v : Nat) :
    eval F (.integer v) = if (v : Int) < (2 : Int) ^ 63 then .val (.int v) else .undefined "integer literal out of range" := by
  rfl
theorem eval_bool (F : FloatOps) (v : Bool) : eval F (.bool v) = .val (.bool v) := rfl
theorem eval_float (F : FloatOps) (v : Nat) : eval F (.float v) = .val (.float v) := rfl
theorem eval_string (F : FloatOps) (v : List Char) : eval F (.string v) = .val (.str v) := rfl
theorem eval_null (F : FloatOps) : eval F .null = .val .null := rfl
theorem eval_unary (F : FloatOps) (op : UnaryToken) (a : Expr) :
    eval F (.unary op a) = (match eval F a with | .val v => unary F op v | r => r) := by
  rfl
theorem eval_binary (F : FloatOps) (op : BinaryToken) (l r : Expr) : eval F (.binary op l r) =
    (match op.toOp with
     | none => .illTyped
     | some _ =>
       match eval F l, eval F r with
       | .val a, .val b => binary F op a b
       | .undefined w, _ => .undefined w
       | .val _, .undefined w => .undefined w
       | .outside, _ | _, .outside => .outside
       | _, _ => .illTyped) := by
  rfl

theorem representable_nat (v : Nat) (h : (v : Int) ≤ i64Max) : representable (v : Int) = true := by
  rw [representable_iff]
  simp only [i64Max] at h
  omega

theorem mapError_ok {ε ε' α : Type} {f : ε → ε'} {x : Except ε α} {a : α} (h : x.mapError f = .ok a) : x = .ok a := by
  cases x <;> cases h
  rfl

/-- a constant `foldExpr` yields lies within 64 bits and is the denotation of the expression -/
theorem foldExpr_sound (F : FloatOps) (e : Expr) (hf : ConstFrag e) :
    ∀ c, foldExpr F e = .ok c → inRange c ∧ eval F e = .val (valOf c) := by
  induction hf with
  | int v =>
    intro c h
    rw [foldExpr] at h
    split at h <;> cases h
    rename_i hv
    have hr := representable_nat v hv
    exact ⟨hr, by rw [eval_integer, two_pow_63, if_pos ((representable_iff _).1 hr).2]; rfl⟩
  | bool | float | string | null => intro c h; cases h; exact ⟨trivial, rfl⟩
  | unary tok a _ ih =>
    intro c h
    rw [foldExpr] at h
    cases ha : foldExpr F a with
    | error m => rw [ha] at h; cases h
    | ok ca =>
      obtain ⟨hca, heva⟩ := ih ca ha
      cases htok : tok.toOp with
      | none => rw [ha, htok] at h; cases h
      | some u =>
        rw [ha, htok] at h
        rw [eval_unary, heva]
        exact cevalUnary_sound F tok u htok ca c hca (mapError_ok h)
  | binary tok l r hlog _ _ ihl ihr =>
    intro c h
    rw [foldExpr] at h
    cases htok : tok.toOp with
    | none => rw [htok] at h; cases h
    | some op =>
      cases hl : foldExpr F l with
      | error m => rw [htok, hl] at h; cases h
      | ok cl =>
        cases hr : foldExpr F r with
        | error m => rw [htok, hl, hr] at h; cases h
        | ok cr =>
          rw [htok, hl, hr] at h
          obtain ⟨hcl, hevl⟩ := ihl cl hl
          obtain ⟨_, hevr⟩ := ihr cr hr
          rw [eval_binary, htok, hevl, hevr]
          exact cevalBinary_sound F tok op htok (fun lop e => hlog lop (by rw [htok, e])) cl cr c hcl (mapError_ok h)

theorem walk_const_sound (wc : Ctx) (e : Expr) (hf : ConstFrag e) (s s' : WState) (i : QV.Model.Inter)
    (h : (walkExpr wc e).run s = (some i, s')) :
    s' = s ∧ ∃ c, i = .item (.const c) ∧ inRange c ∧ eval wc.F e = .val (valOf c) := by
  rw [walk_eq wc e hf] at h
  cases hc : foldExpr wc.F e with
  | error m => rw [hc] at h; cases h
  | ok c =>
    rw [hc] at h
    cases h
    exact ⟨rfl, c, rfl, foldExpr_sound wc.F e hf c hc⟩

theorem walk_const_fails_with_diagnostic (wc : Ctx) (e : Expr) (hf : ConstFrag e) (s s' : WState)
    (h : (walkExpr wc e).run s = (none, s')) : FailedWith s s' := by
  rw [walk_eq wc e hf] at h
  cases hc : foldExpr wc.F e with
  | ok c => rw [hc] at h; cases h
  | error m =>
    rw [hc] at h
    cases h
    exact .trans_diag s s m rfl

theorem walk_const_rejects_undefined (wc : Ctx) (e : Expr) (hf : ConstFrag e) (w : String)
    (hu : eval wc.F e = .undefined w) (s : WState) :
    ∃ s', (walkExpr wc e).run s = (none, s') ∧ FailedWith s s' := by
  cases hrun : (walkExpr wc e).run s with
  | mk r s' =>
    cases r with
    | some i =>
      obtain ⟨_, c, _, _, hev⟩ := walk_const_sound wc e hf s s' i hrun
      rw [hu] at hev
      cases hev
    | none => exact ⟨s', rfl, walk_const_fails_with_diagnostic wc e hf s s' hrun⟩

theorem walk_const_integer_too_large (wc : Ctx) (v : Nat) (hv : (2 : Int) ^ 63 ≤ (v : Int)) (s : WState) :
    (∃ w, eval wc.F (.integer v) = .undefined w) ∧
    (walkRvalue wc (.integer v)).run s = (none, { s with diags := s.diags ++ [ExprError.integerConversion.message] }) := by
  rw [two_pow_63] at hv
  constructor
  · refine ⟨"integer literal out of range", ?_⟩
    rw [eval_integer, if_neg (by omega)]
  · rw [rvalue_of_expr (walk_eq wc _ (.int v) s), foldExpr, if_neg (by simp only [i64Max]; omega)]
    rfl

/-- the evaluated value (tir/interpret.rs `EvaluatedValue`) a constant operand becomes in `evaluate_code`
    (`to_evaluated_value`; `null` has none) -/
def evaluatedOf : ConstantValue → Option EvaluatedValue
  | .bool v => some (.bool v)
  | .integer v => some (.integer v)
  | .float v => some (.float v)
  | .cstring v | .qstring v => some (.string v .noTr)
  | .nullPointer => none
  | .emptyList => some .emptyList

def denoted : EvaluatedValue → Option Val
  | .bool b => some (.bool b)
  | .integer v => some (.int v)
  | .float v => some (.float v)
  | .string s .noTr => some (.str s)
  | .string s .tr => some (.trStr s)
  | _ => none

theorem denoted_evaluatedOf (c : ConstantValue) (hn : c ≠ .nullPointer) (he : c ≠ .emptyList) :
    (evaluatedOf c).bind denoted = some (valOf c) := by
  cases c <;> simp_all [evaluatedOf, denoted, valOf]

theorem build_const (wc : Ctx) (e : Expr) (hf : ConstFrag e) :
    (∀ code, (build wc false (.stmt (.expr e))).code = some code →
      (build wc false (.stmt (.expr e))).diags = [] ∧ (build wc false (.stmt (.expr e))).panic = none ∧
      ∃ c, inRange c ∧ eval wc.F e = .val (valOf c) ∧ evaluateCode wc.env code = .value (evaluatedOf c)) ∧
    ((build wc false (.stmt (.expr e))).code = none → (build wc false (.stmt (.expr e))).diags ≠ []) := by
  have hrun := run_expr_stmt wc e {}
  rw [rvalue_of_expr (walk_eq wc e hf {})] at hrun
  cases hc : foldExpr wc.F e with
  | error m =>
    rw [hc] at hrun
    simp [build, walkProgram, hrun, runOf]
  | ok c =>
    rw [hc] at hrun
    obtain ⟨hin, hev⟩ := foldExpr_sound wc.F e hf c hc
    simp only [build, walkProgram, hrun, runOf]
    constructor
    · intro code hcode
      refine ⟨trivial, ?_, c, hin, hev, ?_⟩
      · cases c <;> rfl
      · simp only [Option.some.injEq] at hcode
        subst hcode
        cases c <;> rfl
    · intro hn
      cases hn

theorem build_const_rejects_undefined (wc : Ctx) (e : Expr) (hf : ConstFrag e) (w : String)
    (hu : eval wc.F e = .undefined w) :
    (build wc false (.stmt (.expr e))).code = none ∧ (build wc false (.stmt (.expr e))).diags ≠ [] := by
  obtain ⟨h1, h2⟩ := build_const wc e hf
  cases hc : (build wc false (.stmt (.expr e))).code with
  | none => exact ⟨rfl, h2 hc⟩
  | some code =>
    obtain ⟨_, _, c, _, hev, _⟩ := h1 code hc
    rw [hu] at hev
    cases hev

end QV.Proofs.ConstWalk
