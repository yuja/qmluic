/-
  C06, define-before-use for ALL programs: the certificate invariant.
  `ins i` is a set of locals claimed to be assigned whenever control arrives at block `i`; `DInv U ins b` says that the
  claim is consistent with everything built so far (`U`: the variables the user declared without initialiser, whose
  reads are exempt); `Cur`/`OpOk`: what is known / may be read at the current point; `FreshBlock`: what `break`/`return`
  leave.  What the primitives of tir/core.rs do to it, the steps of a visitor that keep the claim (`DS`), and what every
  visitor of tir/builder.rs does: lemmas named `…_d` say what a model function does to `DInv`.  For the visitors that build
  control flow the lemma lists what the claims `ins` of the blocks involved must satisfy (the walk chooses them so).
-/
import QV.Proofs.BuilderSkeleton

namespace QV.Proofs.BuilderInv
open QV.Model QV.Model.Cfg

/-- `ins i x`: local `x` is claimed to be assigned whenever control arrives at block `i` -/
abbrev Ins := Nat → Nat → Prop

/-- what block `i` knows at its end -/
def Out (ins : Ins) (b : Builder) (i x : Nat) : Prop := x ∈ defsOf (stmtsOf b i) ∨ ins i x ∨ x < np b

/-- every read in `stmts` of a local outside `U` is covered by an earlier definition in `stmts` or by `K` -/
def Cov (U : Nat → Prop) (stmts : List Statement) (K : Nat → Prop) : Prop :=
  ∀ k s, stmts[k]? = some s → ∀ x ∈ stmtReads s, ¬ U x → x ∈ defsOf (stmts.take k) ∨ K x

/-- the claim `ins` is consistent with the code of `b` -/
structure DInv (U : Nat → Prop) (ins : Ins) (b : Builder) : Prop where
  /-- the statements of every block read covered locals only -/
  sc : ∀ i, Cov U (stmtsOf b i) (fun x => ins i x ∨ x < np b)
  /-- a terminator present reads what its block knows at its end, and that covers the claim of every successor -/
  tc : ∀ i t, termOf b i = some t → (∀ x ∈ termReads t, ¬ U x → Out ins b i x) ∧
        (∀ j ∈ successors (some t), ∀ x, ins j x → Out ins b i x)
  /-- the same for a completion value (the operand of the `return` that `finalize_completion_values` may install) -/
  cc : ∀ i a, complOf b i = some a → ∀ x ∈ operandReads a, ¬ U x → Out ins b i x

theorem defsOf_append (a b : List Statement) : defsOf (a ++ b) = defsOf a ++ defsOf b := by
  simp [defsOf]

theorem Cov.nil (U : Nat → Prop) (K : Nat → Prop) : Cov U [] K := by
  intro k s h; simp at h

theorem Cov.snoc {U : Nat → Prop} {stmts : List Statement} {K : Nat → Prop} {st : Statement} (h : Cov U stmts K)
    (hs : ∀ x ∈ stmtReads st, ¬ U x → x ∈ defsOf stmts ∨ K x) : Cov U (stmts ++ [st]) K := by
  intro k s hk x hx hu
  rw [List.getElem?_append] at hk
  split at hk
  · rw [List.take_append_of_le_length (Nat.le_of_lt ‹_›)]
    exact h k s hk x hx hu
  · rw [List.getElem?_singleton] at hk
    split at hk <;> cases hk
    rw [List.take_left' (by omega)]
    exact hs x hx hu

theorem Cov.mono {U U' : Nat → Prop} {stmts : List Statement} {K K' : Nat → Prop} (h : Cov U stmts K)
    (hu : ∀ x, U x → U' x) (hk : ∀ x, K x → K' x) : Cov U' stmts K' := by
  intro k s hs x hx hnu
  rcases h k s hs x hx (fun h => hnu (hu x h)) with h1 | h1
  · exact Or.inl h1
  · exact Or.inr (hk x h1)

theorem Out.mono_of {ins : Ins} {b b' : Builder} {i x : Nat}
    (hs : ∀ y, y ∈ defsOf (stmtsOf b i) → y ∈ defsOf (stmtsOf b' i)) (hn : np b ≤ np b') (h : Out ins b i x) :
    Out ins b' i x := by
  rcases h with h | h | h
  · exact Or.inl (hs x h)
  · exact Or.inr (Or.inl h)
  · exact Or.inr (Or.inr (Nat.lt_of_lt_of_le h hn))

theorem Out.congr {ins : Ins} {b b' : Builder} (h : b'.code = b.code) {i x : Nat} : Out ins b' i x ↔ Out ins b i x := by
  unfold Out; rw [stmtsOf_congr h, np_congr h]

theorem DInv.congr {U : Nat → Prop} {ins : Ins} {b b' : Builder} (h : b'.code = b.code) (hd : DInv U ins b) : DInv U ins b' := by
  refine ⟨fun i => ?_, fun i t hti => ?_, fun i a hci => ?_⟩
  · rw [stmtsOf_congr h, np_congr h]; exact hd.sc i
  · rw [termOf_congr h] at hti
    obtain ⟨h1, h2⟩ := hd.tc i t hti
    exact ⟨fun x hx hu => (Out.congr h).2 (h1 x hx hu), fun j hj x hx => (Out.congr h).2 (h2 j hj x hx)⟩
  · rw [complOf_congr h] at hci
    exact fun x hx hu => (Out.congr h).2 (hd.cc i a hci x hx hu)

theorem DInv.fail {U : Nat → Prop} {ins : Ins} {b : Builder} (m : String) (hd : DInv U ins b) : DInv U ins (b.fail m) :=
  DInv.congr (b := b) (b' := b.fail m) rfl hd

theorem Out.push {ins : Ins} {b : Builder} (k : Nat) (st : Statement) {i x : Nat} (h : Out ins b i x) :
    Out ins (b.pushStatementAt k st) i x := by
  refine Out.mono_of (fun y hy => ?_) (by simp) h
  rw [stmtsOf_pushStatementAt]
  split
  · rw [defsOf_append]; exact List.mem_append.2 (Or.inl hy)
  · exact hy

theorem Out.push_def {ins : Ins} {b : Builder} {k : Nat} (hk : k < len b) (l : Nat) (r : Rvalue) :
    Out ins (b.pushStatementAt k (.assign l r)) k l := by
  left
  rw [stmtsOf_pushStatementAt]
  simp [hk, defsOf, stmtDef]

theorem DInv.push {U : Nat → Prop} {ins : Ins} {b : Builder} (k : Nat) (st : Statement) (hd : DInv U ins b)
    (hr : ∀ x ∈ stmtReads st, ¬ U x → Out ins b k x) : DInv U ins (b.pushStatementAt k st) := by
  refine ⟨fun i => ?_, fun i t hti => ?_, fun i a hci => ?_⟩
  · rw [stmtsOf_pushStatementAt, np_pushStatementAt]
    split
    · rename_i hc
      obtain ⟨rfl, _⟩ := hc
      exact (hd.sc i).snoc hr
    · exact hd.sc i
  · rw [termOf_pushStatementAt] at hti
    obtain ⟨h1, h2⟩ := hd.tc i t hti
    exact ⟨fun x hx hu => (h1 x hx hu).push k st, fun j hj x hx => (h2 j hj x hx).push k st⟩
  · rw [complOf_pushStatementAt] at hci
    exact fun x hx hu => (hd.cc i a hci x hx hu).push k st

theorem Out.finalize {ins : Ins} {b : Builder} (k : Nat) (t : Terminator) {i x : Nat} :
    Out ins (b.finalizeAt k t) i x ↔ Out ins b i x := by
  unfold Out; rw [stmtsOf_finalizeAt, np_finalizeAt]

theorem DInv.finalize {U : Nat → Prop} {ins : Ins} {b : Builder} (k : Nat) (t : Terminator) (hd : DInv U ins b)
    (hr : ∀ x ∈ termReads t, ¬ U x → Out ins b k x)
    (hs : ∀ j ∈ successors (some t), ∀ x, ins j x → Out ins b k x) : DInv U ins (b.finalizeAt k t) := by
  refine ⟨fun i => ?_, fun i t' hti => ?_, fun i a hci => ?_⟩
  · rw [stmtsOf_finalizeAt, np_finalizeAt]; exact hd.sc i
  · rw [termOf_finalizeAt] at hti
    split at hti
    · rename_i hc
      obtain ⟨rfl, _⟩ := hc
      simp at hti; subst hti
      exact ⟨fun x hx hu => (Out.finalize i t).2 (hr x hx hu), fun j hj x hx => (Out.finalize i t).2 (hs j hj x hx)⟩
    · obtain ⟨h1, h2⟩ := hd.tc i t' hti
      exact ⟨fun x hx hu => (Out.finalize k t).2 (h1 x hx hu), fun j hj x hx => (Out.finalize k t).2 (h2 j hj x hx)⟩
  · rw [complOf_finalizeAt] at hci
    exact fun x hx hu => (Out.finalize k t).2 (hd.cc i a hci x hx hu)

theorem Out.setCompletion {ins : Ins} {b : Builder} (v : Operand) {i x : Nat} :
    Out ins (b.setCompletionValue v) i x ↔ Out ins b i x := by
  unfold Out; rw [stmtsOf_setCompletionValue, np_setCompletionValue]

theorem DInv.setCompletion {U : Nat → Prop} {ins : Ins} {b : Builder} (v : Operand) (hd : DInv U ins b)
    (hr : ∀ x ∈ operandReads v, ¬ U x → Out ins b (len b - 1) x) : DInv U ins (b.setCompletionValue v) := by
  refine ⟨fun i => ?_, fun i t' hti => ?_, fun i a hci => ?_⟩
  · rw [stmtsOf_setCompletionValue, np_setCompletionValue]; exact hd.sc i
  · rw [termOf_setCompletionValue] at hti
    obtain ⟨h1, h2⟩ := hd.tc i t' hti
    exact ⟨fun x hx hu => (Out.setCompletion v).2 (h1 x hx hu), fun j hj x hx => (Out.setCompletion v).2 (h2 j hj x hx)⟩
  · rw [complOf_setCompletionValue] at hci
    split at hci
    · rename_i hc
      obtain ⟨rfl, _⟩ := hc
      simp at hci
      intro x hx hu
      rw [← hci] at hx
      exact (Out.setCompletion v).2 (hr x hx hu)
    · exact fun x hx hu => (Out.setCompletion v).2 (hd.cc i a hci x hx hu)

theorem Out.alloca {ins : Ins} {b : Builder} (ty : TypeKind) {i x : Nat} : Out ins (b.alloca ty).2 i x ↔ Out ins b i x := by
  unfold Out; rw [stmtsOf_alloca, np_alloca]

theorem DInv.alloca {U : Nat → Prop} {ins : Ins} {b : Builder} (ty : TypeKind) (hd : DInv U ins b) : DInv U ins (b.alloca ty).2 := by
  refine ⟨fun i => ?_, fun i t' hti => ?_, fun i a hci => ?_⟩
  · rw [stmtsOf_alloca, np_alloca]; exact hd.sc i
  · rw [termOf_alloca] at hti
    obtain ⟨h1, h2⟩ := hd.tc i t' hti
    exact ⟨fun x hx hu => (Out.alloca ty).2 (h1 x hx hu), fun j hj x hx => (Out.alloca ty).2 (h2 j hj x hx)⟩
  · rw [complOf_alloca] at hci
    exact fun x hx hu => (Out.alloca ty).2 (hd.cc i a hci x hx hu)

/-- claims are compared by `=` later on (`LeB.ext`): that works because `upd` returns `S` itself -/
def upd (ins : Ins) (k : Nat) (S : Nat → Prop) : Ins := fun i => if i = k then S else ins i

@[simp] theorem upd_same (ins : Ins) (k : Nat) (S : Nat → Prop) : upd ins k S k = S := by simp [upd]

theorem upd_ne (ins : Ins) {k i : Nat} (S : Nat → Prop) (h : i ≠ k) : upd ins k S i = ins i := by simp [upd, h]

theorem Out.newBlock_old {ins : Ins} {b : Builder} (S : Nat → Prop) {i x : Nat} (hi : i ≠ len b) :
    Out (upd ins (len b) S) b.newBlock.2 i x ↔ Out ins b i x := by
  unfold Out; rw [stmtsOf_newBlock, np_newBlock, upd_ne ins S hi]

theorem Out.newBlock_new {ins : Ins} {b : Builder} (S : Nat → Prop) {x : Nat} :
    Out (upd ins (len b) S) b.newBlock.2 (len b) x ↔ (S x ∨ x < np b) := by
  unfold Out; rw [stmtsOf_newBlock, np_newBlock, upd_same, stmtsOf_ge (Nat.le_refl _)]
  simp [defsOf]

/-- `mark_branch_point` (and the block pushed by break/return): the new block is empty and nothing jumps to it
    yet, so it may claim anything -/
theorem DInv.newBlock {U : Nat → Prop} {ins : Ins} {b : Builder} (S : Nat → Prop) (hd : DInv U ins b) (hi : Inv b) :
    DInv U (upd ins (len b) S) b.newBlock.2 := by
  refine ⟨fun i => ?_, fun i t hti => ?_, fun i a hci => ?_⟩
  · rw [stmtsOf_newBlock, np_newBlock]
    by_cases he : i = len b
    · subst he; rw [stmtsOf_ge (Nat.le_refl _)]; exact Cov.nil _ _
    · rw [upd_ne ins S he]; exact hd.sc i
  · rw [termOf_newBlock] at hti
    have hlt := termOf_lt hti
    have hne : i ≠ len b := by omega
    obtain ⟨h1, h2⟩ := hd.tc i t hti
    refine ⟨fun x hx hu => (Out.newBlock_old S hne).2 (h1 x hx hu), fun j hj x hx => ?_⟩
    have hjlt : j < len b := (hi.tgt i t hti).1 j hj
    have hjne : j ≠ len b := by omega
    rw [upd_ne ins S hjne] at hx
    exact (Out.newBlock_old S hne).2 (h2 j hj x hx)
  · rw [complOf_newBlock] at hci
    have hne : i ≠ len b := Nat.ne_of_lt (complOf_lt hci)
    exact fun x hx hu => (Out.newBlock_old S hne).2 (hd.cc i a hci x hx hu)

/-- `U` may grow (a later `let v: T;`) -/
theorem DInv.weaken {U U' : Nat → Prop} {ins : Ins} {b : Builder} (hd : DInv U ins b) (hu : ∀ x, U x → U' x) : DInv U' ins b :=
  ⟨fun i => (hd.sc i).mono hu (fun _ h => h),
   fun i t hti => ⟨fun x hx hnu => (hd.tc i t hti).1 x hx (fun h => hnu (hu x h)), (hd.tc i t hti).2⟩,
   fun i a hci x hx hnu => hd.cc i a hci x hx (fun h => hnu (hu x h))⟩

/-- what is known at the current point (the end of the current block) -/
def Cur (ins : Ins) (b : Builder) (x : Nat) : Prop := Out ins b (len b - 1) x

/-- an operand may be read at the current point -/
def OpOk (U : Nat → Prop) (ins : Ins) (b : Builder) (a : Operand) : Prop := ∀ x ∈ operandReads a, ¬ U x → Cur ins b x

/-- a step of the builder that keeps the claim: the invariant holds afterwards (`d`), no block is added (`eq`) -/
structure DS (U : Nat → Prop) (ins : Ins) (b b' : Builder) : Prop where
  d : DInv U ins b'
  eq : len b' = len b
  /-- `Out` is monotone: no block knows less -/
  om : ∀ i x, Out ins b i x → Out ins b' i x

theorem DS.refl {U : Nat → Prop} {ins : Ins} {b : Builder} (hd : DInv U ins b) : DS U ins b b := ⟨hd, rfl, fun _ _ h => h⟩

theorem DS.trans {U : Nat → Prop} {ins : Ins} {a b c : Builder} (h1 : DS U ins a b) (h2 : DS U ins b c) : DS U ins a c :=
  ⟨h2.d, h2.eq.trans h1.eq, fun i x h => h2.om i x (h1.om i x h)⟩

theorem DS.then_code {U : Nat → Prop} {ins : Ins} {b b1 b2 : Builder} (h : DS U ins b b1) (hc : b2.code = b1.code) : DS U ins b b2 :=
  ⟨h.d.congr hc, (len_congr hc).trans h.eq, fun i x hx => (Out.congr hc).2 (h.om i x hx)⟩

theorem DS.then_alloca {U : Nat → Prop} {ins : Ins} {b b1 : Builder} (h : DS U ins b b1) (ty : TypeKind) : DS U ins b (b1.alloca ty).2 :=
  ⟨h.d.alloca ty, by rw [len_alloca]; exact h.eq, fun i x hx => (Out.alloca ty).2 (h.om i x hx)⟩

theorem DS.then_push {U : Nat → Prop} {ins : Ins} {b b1 : Builder} (h : DS U ins b b1) (k : Nat) (st : Statement)
    (hr : ∀ x ∈ stmtReads st, ¬ U x → Out ins b1 k x) : DS U ins b (b1.pushStatementAt k st) :=
  ⟨h.d.push k st hr, by rw [len_pushStatementAt]; exact h.eq, fun i x hx => (h.om i x hx).push k st⟩

theorem DS.then_fin {U : Nat → Prop} {ins : Ins} {b b1 : Builder} (h : DS U ins b b1) (k : Nat) (t : Terminator)
    (hr : ∀ x ∈ termReads t, ¬ U x → Out ins b1 k x)
    (hs : ∀ j ∈ successors (some t), ∀ x, ins j x → Out ins b1 k x) : DS U ins b (b1.finalizeAt k t) :=
  ⟨h.d.finalize k t hr hs, by rw [len_finalizeAt]; exact h.eq, fun i x hx => (Out.finalize k t).2 (h.om i x hx)⟩

/-- an unconditional jump installed in block `k`: what the target claims, `k` knew before the visitor began -/
theorem DS.then_br {U : Nat → Prop} {ins : Ins} {b b1 : Builder} (h : DS U ins b b1) (k j : Nat)
    (hs : ∀ x, ins j x → Out ins b k x) : DS U ins b (b1.finalizeAt k (.br j)) :=
  h.then_fin k _ (fun _ hx => nomatch hx) fun _ hj x hx => h.om k x (hs x (List.mem_singleton.1 hj ▸ hx))

/-- a conditional branch installed in block `k`: the condition may be read there, and both targets claim what `k` knew -/
theorem DS.then_brCond {U : Nat → Prop} {ins : Ins} {b b1 : Builder} (h : DS U ins b b1) (k : Nat) (c : Operand) (T F : Nat)
    (hc : ∀ x ∈ operandReads c, ¬ U x → Out ins b k x) (hT : ∀ x, ins T x → Out ins b k x)
    (hF : ∀ x, ins F x → Out ins b k x) :
    DS U ins b (b1.finalizeAt k (.brCond c T F)) :=
  h.then_fin k _ (fun x hx hu => h.om k x (hc x hx hu)) fun j hj x hx => by
    simp only [successors, List.mem_cons, List.not_mem_nil, or_false] at hj
    rcases hj with rfl | rfl
    · exact h.om k x (hT x hx)
    · exact h.om k x (hF x hx)

theorem DS.then_completion {U : Nat → Prop} {ins : Ins} {b b1 : Builder} (h : DS U ins b b1) (v : Operand)
    (hr : ∀ x ∈ operandReads v, ¬ U x → Out ins b1 (len b1 - 1) x) : DS U ins b (b1.setCompletionValue v) :=
  ⟨h.d.setCompletion v hr, by rw [len_setCompletionValue]; exact h.eq, fun i x hx => (Out.setCompletion v).2 (h.om i x hx)⟩

theorem DS.cur {U : Nat → Prop} {ins : Ins} {b b' : Builder} (h : DS U ins b b') {x : Nat} (hx : Cur ins b x) : Cur ins b' x := by
  unfold Cur at hx ⊢; rw [h.eq]; exact h.om _ _ hx

theorem OpOk.mono {U : Nat → Prop} {ins : Ins} {b b' : Builder} {a : Operand} (h : OpOk U ins b a) (hs : DS U ins b b') :
    OpOk U ins b' a := fun x hx hu => hs.cur (h x hx hu)

theorem OpOk.const (U : Nat → Prop) (ins : Ins) (b : Builder) (c : ConstantValue) : OpOk U ins b (.const c) := by
  intro x hx; simp [operandReads] at hx

theorem OpOk.void (U : Nat → Prop) (ins : Ins) (b : Builder) : OpOk U ins b .void := by
  intro x hx; simp [operandReads] at hx

theorem Cur.push_def {ins : Ins} {b : Builder} (hpos : 0 < len b) (l : Nat) (r : Rvalue) :
    Cur ins (b.pushStatement (.assign l r)) l := by
  unfold Cur
  rw [len_pushStatement]
  exact Out.push_def (Nat.sub_lt hpos Nat.one_pos) l r

theorem Emitted.ds {U : Nat → Prop} {ins : Ins} {b b' : Builder} {rv : Rvalue} {a : Operand} (h : Emitted b rv a b')
    (hd : DInv U ins b) (hpos : 0 < len b) (hr : ∀ x ∈ rvalueReads rv, ¬ U x → Cur ins b x) :
    DS U ins b b' ∧ OpOk U ins b' a := by
  obtain ⟨b0, ty, hc, h⟩ := h
  have h0 : DS U ins b b0 := (DS.refl hd).then_code hc
  by_cases hv : ty = .void
  · subst hv
    rw [emitResult_void] at h
    cases h
    exact ⟨h0.then_push _ _ fun x hx hu => h0.cur (hr x (by simpa [stmtReads] using hx) hu), OpOk.void _ _ _⟩
  · rw [emitResult_nonvoid b0 ty rv hv] at h
    cases h
    have h1 := h0.then_alloca ty
    refine ⟨h1.then_push _ _ fun x hx hu => h1.cur (hr x (by simpa [stmtReads] using hx) hu), fun x hx hu => ?_⟩
    obtain rfl : x = b0.code.locals.length := by simpa [operandReads] using hx
    exact Cur.push_def (by rw [h1.eq]; exact hpos) _ _

/-- define before use: if the values given may be read at the current point, the claim is kept and the result may be read -/
theorem Straight.ds {R : List Nat} {b b' : Builder} {a : Operand} (h : Straight R b a b') {U : Nat → Prop} {ins : Ins}
    (hd : DInv U ins b) (hpos : 0 < len b) (hR : ∀ x ∈ R, ¬ U x → Cur ins b x) : DS U ins b b' ∧ OpOk U ins b' a := by
  cases h with
  | pure hc ha =>
    have h0 := (DS.refl hd).then_code hc
    exact ⟨h0, fun x hx hu => h0.cur (hR x (ha x hx) hu)⟩
  | emit he hr hg => exact he.ds hd hpos (fun x hx hu => hR x (hr x hx) hu)
  | push hr hg => exact ⟨(DS.refl hd).then_push _ _ (fun x hx hu => hR x (hr x hx) hu), OpOk.void _ _ _⟩

theorem visitLocalDeclaration_d {U : Nat → Prop} {ins : Ins} {b b' : Builder} {ty : TypeKind} {n : Nat}
    (h : visitLocalDeclaration b ty = .ok (n, b')) (hd : DInv U ins b) : DS U ins b b' := by
  rw [visitLocalDeclaration_eff h]; exact (DS.refl hd).then_alloca ty

/-- `let v = e` / `v = e`: afterwards the variable is known at the current point -/
theorem visitLocalAssignment_d {U : Nat → Prop} {ins : Ins} {env : Env} {b b' : Builder} {l : Nat} {r a : Operand}
    (h : visitLocalAssignment env b l r = .ok (a, b')) (hd : DInv U ins b) (hpos : 0 < len b) (hr : OpOk U ins b r) :
    DS U ins b b' ∧ (l < b.code.locals.length → Cur ins b' l) := by
  refine ⟨((visitLocalAssignment_straight h).ds hd hpos hr).1, fun hlt => ?_⟩
  obtain ⟨-, ⟨hnone, _⟩ | rfl⟩ := visitLocalAssignment_eff h
  · rw [List.getElem?_eq_getElem hlt] at hnone; cases hnone
  · exact Cur.push_def hpos _ _

/-- `visit_function_parameter` sets the parameter count to the number of locals: the only place where `np` changes -/
theorem DInv.np_grow {U : Nat → Prop} {ins : Ins} {b : Builder} (n : Nat) (hn : np b ≤ n) (hd : DInv U ins b) :
    DInv U ins { b with code := { b.code with parameterCount := n } } := by
  have ho : ∀ i x, Out ins b i x → Out ins { b with code := { b.code with parameterCount := n } } i x :=
    fun i x => Out.mono_of (fun _ h => h) hn
  refine ⟨fun i => ?_, fun i t hti => ?_, fun i a hci => ?_⟩
  · exact (hd.sc i).mono (fun _ h => h) (fun x hx => hx.imp_right fun h => Nat.lt_of_lt_of_le h hn)
  · obtain ⟨h1, h2⟩ := hd.tc i t hti
    exact ⟨fun x hx hu => ho i x (h1 x hx hu), fun j hj x hx => ho i x (h2 j hj x hx)⟩
  · exact fun x hx hu => ho i x (hd.cc i a hci x hx hu)

/-- a parameter is known from the start -/
theorem visitFunctionParameter_d {U : Nat → Prop} {ins : Ins} {b b' : Builder} {ty : TypeKind} {n : Nat}
    (h : visitFunctionParameter b ty = .ok (n, b')) (hd : DInv U ins b) (hnp : np b ≤ b.code.locals.length) :
    DS U ins b b' ∧ n < np b' ∧ np b' ≤ b'.code.locals.length := by
  obtain ⟨b0, b1, hc0, hb1, hl1, hn, hb'⟩ := visitFunctionParameter_eff h
  have h1 : DS U ins b b1 := by rw [hb1]; exact ((DS.refl hd).then_code hc0).then_alloca ty
  have hle : np b1 ≤ b1.code.locals.length := by
    rw [hb1, np_alloca, ← hb1, hl1, np_congr hc0, hc0]; omega
  rw [hb']
  refine ⟨⟨DInv.np_grow _ hle h1.d, h1.eq, fun i x hx => ?_⟩, ?_, Nat.le_refl _⟩
  · exact Out.mono_of (b := b1) (fun _ h => h) hle (h1.om i x hx)
  · show n < b1.code.locals.length
    omega

theorem visitExpressionStatement_d {U : Nat → Prop} {ins : Ins} {b : Builder} {v : Operand} (hd : DInv U ins b)
    (hv : OpOk U ins b v) : DS U ins b (visitExpressionStatement b v) := by
  unfold visitExpressionStatement
  exact (DS.refl hd).then_completion _ (fun x hx hu => hv x (by simpa using hx) hu)

/-- a branch of `?:`, `&&`, `||` stores its value and closes its block: a block jumped to may claim the result besides what
    the branch block knows -/
theorem storeAt_d {U : Nat → Prop} {ins : Ins} {b bb : Builder} {sink : Option Operand} {t : Terminator} {src : Operand} {ref : Nat}
    (hbb : DS U ins b bb) (href : ref < len b) (hsrc : ∀ z ∈ operandReads src, ¬ U z → Out ins bb ref z)
    (ht : ∀ z ∈ termReads t, ¬ U z → Out ins bb ref z)
    (hj : ∀ j ∈ successors (some t), ∀ z, ins j z → Out ins bb ref z ∨ z ∈ operandReads (sink.getD .void)) :
    DS U ins b (storeAt sink t bb src ref) := by
  unfold storeAt
  split
  · rename_i n ty
    have dp := hbb.then_push ref (.assign n (.copy src)) (fun z hz hu => hsrc z (by simpa [stmtReads, rvalueReads] using hz) hu)
    have hn : Out ins (bb.pushStatementAt ref (.assign n (.copy src))) ref n := Out.push_def (by rw [hbb.eq]; exact href) _ _
    refine dp.then_fin ref _ (fun z hz hu => (ht z hz hu).push _ _) (fun j hj' z hz => ?_)
    rcases hj j hj' z hz with h | h
    · exact h.push _ _
    · rw [List.mem_singleton.1 h]; exact hn
  · rename_i hne
    have hr0 : operandReads (sink.getD .void) = [] := by
      cases sink with
      | none => rfl
      | some o => exact reads_nonlocal (fun n t he => hne n t (by rw [← he]; rfl))
    exact hbb.then_fin ref _ ht fun j hj' z hz => (hj j hj' z hz).resolve_right (by rw [hr0]; exact List.not_mem_nil)

/-- `a && b` / `a || b`: `lr` ends the left operand's code, `rr` the right one's; block `lr + 1` starts the right
    operand, block `rr + 1` is the join, which may claim the result besides what both operand blocks know -/
theorem visitLogical_d {U : Nat → Prop} {ins : Ins} {b b' : Builder} {op : LogicOp} {l r it : Operand} {lr rr : Nat}
    (h : visitBinaryLogicalExpression b op l lr r rr = (it, b')) (hd : DInv U ins b) (hlr : lr < len b) (hrr : rr < len b)
    (hl : ∀ x ∈ operandReads l, ¬ U x → Out ins b lr x)
    (hr : ∀ x ∈ operandReads r, ¬ U x → Out ins b rr x)
    (hs1 : ∀ x, ins (lr + 1) x → Out ins b lr x)
    (hj : ∀ x, ins (rr + 1) x → (Out ins b lr x ∧ Out ins b rr x) ∨ x ∈ operandReads it) : DS U ins b b' := by
  obtain ⟨b0, init, T, F, hc0, hT, heq⟩ := visitBinaryLogicalExpression_eff b op l r lr rr
  rw [h] at heq
  cases heq
  have c0 := ((DS.refl hd).then_code hc0).then_alloca .bool
  have c1 := storeAt_d (sink := some (.local b0.code.locals.length .bool)) (t := .brCond l T F) (src := .const (.bool init)) c0 hlr
    (fun z hz => nomatch hz) (fun z hz hu => c0.om lr z (hl z hz hu)) (fun j hj' z hz => by
      have : j = lr + 1 ∨ j = rr + 1 := by
        rcases hT with ⟨rfl, rfl⟩ | ⟨rfl, rfl⟩ <;> simpa [successors, or_comm] using hj'
      rcases this with rfl | rfl
      · exact .inl (c0.om lr z (hs1 z hz))
      · exact (hj z hz).imp_left fun h => c0.om lr z h.1)
  exact storeAt_d (src := r) c1 hrr (fun z hz hu => c1.om rr z (hr z hz hu)) (fun z hz => nomatch hz)
    fun j hj' z hz => by rw [List.mem_singleton.1 hj'] at hz; exact (hj z hz).imp_left fun h => c1.om rr z h.2

/-- `c ? x : y`: `cr`, `xr`, `yr` end the code of the condition and of the two branches; `cr + 1` and `xr + 1` start the
    branches, `yr + 1` is the join -/
theorem visitTernary_d {U : Nat → Prop} {ins : Ins} {env : Env} {b b' : Builder} {c x y res : Operand} {cr xr yr : Nat}
    (h : visitTernaryExpression env b c cr x xr y yr = .ok (res, b')) (hd : DInv U ins b)
    (hxr : xr < len b) (hyr : yr < len b)
    (hc : ∀ z ∈ operandReads c, ¬ U z → Out ins b cr z)
    (hx : ∀ z ∈ operandReads x, ¬ U z → Out ins b xr z)
    (hy : ∀ z ∈ operandReads y, ¬ U z → Out ins b yr z)
    (hs1 : ∀ z, ins (cr + 1) z → Out ins b cr z) (hs2 : ∀ z, ins (xr + 1) z → Out ins b cr z)
    (hj : ∀ z, ins (yr + 1) z → (Out ins b xr z ∧ Out ins b yr z) ∨ z ∈ operandReads res) : DS U ins b b' := by
  obtain ⟨ty, hres, hb'⟩ := visitTernaryExpression_eff h
  rw [hb']
  rw [hres] at hj
  have c1 := ((DS.refl hd).then_alloca ty).then_brCond cr c (cr + 1) (xr + 1) hc hs1 hs2
  have c2 := storeAt_d (t := .br (yr + 1)) (src := ensureConcreteString x) c1 hxr (fun z hz hu => c1.om xr z (hx z (by simpa using hz) hu))
    (fun z hz => nomatch hz) fun j hj' z hz => by
      rw [List.mem_singleton.1 hj'] at hz; exact (hj z hz).imp_left fun h => c1.om xr z h.1
  exact storeAt_d (t := .br (yr + 1)) (src := ensureConcreteString y) c2 hyr (fun z hz hu => c2.om yr z (hy z (by simpa using hz) hu))
    (fun z hz => nomatch hz) fun j hj' z hz => by
      rw [List.mem_singleton.1 hj'] at hz; exact (hj z hz).imp_left fun h => c2.om yr z h.2

/-- `if (c) A else B`: `cr`, `xr`, `yr` end the code of the condition and of the branches -/
theorem visitIf_d {U : Nat → Prop} {ins : Ins} {b b' : Builder} {cnd : Operand} {cr xr : Nat} {yr : Option Nat}
    (h : b' = visitIfStatement b cnd cr xr yr) (hd : DInv U ins b)
    (hc : ∀ z ∈ operandReads cnd, ¬ U z → Out ins b cr z)
    (hs1 : ∀ z, ins (cr + 1) z → Out ins b cr z) (hs2 : ∀ z, ins (xr + 1) z → Out ins b cr z)
    (he1 : ∀ z, ins (yr.getD xr + 1) z → Out ins b xr z)
    (he2 : ∀ y, yr = some y → ∀ z, ins (y + 1) z → Out ins b y z) : DS U ins b b' := by
  subst h
  unfold visitIfStatement
  simp only []
  have c2 := ((DS.refl hd).then_brCond cr cnd (cr + 1) (xr + 1) hc hs1 hs2).then_br xr (yr.getD xr + 1) he1
  cases yr with
  | none => exact c2
  | some y => exact c2.then_br y (y + 1) (he2 y rfl)

/-- what `break` / `return` leave: a fresh block that claims `S` and knows `S`; the old blocks know what they knew -/
abbrev FreshBlock (U : Nat → Prop) (ins : Ins) (b : Builder) (S : Nat → Prop) (b' : Builder) : Prop :=
  DInv U (upd ins (len b) S) b' ∧ (∀ i z, i ≠ len b → (Out (upd ins (len b) S) b' i z ↔ Out ins b i z)) ∧
    (∀ z, Out (upd ins (len b) S) b' (len b) z ↔ (S z ∨ z < np b))

/-- nothing jumps to the fresh (dead) block, so it may claim any `S` -/
theorem closeCurrent_d {U : Nat → Prop} {ins : Ins} (b : Builder) (t : Terminator) (S : Nat → Prop) (hd : DInv U ins b)
    (hi : Inv b) (hv : ValidTerm (len b) t) (hr : ∀ z ∈ termReads t, ¬ U z → Cur ins b z)
    (hs : ∀ j ∈ successors (some t), ∀ z, ins j z → Cur ins b z) :
    FreshBlock U ins b S (b.finalizeAt b.currentRef t).newBlock.2 := by
  have c1 := (DS.refl hd).then_fin b.currentRef t hr hs
  have hi1 : Inv (b.finalizeAt b.currentRef t) := (adv_finalizeAt b _ _ hv).inv hi
  have := c1.d.newBlock S hi1
  rw [c1.eq] at this
  refine ⟨this, fun i z hne => ?_, fun z => ?_⟩
  · have h1 := Out.newBlock_old (ins := ins) (b := b.finalizeAt b.currentRef t) S (i := i) (x := z) (by rw [c1.eq]; exact hne)
    rw [c1.eq] at h1
    exact h1.trans (Out.finalize _ _)
  · have h1 := Out.newBlock_new (ins := ins) (b := b.finalizeAt b.currentRef t) S (x := z)
    rw [c1.eq] at h1
    simpa using h1

theorem visitBreak_d {U : Nat → Prop} {ins : Ins} (b : Builder) (l : Nat) (S : Nat → Prop) (hd : DInv U ins b) (hi : Inv b)
    (hl : l < len b) (hs : ∀ z, ins l z → Cur ins b z) : FreshBlock U ins b S (visitBreakStatement b l) :=
  closeCurrent_d b (.br l) S hd hi (validBr hl) (fun z hz => by simp [termReads] at hz)
    (fun j hj z hz => by
      simp [successors] at hj
      subst hj
      exact hs z hz)

theorem visitReturn_d {U : Nat → Prop} {ins : Ins} (b : Builder) (v : Operand) (S : Nat → Prop) (hd : DInv U ins b) (hi : Inv b)
    (hv : OpOk U ins b v) : FreshBlock U ins b S (visitReturnStatement b v) :=
  closeCurrent_d b (.ret (ensureConcreteString v)) S hd hi (validRet _ _)
    (fun z hz hu => hv z (by simpa [termReads] using hz) hu) (fun j hj => by simp [successors] at hj)

/-! ### `visit_switch_statement`: every jump installed goes from a block that knows `D` (what is known once the
    switch value has been computed) to a block that claims no more than `D` — except the fall-through of a case
    condition into the next one, which claims what its predecessor knows -/

/-- `xs` as in `connect_ctl` -/
theorem connect_d {U : Nat → Prop} {ins : Ins} {b0 : Builder} (D : Nat → Prop) (lastBodyRef : Nat)
    (defaultStart : Option Nat) (starts : List Nat)
    (hds : ∀ d, defaultStart = some d → ∀ z, ins d z → D z) (hlast : ∀ z, ins (lastBodyRef + 1) z → D z) :
    ∀ (xs : List ((Operand × Nat) × Nat)) (b : Builder) (i : Nat), DS U ins b0 b →
      (∀ x ∈ xs, (∀ z ∈ operandReads x.1.1, ¬ U z → Out ins b0 x.1.2 z) ∧ (∀ z, ins (x.1.2 + 1) z → Out ins b0 x.1.2 z) ∧
        (∀ z, D z → Out ins b0 x.1.2 z) ∧ (∀ z, ins x.2 z → D z)) →
      DS U ins b0 (visitSwitchStatement.connect lastBodyRef defaultStart starts b i xs)
  | [], b, i, hb, hx => by
    simp only [visitSwitchStatement.connect]
    exact hb
  | ((cnd, cr), bs) :: rest, b, i, hb, hx => by
    simp only [visitSwitchStatement.connect]
    obtain ⟨h1, h2, h3, h4⟩ := hx ((cnd, cr), bs) (by simp)
    simp only at h1 h2 h3 h4
    have c1 := hb.then_brCond cr cnd bs (if i + 1 < starts.length then cr + 1 else defaultStart.getD (lastBodyRef + 1)) h1
      (fun z hz => h3 z (h4 z hz)) (fun z hz => by
        split at hz
        · exact h2 z hz
        · cases hdd : defaultStart with
          | none => rw [hdd] at hz; exact h3 z (hlast z hz)
          | some d => rw [hdd] at hz; exact h3 z (hds d hdd z hz))
    exact connect_d D lastBodyRef defaultStart starts hds hlast rest _ (i + 1) c1 (fun x hx' => hx x (by simp [hx']))

theorem foldl_finalize_d {U : Nat → Prop} {ins : Ins} {b0 : Builder} (D : Nat → Prop) :
    ∀ (bodies : List Nat) (b : Builder), DS U ins b0 b →
      (∀ r ∈ bodies, (∀ z, ins (r + 1) z → D z) ∧ (∀ z, D z → Out ins b0 r z)) →
      DS U ins b0 (bodies.foldl (fun b bodyRef => b.finalizeAt bodyRef (.br (bodyRef + 1))) b)
  | [], b, hb, hr => by simpa using hb
  | r :: rest, b, hb, hr => by
    simp only [List.foldl_cons]
    obtain ⟨h1, h2⟩ := hr r (by simp)
    exact foldl_finalize_d D rest _ (hb.then_br r (r + 1) fun z hz => h2 z (h1 z hz)) (fun x hx => hr x (by simp [hx]))

theorem visitSwitch_d {U : Nat → Prop} {ins : Ins} (D : Nat → Prop) {b b' : Builder} {conds : List (Operand × Nat)} {bodies : List Nat}
    {dp : Option Nat} {hr er : Nat} (h : b' = visitSwitchStatement b conds bodies dp hr er) (hd : DInv U ins b)
    (hc : ∀ x ∈ conds, (∀ z ∈ operandReads x.1, ¬ U z → Out ins b x.2 z) ∧ (∀ z, ins (x.2 + 1) z → Out ins b x.2 z) ∧
      (∀ z, D z → Out ins b x.2 z))
    (hb : ∀ r ∈ bodies, (∀ z, ins (r + 1) z → D z) ∧ (∀ z, D z → Out ins b r z))
    (hh : ∀ z, D z → Out ins b hr z)
    (he : (∀ z, ins (er + 1) z → D z) ∧ (∀ z, D z → Out ins b er z)) : DS U ins b b' := by
  obtain ⟨ds, starts, b1, hc1, hds, hst, _, heq⟩ := visitSwitchStatement_eff b conds bodies dp hr er
  rw [h, heq]
  obtain ⟨hstarts0, hlast⟩ := switchTargets_forall (P := fun x => ∀ z, ins x z → D z) he.1 fun r hr' => (hb r hr').1
  refine ((foldl_finalize_d D bodies _ ?_ hb).then_br hr (er + 1) fun z hz => hh z (he.1 z hz)).then_br er _
    fun z hz => he.2 z (hlast z hz)
  refine connect_d D _ ds starts (fun d hd' => hstarts0 d (hds d hd')) hlast (conds.zip starts) _ 0
    (((DS.refl hd).then_code hc1).then_code (ite_fail_code _ _ _)) fun x hx => ?_
  obtain ⟨h1, h2⟩ := List.of_mem_zip (a := x.1) (b := x.2) (by simpa using hx)
  obtain ⟨g1, g2, g3⟩ := hc x.1 h1
  exact ⟨g1, g2, g3, hstarts0 x.2 (hst x.2 h2)⟩

end QV.Proofs.BuilderInv
