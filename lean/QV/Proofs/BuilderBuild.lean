/-
  C06, the builder for ALL programs: the theorems about `tir::build` / `tir::build_callback` (`QV.Model.build`) = the walk from the
  empty builder, then `finalize_completion_values` from the current block.  The control-flow half from the skeleton induction
  (BuilderClosed) and the pass (BuilderFinalize); define before use from the claim the walk ends with (`walk_cert`, BuilderDefStmt),
  which the pass keeps (`dcert_of_rel`) and which holds along every path (`dcert_reaches`).
-/
import QV.Proofs.BuilderClosed
import QV.Proofs.BuilderDefStmt
import QV.Proofs.BuilderFinalize
import QV.Proofs.Cfg

namespace QV.Proofs.BuilderInv
open QV.Model QV.Model.Cfg QV.Proofs.Cfg

/-- `Builder.panic`, which the skeleton leaves out, comes back: `build` reports no panic only if the finalisation reports none -/
theorem build_out (ctx : Ctx) (callback : Bool) (p : Program) (code : CodeBody)
    (h : (build ctx callback p).code = some code) :
    ∃ panic, FinOut code.blocks panic ∧ ((build ctx callback p).panic = none → panic = none) := by
  obtain ⟨st, hrun, rfl, _, hpan⟩ := build_code h
  obtain ⟨hinv, hcl⟩ := walk_result ctx callback p st hrun
  exact ⟨_, finalize_out st.b.code ⟨hinv.pos, hinv.tgt, hcl⟩, fun hp => (Option.or_eq_none_iff.1 (hpan ▸ hp)).2⟩

/-- every jump of a built body targets an existing block, reachable or not -/
theorem build_targets_exist (ctx : Ctx) (callback : Bool) (p : Program) (code : CodeBody)
    (h : (build ctx callback p).code = some code) :
    ∀ (i : Nat) (b : BasicBlock), code.blocks[i]? = some b → ∀ j ∈ successors b.terminator, j < code.blocks.length := by
  obtain ⟨panic, hfo, _⟩ := build_out ctx callback p code h
  intro i b hb j hj
  cases ht : b.terminator with
  | none => simp [ht, successors] at hj
  | some t =>
    rw [ht] at hj
    exact hfo.targets i t (by rw [tL_of_get hb, ht]) j hj

/-- a built body has an entry block, and every block has a terminator (possibly the `unreachable` marker) -/
theorem build_blocks_terminated (ctx : Ctx) (callback : Bool) (p : Program) (code : CodeBody)
    (h : (build ctx callback p).code = some code) :
    0 < code.blocks.length ∧ ∀ (i : Nat) (b : BasicBlock), code.blocks[i]? = some b → b.terminator.isSome = true := by
  obtain ⟨panic, hfo, _⟩ := build_out ctx callback p code h
  refine ⟨hfo.pos, fun i b hb => ?_⟩
  have := hfo.closed i (List.getElem?_eq_some_iff.1 hb).1
  rw [tL_of_get hb] at this
  exact this

/-- if `build` reports no panic, a block that carries the `unreachable` marker has no incoming edge and is not the entry block -/
theorem build_unreachable_isolated (ctx : Ctx) (callback : Bool) (p : Program) (code : CodeBody)
    (h : (build ctx callback p).code = some code) (hp : (build ctx callback p).panic = none) :
    ∀ (i : Nat) (b : BasicBlock), code.blocks[i]? = some b → b.terminator = some .unreachable →
      i ≠ 0 ∧ ∀ (j : Nat) (bj : BasicBlock), code.blocks[j]? = some bj → i ∉ successors bj.terminator := by
  obtain ⟨panic, hfo, hpan⟩ := build_out ctx callback p code h
  intro i b hb ht
  obtain ⟨h1, h2⟩ := hfo.noEdge (hpan hp) i (by rw [tL_of_get hb, ht])
  exact ⟨h1, fun j bj hbj => by rw [← tL_of_get hbj]; exact h2 j⟩

/-- no execution path reaches a block that carries the marker: a path enters at block 0 or over an edge -/
theorem build_no_reachable_unreachable (ctx : Ctx) (callback : Bool) (p : Program) (code : CodeBody)
    (h : (build ctx callback p).code = some code) (hp : (build ctx callback p).panic = none) :
    ∀ (i : Nat) (A : List Nat), Reaches code i A → ∀ b, code.blocks[i]? = some b → b.terminator ≠ some .unreachable := by
  intro i A hr b hb ht
  obtain ⟨h0, hno⟩ := build_unreachable_isolated ctx callback p code h hp i b hb ht
  rcases hr.entry_or_edge with h1 | ⟨j, bj, hbj, hj⟩
  · exact h0 h1
  · exact hno j bj hbj hj

/-- the control-flow half of the checker's verdict, for ALL programs and EVERY execution path: the conclusion of
    `QV.Props.C06.check_sound`, without running the checker -/
theorem build_control_flow_sound (ctx : Ctx) (callback : Bool) (p : Program) (code : CodeBody)
    (h : (build ctx callback p).code = some code) (hp : (build ctx callback p).panic = none) :
    ∀ (i : Nat) (A : List Nat), Reaches code i A →
      ∃ (b : BasicBlock) (t : Terminator), code.blocks[i]? = some b ∧ b.terminator = some t ∧
        t ≠ Terminator.unreachable ∧ (∀ j ∈ successors b.terminator, j < code.blocks.length) := by
  intro i A hr
  have hlt := hr.lt (build_blocks_terminated ctx callback p code h).1 (build_targets_exist ctx callback p code h)
  have hb : code.blocks[i]? = some code.blocks[i] := List.getElem?_eq_getElem hlt
  have hterm := (build_blocks_terminated ctx callback p code h).2 i _ hb
  cases ht : (code.blocks[i]).terminator with
  | none => simp [ht] at hterm
  | some t =>
    refine ⟨_, t, hb, ht, ?_, build_targets_exist ctx callback p code h i _ hb⟩
    intro he
    subst he
    exact build_no_reachable_unreachable ctx callback p code h hp i A hr _ hb ht

/-- `DInv` without the completion values, on the blocks of a finished body: a `Prop`-valued counterpart of what `checkCfg`
    checks.  The proof does not go through "the check passes": that would need the certificate producers to be complete -/
structure DCert (U : Nat → Prop) (ins : Ins) (n : Nat) (blocks : List BasicBlock) : Prop where
  sc : ∀ i b, blocks[i]? = some b → Cov U b.statements (fun x => ins i x ∨ x < n)
  tc : ∀ i b t, blocks[i]? = some b → b.terminator = some t →
        (∀ x ∈ termReads t, ¬ U x → x ∈ defsOf b.statements ∨ ins i x ∨ x < n) ∧
        (∀ j ∈ successors (some t), ∀ x, ins j x → x ∈ defsOf b.statements ∨ ins i x ∨ x < n)

/-- a `return` that the pass installs reads a completion value, which `DInv.cc` covers -/
theorem dcert_of_rel {U : Nat → Prop} {ins : Ins} {b : Builder} {blocks : List BasicBlock} (hd : DInv U ins b)
    (hr : FinRelL b.code.blocks blocks) : DCert U ins (np b) blocks := by
  refine ⟨fun i n hn => ?_, fun i n t hn ht => ?_⟩
  · obtain ⟨o, ho, rel⟩ := hr.back hn
    have := hd.sc i
    unfold stmtsOf at this
    rw [ho] at this
    rw [rel.st]
    exact this
  · obtain ⟨o, ho, rel⟩ := hr.back hn
    have hso : stmtsOf b i = o.statements := by unfold stmtsOf; rw [ho]; rfl
    have hout : ∀ x, Out ins b i x → x ∈ defsOf n.statements ∨ ins i x ∨ x < np b := by
      intro x hx
      unfold Out at hx
      rw [hso, ← rel.st] at hx
      exact hx
    rcases rel.tm with h | ⟨a, ha, h⟩ | h | h
    · have hto : termOf b i = some t := by
        unfold termOf
        rw [ho, ← ht, h]
        rfl
      obtain ⟨h1, h2⟩ := hd.tc i t hto
      exact ⟨fun x hx hu => hout x (h1 x hx hu), fun j hj x hx => hout x (h2 j hj x hx)⟩
    · rw [h] at ht
      cases ht
      have hco : complOf b i = some a := by unfold complOf; rw [ho]; exact ha
      exact ⟨fun x hx hu => hout x (hd.cc i a hco x (by simpa [termReads] using hx) hu), fun j hj => by simp [successors] at hj⟩
    · rw [h] at ht
      cases ht
      exact ⟨fun x hx => by simp [termReads, operandReads] at hx, fun j hj => by simp [successors] at hj⟩
    · rw [h] at ht
      cases ht
      exact ⟨fun x hx => by simp [termReads] at hx, fun j hj => by simp [successors] at hj⟩

/-- what the claim says is assigned, is, on every path (cf. `QV.Proofs.Cfg.reaches_inv`) -/
theorem dcert_reaches {c : CodeBody} {U : Nat → Prop} {ins : Ins} (hc : DCert U ins c.parameterCount c.blocks)
    (h0 : ∀ x, ¬ ins 0 x) : ∀ {i : Nat} {A : List Nat}, Reaches c i A → ∀ x, ins i x ∨ x < c.parameterCount → x ∈ A := by
  intro i A hr
  induction hr with
  | entry =>
    intro x hx
    rcases hx with h | h
    · exact absurd h (h0 x)
    · simpa using h
  | @step i j A b _ hb hj ih =>
    intro x hx
    rw [List.mem_append]
    rcases hx with hx | hx
    · cases ht : b.terminator with
      | none => rw [ht] at hj; simp [successors] at hj
      | some t =>
        rw [ht] at hj
        rcases (hc.tc i b t hb ht).2 j hj x hx with h | h | h
        · exact Or.inl h
        · exact Or.inr (ih x (Or.inl h))
        · exact Or.inr (ih x (Or.inr h))
    · exact Or.inr (ih x (Or.inr hx))

/-- **define before use, for every output of the builder and every path**: a read of a local that the user did
    not declare without initialiser is preceded, on the path, by an assignment (parameters are assigned on entry) -/
theorem build_defines_before_use (ctx : Ctx) (callback : Bool) (p : Program) (code : CodeBody)
    (h : (build ctx callback p).code = some code) :
    ∀ (i : Nat) (A : List Nat), Reaches code i A → ∀ b, code.blocks[i]? = some b →
      (∀ (k : Nat) (s : Statement), b.statements[k]? = some s →
        ∀ x ∈ stmtReads s, x ∉ (build ctx callback p).userUninit → x ∈ defsOf (b.statements.take k) ++ A) ∧
      (∀ t, b.terminator = some t →
        ∀ x ∈ termReads t, x ∉ (build ctx callback p).userUninit → x ∈ defsOf b.statements ++ A) := by
  obtain ⟨st, hrun, rfl, hu, _⟩ := build_code h
  rw [hu]
  obtain ⟨ins, hd, h0⟩ := walk_cert ctx callback p st hrun
  obtain ⟨hrel, hnp⟩ := finalize_rel st.b.code st.b.currentRef
  have hc : DCert (UU st) ins (finalizeCompletionValues st.b.code st.b.currentRef).1.parameterCount
      (finalizeCompletionValues st.b.code st.b.currentRef).1.blocks := by
    rw [hnp]; exact dcert_of_rel hd hrel
  intro i A hr b hb
  have hA := dcert_reaches hc h0 hr
  refine ⟨fun k s hk x hx hu => ?_, fun t ht x hx hu => ?_⟩
  · rw [List.mem_append]
    rcases hc.sc i b hb k s hk x hx hu with h | h
    · exact Or.inl h
    · exact Or.inr (hA x h)
  · rw [List.mem_append]
    rcases (hc.tc i b t hb ht).1 x hx hu with h | h | h
    · exact Or.inl h
    · exact Or.inr (hA x (Or.inl h))
    · exact Or.inr (hA x (Or.inr h))

end QV.Proofs.BuilderInv
