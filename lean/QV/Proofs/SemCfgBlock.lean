/-
  QV.Props.C01 — the statement level of the CFG induction: blocks `{ let/const x = e; …; e }` and
  `{ let/const x = e; …; return e }` (`BlockFrag`), by induction over the statement list on top of the expression
  induction (`QV.Proofs.SemCfgCtl.walk_cfg`).  A declaration keeps name map, variable stack and IR locals related
  (`decl_step`), so that a later read of the variable (`cfg_var`) finds `Spec.Sem`'s value in the variable's local.
  At the end `finalize_after_return`: `finalize_completion_values` on the empty block behind a final `return`.
-/
import QV.Proofs.SemCfgCtl
import QV.Proofs.Finalize

namespace QV.Proofs.SemCfgBlock
open QV.Model QV.Model.IrSem QV.Proofs.SemIr QV.Proofs.SemVisit QV.Proofs.SemWalk QV.Proofs.SemStraight QV.Proofs.SemCfg
open QV.Proofs.SemCfgWalk QV.Proofs.SemCfgCtl
open QV.Spec.Sem (Val World Host Ev Ty STy coerceTo binop unop staticTy)

theorem get?_insert_self (m : QV.Model.Locals) (x : String) (v : Nat × DeclKind) : (m.insert x v).get? x = some v := by
  rw [QV.Proofs.BuilderInv.get_insert, if_pos rfl]

theorem get?_insert_ne (m : QV.Model.Locals) (x y : String) (v : Nat × DeclKind) (h : y ≠ x) :
    (m.insert x v).get? y = m.get? y := by
  rw [QV.Proofs.BuilderInv.get_insert, if_neg h]

section insert
variable {wl : QV.Model.Locals} {vars : List QV.Spec.Sem.Var} (x : String) (n : Nat) (k : DeclKind)
  (var : QV.Spec.Sem.Var) (hname : var.name = x)
include hname

theorem varRel_insert {ltys : List TypeKind} (h : VarRel ltys wl vars) (ty : TypeKind) (hn : ltys[n]? = some ty)
    (hty : ty ≠ .void) (hc : var.sty.const = false) (hs : var.sty.ty = (styOf ty).ty) :
    VarRel ltys (wl.insert x (n, k)) (var :: vars) := by
  refine ⟨fun name hnone => ?_, fun name n' k' hsome => ?_⟩
  · have hne : name ≠ x := by
      intro hc; subst hc; rw [get?_insert_self] at hnone; cases hnone
    rw [get?_insert_ne _ _ _ _ hne] at hnone
    simp only [List.find?_cons, hname, Ne.symm hne, decide_false]
    exact h.none name hnone
  · by_cases hne : name = x
    · subst hne
      rw [get?_insert_self] at hsome
      injection hsome with hsome
      injection hsome with h1 h2
      subst h1 h2
      exact ⟨var, ty, by simp [hname], hn, hty, hc, hs⟩
    · rw [get?_insert_ne _ _ _ _ hne] at hsome
      obtain ⟨v, ty', h1, h2⟩ := h.some name n' k' hsome
      exact ⟨v, ty', by simp only [List.find?_cons, hname, Ne.symm hne, decide_false]; exact h1, h2⟩

theorem valRel_insert {L : IrSem.Locals} (hv : ValRel wl vars L) (v' : Val) (hval : var.val = some v')
    (hnc : isCint v' = false) (hfresh : ∀ y ny ky, wl.get? y = some (ny, ky) → ny ≠ n) :
    ValRel (wl.insert x (n, k)) (var :: vars) (upd L n v') := by
  intro name n' k' hsome
  by_cases hne : name = x
  · subst hne
    rw [get?_insert_self] at hsome
    injection hsome with hsome
    injection hsome with h1 h2
    subst h1 h2
    exact ⟨var, v', by simp [hname], hval, upd_same _ _ _, hnc⟩
  · rw [get?_insert_ne _ _ _ _ hne] at hsome
    obtain ⟨vr, val, h1, h2, h3, h4⟩ := hv name n' k' hsome
    exact ⟨vr, val, by simp only [List.find?_cons, hname, Ne.symm hne, decide_false]; exact h1, h2,
      by rw [upd_other _ _ _ _ (hfresh name n' k' hsome)]; exact h3, h4⟩

end insert

theorem run_setLocals (l : QV.Model.Locals) (s : WState) : (setLocals l).run s = (some (), { s with locals := l }) := rfl

theorem run_stmts_cons_ok (wc : Ctx) (st : Stmt) (rest : List Stmt) (s s' : WState)
    (h : (walkStmts wc none (st :: rest)).run s = (some true, s')) :
    ∃ sd, BuilderInv.StmtRun wc none st s sd ∧ (walkStmts wc none rest).run sd = (some true, s') := by
  cases stmtsRun h with | step hst hrest _ => exact ⟨_, hst, hrest.run_eq⟩

/-- `let x = e` / `const x = e` as a successful walk: the walk of `e`, a fresh local of the concrete type of its operand,
    one store -/
theorem run_let (wc : Ctx) (kind : DeclKind) (x : String) (e : Expr) (s s' : WState)
    (h : BuilderInv.StmtRun wc none (.lexical kind [{ name := x, ty := none, value := some e }]) s s') :
    ∃ v s1 ty, (walkRvalue wc e).run s = (some v, s1) ∧ toConcreteType v.typeDesc = .ok ty ∧ ty ≠ .void ∧
      s'.b = (s1.b.emitResult ty (.copy (ensureConcreteString v))).2 ∧
      s'.locals = s1.locals.insert x (s1.b.code.locals.length, kind) := by
  cases h with | lexical hd =>
  cases hd with
  | uninit hv => cases hv
  | @init _ _ _ _ v s1 ty _ _ _ _ _ hv hr hty hdecl hassign hrest =>
    cases hv
    cases hrest
    have htc : toConcreteType v.typeDesc = .ok ty := hty
    have hne : ty ≠ .void := (QV.Proofs.BuilderInv.visitLocalDeclaration_ok hdecl).1
    simp only [visitLocalDeclaration, Builder.alloca, hne, ne_eq, not_false_eq_true, ↓reduceIte] at hdecl
    cases hdecl
    have hget : (s1.b.code.locals ++ [ty])[s1.b.code.locals.length]? = some ty := by simp
    simp only [visitLocalAssignment, hget] at hassign
    split at hassign
    · cases hassign
    · cases hassign
      exact ⟨v, s1, ty, hr.run_eq, htc, hne, by simp [Builder.emitResult, Builder.alloca, hne], rfl⟩

theorem final_expr (wc : Ctx) (e : Expr) (s s' : WState) (h : BuilderInv.StmtRun wc none (.expr e) s s') :
    ∃ op s1, (walkRvalue wc e).run s = (some op, s1) ∧ s' = { s1 with b := visitExpressionStatement s1.b op } := by
  cases h with | expr hr => exact ⟨_, _, hr.run_eq, rfl⟩

theorem final_return (wc : Ctx) (e : Expr) (s s' : WState) (h : BuilderInv.StmtRun wc none (.return_ (some e)) s s') :
    ∃ op s1, (walkRvalue wc e).run s = (some op, s1) ∧ s' = { s1 with b := visitReturnStatement s1.b op } := by
  cases h with | return_ hr => exact ⟨_, _, hr.run_eq, rfl⟩

theorem updateEmpty_none (v : Option Val) : QV.Spec.Sem.updateEmpty v none = v := by
  cases v <;> rfl

/-- a statement that completed with the value `u` in front of an outcome: the `updateEmpty` arms of `Spec.Sem.execStmts` -/
def afterVal (u : Val) : QV.Spec.Sem.Outcome → QV.Spec.Sem.Outcome
  | .normal w => .normal (QV.Spec.Sem.updateEmpty w (some u))
  | .brk w => .brk (QV.Spec.Sem.updateEmpty w (some u))
  | o => o

/-- a statement list steps: its first statement completes normally — without a value, or with the value `u` — and
    the rest decides the outcome; or the first statement leaves the list (`break`, `return`) -/
theorem execStmts_cons_inv {c : QV.Spec.Sem.Ctx} {st : Stmt} {rest : List Stmt} {s s' : QV.Spec.Sem.St}
    {out : QV.Spec.Sem.Outcome} (h : QV.Spec.Sem.execStmts c (st :: rest) s = some (out, s')) :
    ∃ o1 s1, QV.Spec.Sem.execStmt c st s = some (o1, s1) ∧
      match o1 with
      | .normal w => ∃ out', QV.Spec.Sem.execStmts c rest s1 = some (out', s') ∧
          out = (match w with | none => out' | some u => afterVal u out')
      | o => out = o ∧ s' = s1 := by
  rw [QV.Spec.Sem.execStmts.eq_def] at h
  simp only at h
  cases hst : QV.Spec.Sem.execStmt c st s with
  | none => simp [hst] at h
  | some p =>
    obtain ⟨o1, s1⟩ := p
    simp only [hst] at h
    refine ⟨o1, s1, rfl, ?_⟩
    cases o1 with
    | normal w =>
      simp only at h ⊢
      cases hr : QV.Spec.Sem.execStmts c rest s1 with
      | none => simp [hr] at h
      | some q =>
        obtain ⟨o2, s2⟩ := q
        simp only [hr] at h
        cases o2 <;> cases w <;>
        · simp only [updateEmpty_none, Option.some.injEq, Prod.mk.injEq] at h
          obtain ⟨rfl, rfl⟩ := h
          exact ⟨_, rfl, rfl⟩
    | brk w => simpa using h.symm
    | ret w => simpa using h.symm

theorem spec_stmts_expr {c : QV.Spec.Sem.Ctx} {e : Expr} {s s' : QV.Spec.Sem.St} {out : QV.Spec.Sem.Outcome}
    (h : QV.Spec.Sem.execStmts c [.expr e] s = some (out, s')) :
    ∃ v, QV.Spec.Sem.evalExpr c e s = some (v, s') ∧ out = .normal (some v) := by
  obtain ⟨o1, s1, hst, hk⟩ := execStmts_cons_inv h
  rw [QV.Spec.Sem.execStmt.eq_def] at hst
  obtain ⟨⟨v, s1'⟩, hev, heq⟩ := Option.map_eq_some_iff.mp hst
  cases heq
  obtain ⟨out', hn, rfl⟩ := hk
  rw [QV.Spec.Sem.execStmts.eq_def] at hn
  cases hn
  exact ⟨v, hev, rfl⟩

theorem spec_stmts_ret {c : QV.Spec.Sem.Ctx} {e : Expr} {s s' : QV.Spec.Sem.St} {out : QV.Spec.Sem.Outcome}
    (h : QV.Spec.Sem.execStmts c [.return_ (some e)] s = some (out, s')) :
    ∃ v, QV.Spec.Sem.evalExpr c e s = some (v, s') ∧ out = .ret v := by
  obtain ⟨o1, s1, hst, hk⟩ := execStmts_cons_inv h
  rw [QV.Spec.Sem.execStmt.eq_def] at hst
  obtain ⟨⟨v, s1'⟩, hev, heq⟩ := Option.map_eq_some_iff.mp hst
  cases heq
  obtain ⟨rfl, rfl⟩ := hk
  exact ⟨v, hev, rfl⟩

/-- `let x = e; rest` / `const x = e; rest`: `e` is evaluated, converted to the concrete form of its static type and
    bound; the rest runs with the variable in scope and decides the outcome -/
theorem spec_stmts_let (c : QV.Spec.Sem.Ctx) (kind : DeclKind) (x : String) (e : Expr) (rest : List Stmt)
    (s : QV.Spec.Sem.St) (out : QV.Spec.Sem.Outcome) (s' : QV.Spec.Sem.St)
    (h : QV.Spec.Sem.execStmts c (.lexical kind [{ name := x, ty := none, value := some e }] :: rest) s = some (out, s')) :
    ∃ v s1 t v', QV.Spec.Sem.evalExpr c e s = some (v, s1) ∧ staticTy c s1.vars e = some t ∧
      coerceTo t.concrete.ty v = some v' ∧
      QV.Spec.Sem.execStmts c rest
        { s1 with vars := { name := x, sty := t.concrete, const := kind = .const_, val := some v' } :: s1.vars } =
          some (out, s') := by
  obtain ⟨o1, sd, h, hk⟩ := execStmts_cons_inv h
  rw [QV.Spec.Sem.execStmt.eq_def] at h
  simp only [QV.Spec.Sem.execDecls, QV.Spec.Sem.execDecl] at h
  cases he : QV.Spec.Sem.evalExpr c e s with
  | none => simp [he] at h
  | some p =>
    obtain ⟨v, s1⟩ := p
    simp only [he] at h
    cases hst : staticTy c s1.vars e with
    | none => simp [hst] at h
    | some t =>
      simp only [hst, Option.map_some] at h
      cases hco : coerceTo t.concrete.ty v with
      | none => simp [hco] at h
      | some v' =>
        simp only [hco, Option.map_some, Option.bind_some, Option.some.injEq, Prod.mk.injEq] at h
        obtain ⟨rfl, rfl⟩ := h
        obtain ⟨out', hrs, rfl⟩ := hk
        exact ⟨v, s1, t, v', rfl, hst, hco, hrs⟩

/-- statement lists `let/const x = e; …; e` (`isRet = false`) or `let/const x = e; …; return e` (`isRet = true`), every
    expression in the fragment relative to the variables declared before it -/
inductive BlockFrag (wc : Ctx) : Bool → List String → List Stmt → Prop
  | expr (scope : List String) (e : Expr) : CfgFrag wc scope e → BlockFrag wc false scope [.expr e]
  | ret (scope : List String) (e : Expr) : CfgFrag wc scope e → BlockFrag wc true scope [.return_ (some e)]
  | decl (isRet : Bool) (scope : List String) (kind : DeclKind) (x : String) (e : Expr) (rest : List Stmt) :
      CfgFrag wc scope e → BlockFrag wc isRet (x :: scope) rest →
      BlockFrag wc isRet scope (.lexical kind [{ name := x, ty := none, value := some e }] :: rest)

/-- what the final statement does with the operand of its expression -/
def finish (isRet : Bool) (b : Builder) (op : Operand) : Builder :=
  if isRet then visitReturnStatement b op else visitExpressionStatement b op

/-- the outcome of a statement list of the fragment whose final expression has the value `v` -/
def outOf (isRet : Bool) (v : Val) : QV.Spec.Sem.Outcome := if isRet then .ret v else .normal (some v)

/-- the induction hypothesis / conclusion for a statement list of the block fragment: the walk up to the operand of the
    final expression is a CFG walk, and over any covering final code, in any state holding the variables' values,
    execution from the entry position reaches the exit position with the value the reference semantics gives to the
    statement list — as completion value, or as `return` value — in that operand -/
def BlockOk (wc : Ctx) (sc : QV.Spec.Sem.Ctx) (ic : ICtx) (isRet : Bool) (wl : QV.Model.Locals)
    (vars : List QV.Spec.Sem.Var) (stmts : List Stmt) : Prop :=
  ∀ s s', (walkStmts wc none stmts).run s = (some true, s') → s.locals = wl → VarRel s.b.code.locals wl vars →
    (∃ blk, OpenAt s.b blk) →
    ∃ (s1 : WState) (op : Operand), s'.b = finish isRet s1.b op ∧ Walked s.b s1.b ∧ OperandOk s1.b.code.locals.length op ∧
      ∀ C, Covers C s1.b s.b.currentRef →
      ∀ (st : State) (sst : QV.Spec.Sem.St) (out : QV.Spec.Sem.Outcome) (sst' : QV.Spec.Sem.St),
        shapeOf sst.vars = shapeOf vars → sst.w = st.w → (∀ x q u, st.w.prop x q = some u → isCint u = false) →
        ValRel wl sst.vars st.L →
        QV.Spec.Sem.execStmts sc stmts sst = some (out, sst') →
        ∃ v, out = outOf isRet v ∧ ∃ d st', d ≤ s1.b.currentRef - s.b.currentRef ∧
          (∀ fuel, runAt ic C (fuel + d) s.b.currentRef (curLen s.b) st =
            runAt ic C fuel s1.b.currentRef (curLen s1.b) st') ∧
          evalOperand ic st'.L op = some v

theorem block_final (wc : Ctx) (sc : QV.Spec.Sem.Ctx) (ic : ICtx) (isRet : Bool) (wl : QV.Model.Locals)
    (vars : List QV.Spec.Sem.Var) (e : Expr) (fin : Stmt) (he : WalkOk wc sc ic wl vars e)
    (hrun : ∀ s s', BuilderInv.StmtRun wc none fin s s' →
      ∃ op s1, (walkRvalue wc e).run s = (some op, s1) ∧ s' = { s1 with b := finish isRet s1.b op })
    (hspec : ∀ s out s', QV.Spec.Sem.execStmts sc [fin] s = some (out, s') →
      ∃ v, QV.Spec.Sem.evalExpr sc e s = some (v, s') ∧ out = outOf isRet v) :
    BlockOk wc sc ic isRet wl vars [fin] := by
  intro s s' h hl hvr ho
  cases stmtsRun h with | step hst hrest _ =>
  cases hrest
  obtain ⟨op, s1, hw, rfl⟩ := hrun _ _ hst
  have r1 := he s s1 op hw hl hvr ho
  refine ⟨s1, op, rfl, r1.walked, r1.ok, ?_⟩
  intro C hC st sst out sst' hvars hw' hnc hval hsp
  obtain ⟨v, hev, rfl⟩ := hspec _ _ _ hsp
  obtain ⟨_, d, st', hd, hrun', hv, _⟩ := r1.sim C hC st sst sst' v hvars hw' hnc hval hev
  exact ⟨v, rfl, d, st', hd, hrun', hv⟩

theorem scopeOf_insert {scope : List String} {wl : QV.Model.Locals} (h : ScopeOf scope wl) (x : String)
    (v : Nat × DeclKind) : ScopeOf (x :: scope) (wl.insert x v) := by
  intro y
  by_cases hy : y = x
  · subst hy; simp [get?_insert_self]
  · rw [get?_insert_ne _ _ _ _ hy, ← h y]
    simp [hy]

/-- the declaration `let x = e` / `const x = e` on its own: a fresh local — above the locals of the names in scope — of
    the type the reference semantics converts the value to (`tyrel_toConcrete`), and one store into it -/
theorem decl_step (wc : Ctx) (sc : QV.Spec.Sem.Ctx) (ic : ICtx) (wl : QV.Model.Locals) (vars : List QV.Spec.Sem.Var)
    (kind : DeclKind) (x : String) (e : Expr) (he : WalkOk wc sc ic wl vars e)
    (hse : ∀ vars', shapeOf vars' = shapeOf vars → staticTy sc vars' e = staticTy sc vars e) (s sd : WState)
    (hd : BuilderInv.StmtRun wc none (.lexical kind [{ name := x, ty := none, value := some e }]) s sd)
    (hl : s.locals = wl) (hvr : VarRel s.b.code.locals wl vars) (ho : ∃ blk, OpenAt s.b blk) :
    ∃ (n : Nat) (sty : STy), sd.locals = wl.insert x (n, kind) ∧ Walked s.b sd.b ∧
      VarRel sd.b.code.locals (wl.insert x (n, kind)) ({ name := x, sty := sty, const := kind = .const_, val := none } :: vars) ∧
      (∀ y ny ky, wl.get? y = some (ny, ky) → ny ≠ n) ∧
      ∀ C, Covers C sd.b s.b.currentRef →
      ∀ (st : State) (sst : QV.Spec.Sem.St) (rest : List Stmt) (out : QV.Spec.Sem.Outcome) (sst' : QV.Spec.Sem.St),
        Rel wl vars sst st →
        QV.Spec.Sem.execStmts sc (.lexical kind [{ name := x, ty := none, value := some e }] :: rest) sst = some (out, sst') →
        ∃ sst1 st1,
          Rel (wl.insert x (n, kind)) ({ name := x, sty := sty, const := kind = .const_, val := none } :: vars) sst1 st1 ∧
          QV.Spec.Sem.execStmts sc rest sst1 = some (out, sst') ∧ ∃ d, d ≤ sd.b.currentRef - s.b.currentRef ∧
            Reaches ic C d s.b.currentRef (curLen s.b) st sd.b.currentRef (curLen sd.b) st1 := by
  obtain ⟨v, s1, ty, hw, htc, htynv, hb, hloc⟩ := run_let wc kind x e s sd hd
  have r1 := he s s1 v hw hl hvr ho
  obtain ⟨tx, hstx, htyx⟩ := r1.ty
  obtain ⟨blk1, ho1⟩ := r1.walked.exitOpen
  have w1 : Walked s.b s1.b := r1.walked
  obtain ⟨-, hg, hloc3, hstep⟩ := emit_step (x := (s1.b.emitResult ty (.copy (ensureConcreteString v))).1) (b' := sd.b)
    htynv ho1 (Prod.ext rfl hb)
  have wd : Walked s1.b sd.b := Walked.of_grows hg
  have hkty := tyrel_toConcrete v tx ty htyx htc
  rw [r1.locals] at hloc
  -- a name in scope is bound to a local allocated earlier
  have hfresh : ∀ y ny ky, wl.get? y = some (ny, ky) → ny ≠ s1.b.code.locals.length := by
    intro y ny ky hy
    obtain ⟨_, ty', _, hty', _⟩ := hvr.some y ny ky hy
    exact Nat.ne_of_lt (Nat.lt_of_lt_of_le (lt_length_of_getElem? hty') w1.locals_le)
  refine ⟨s1.b.code.locals.length, tx.concrete, hloc, w1.trans wd,
    varRel_insert x s1.b.code.locals.length kind { name := x, sty := tx.concrete, const := kind = .const_, val := none } rfl
      ((hvr.mono w1.locals).mono wd.locals) ty (by rw [hloc3]; simp) htynv rfl hkty, hfresh, ?_⟩
  intro C hC st sst rest out sst' hrel hsp
  obtain ⟨v0, sA, tA, v', hev, hstA, hco, hrs⟩ := spec_stmts_let sc kind x e rest sst out sst' hsp
  have hC1 : Covers C s1.b s.b.currentRef := Covers.of_ext wd.toExt hC w1.cur_le
  obtain ⟨hsA, d1, st1, hd1, hrun1, hv1, hw1', hrel1⟩ := expr_run r1 hvr hC1 hrel hev
  subst hsA
  rw [hse _ hrel.shape, hstx] at hstA
  injection hstA with hstA
  subst hstA
  rw [hkty] at hco
  refine ⟨{ sA with vars := { name := x, sty := tx.concrete, const := kind = .const_, val := some v' } :: sA.vars },
    { st1 with L := upd st1.L s1.b.code.locals.length v' },
    ⟨by have := hrel.shape; simp only [shapeOf, List.map_cons] at this ⊢; rw [this], hrel1.world, hrel1.nc,
      valRel_insert x s1.b.code.locals.length kind
        { name := x, sty := tx.concrete, const := kind = .const_, val := some v' } rfl hrel1.vals v' rfl
        (coerceTo_not_cint hco) hfresh⟩,
    hrs, d1, by rw [hg.currentRef]; exact hd1,
    Reaches.trans (d2 := 0) hrun1 (hstep ic C _ hC st1 st1 v0 v'
      (by simp [evalRvalue, evalOperand_ensure, hv1]) hco)⟩

theorem block_decl (wc : Ctx) (sc : QV.Spec.Sem.Ctx) (ic : ICtx) (isRet : Bool) (wl : QV.Model.Locals)
    (vars : List QV.Spec.Sem.Var) (kind : DeclKind) (x : String) (e : Expr) (rest : List Stmt)
    (he : WalkOk wc sc ic wl vars e)
    (hse : ∀ vars', shapeOf vars' = shapeOf vars → staticTy sc vars' e = staticTy sc vars e)
    (hrest : ∀ (n : Nat) (sty : STy), BlockOk wc sc ic isRet (wl.insert x (n, kind))
      ({ name := x, sty := sty, const := kind = .const_, val := none } :: vars) rest) :
    BlockOk wc sc ic isRet wl vars (.lexical kind [{ name := x, ty := none, value := some e }] :: rest) := by
  intro s s' h hl hvr ho
  obtain ⟨sd, hd, h⟩ := run_stmts_cons_ok wc _ rest s s' h
  obtain ⟨n, sty, hloc, wd, hvr', _, hstep⟩ := decl_step wc sc ic wl vars kind x e he hse s sd hd hl hvr ho
  obtain ⟨s2, op2, hfin, w2, hok2, hsim2⟩ := hrest n sty sd s' h hloc hvr' wd.exitOpen
  refine ⟨s2, op2, hfin, wd.trans w2, hok2, ?_⟩
  intro C hC st sst out sst' hvars hw' hnc hval hsp
  obtain ⟨sst1, st1, hrel1, hrs, d1, hd1, hrun1⟩ :=
    hstep C (Covers.of_ext w2.toExt hC wd.cur_le) st sst rest out sst' ⟨hvars, hw', hnc, hval⟩ hsp
  obtain ⟨val, hout, d2, st2, hd2, hrun2, hv2⟩ :=
    hsim2 C (hC.mono wd.cur_le) st1 sst1 out sst' hrel1.shape hrel1.world hrel1.nc hrel1.vals hrs
  exact ⟨val, hout, d1 + d2, st2, fuel_seq hd1 wd.cur_le hd2 w2.cur_le, Reaches.trans hrun1 hrun2, hv2⟩

/-- the induction over the statement lists of `BlockFrag` (single declarators without type annotation, then `e` or
    `return e`: restrictions of this theorem, not of the model) -/
theorem walk_block (wc : Ctx) (sc : QV.Spec.Sem.Ctx) (ic : ICtx) (hag : Agree wc sc ic) (isRet : Bool)
    (scope : List String) (stmts : List Stmt) (hf : BlockFrag wc isRet scope stmts) :
    ∀ (wl : QV.Model.Locals) (vars : List QV.Spec.Sem.Var), ScopeOf scope wl → BlockOk wc sc ic isRet wl vars stmts := by
  induction hf with
  | expr scope e he =>
    intro wl vars hsc
    exact block_final wc sc ic false wl vars e _ (walk_cfg wc sc ic hag scope wl vars hsc e he)
      (final_expr wc e) (fun _ _ _ => spec_stmts_expr)
  | ret scope e he =>
    intro wl vars hsc
    exact block_final wc sc ic true wl vars e _ (walk_cfg wc sc ic hag scope wl vars hsc e he)
      (final_return wc e) (fun _ _ _ => spec_stmts_ret)
  | decl isRet scope kind x e rest he _ ih =>
    intro wl vars hsc
    exact block_decl wc sc ic isRet wl vars kind x e rest (walk_cfg wc sc ic hag scope wl vars hsc e he)
      (fun vars' h => sty_shape wc sc scope vars vars' h e he)
      (fun n sty => ih _ _ (scopeOf_insert hsc x (n, kind)))

/-- `finalize_completion_values` on an EMPTY open start block that no block branches to unconditionally (the block pushed
    after a final `return`): only that block changes — it gets a terminator (`unreachable`, or `return void` if it is the
    target of a conditional branch) -/
theorem finalize_after_return (code : CodeBody) (start : Nat)
    (hs : code.blocks[start]? = some {})
    (hbr : ∀ (i : Nat) (bi : BasicBlock), code.blocks[i]? = some bi → bi.terminator ≠ some (.br start)) :
    ∃ term, (finalizeCompletionValues code start).1 =
      { code with blocks := setBlock code.blocks start { terminator := some term } } := by
  have hinc : (QV.Proofs.Finalize.brIncoming code).getD start [] = [] :=
    List.eq_nil_iff_forall_not_mem.2 fun j hj =>
      have ⟨b, hb, ht⟩ := (QV.Proofs.Finalize.mem_brIncoming (lt_length_of_getElem? hs)).1 hj
      hbr j b hb ht
  rw [QV.Proofs.Finalize.finalizeCompletionValues_loop hs rfl]
  -- one round: the start block is empty, so the `br` edges into it are pushed — there are none; which terminator it gets
  -- depends on the table of branch targets only
  simp only [finalizeLoop, List.getLast?_singleton, hs, hinc, List.isEmpty_nil, ↓reduceIte, List.dropLast_singleton, List.nil_append,
    QV.Proofs.Finalize.finalizeLoop_nil]
  exact ⟨_, rfl⟩

end QV.Proofs.SemCfgBlock
