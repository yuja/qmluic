/-
  What the C04 / C14 / C20 theorem files share about `QV.Model.Passes`: `run` on a document it processes and on any
  other, the records the constant pass can leave for a scalar binding (`Rec`), its records as maps over the entries
  of an object, the C++ pass on one entry in normal form, and the walk over the object tree: every placed object is
  `placeOne` of an object of the document, subtrees that do not resolve vanish.
-/
import QV.Model.Passes

namespace QV.Proofs.Passes
open QV.Model.Passes

/-- all objects written in the document -/
def objs : Forest → List Obj
  | .nil => []
  | .cons o ch rest => o :: objs ch ++ objs rest

/-- apply an edit to every object (edits are keyed on `oid` by the caller) -/
def mapObj (f : Obj → Obj) : Forest → Forest
  | .nil => .nil
  | .cons o ch rest => .cons (f o) (mapObj f ch) (mapObj f rest)

/-- remove the subtrees whose root object does not resolve -/
def prune : Forest → Forest
  | .nil => .nil
  | .cons o ch rest => if o.resolves then .cons o (prune ch) (prune rest) else prune rest

/-- all scalar bindings of a placed object that entered a code map, with what the constant pass did -/
def leafOutsOf (p : Placed) : List (Leaf × LeafOut) := p.allOuts.flatMap (·.leafOuts)

/-- the documents `run` processes: one root object whose type resolves -/
def valid : Forest → Bool
  | .cons root _ .nil => root.resolves
  | _ => false

theorem valid_iff (doc : Forest) :
    valid doc = true ↔ ∃ root ch, doc = .cons root ch .nil ∧ root.resolves = true := by
  constructor
  · intro h
    cases doc with
    | nil => simp [valid] at h
    | cons root ch rest =>
      cases rest with
      | nil => exact ⟨root, ch, rfl, h⟩
      | cons _ _ _ => simp [valid] at h
  · rintro ⟨root, ch, rfl, hr⟩
    exact hr

/-- a document `run` processes goes through all passes; the mode decides on the support code and on what is
    reported after the common phases -/
theorem run_valid (m : Mode) (doc : Forest) (h : valid doc = true) :
    run m doc =
      { built := true, panic := anyPanic (place .root doc).1, objects := (place .root doc).1
        support :=
          match m with
          | .generate => some { bindings := (cxxAll (place .root doc).1).bindings
                                generated := (cxxAll (place .root doc).1).generated
                                repeated := (cxxAll (place .root doc).1).repeated
                                connected := connectedAll (place .root doc).1 }
          | _ => none
        diags := commonDiags (place .root doc).1 (place .root doc).2 ++
          match m with
          | .reject => rejectAll (place .root doc).1
          | _ => (cxxAll (place .root doc).1).diags } := by
  obtain ⟨root, ch, rfl, hr⟩ := (valid_iff doc).1 h
  cases m <;> simp [run, hr]

/-- any other document is refused before the passes start, in the same way in every mode -/
theorem run_invalid (m : Mode) (doc : Forest) (h : valid doc = false) :
    run m doc = run .omit doc ∧ (run m doc).built = false ∧ (run m doc).panic = false ∧
      (run m doc).objects = [] ∧ (run m doc).support = none := by
  cases doc with
  | nil => simp [run, noResult]
  | cons root ch rest =>
    cases rest with
    | cons _ _ _ => simp [run, noResult]
    | nil =>
      have hr : root.resolves = false := h
      simp [run, hr, noResult]

theorem valid_of_mem_objects {m : Mode} {doc : Forest} {p : Placed} (hp : p ∈ (run m doc).objects) :
    valid doc = true := by
  cases h : valid doc
  · obtain ⟨_, _, _, hobjects, _⟩ := run_invalid m doc h
    rw [hobjects] at hp
    cases hp
  · rfl

theorem valid_of_support (doc : Forest) (s : Support) (hs : (run .generate doc).support = some s) :
    valid doc = true := by
  cases h : valid doc
  · obtain ⟨_, _, _, _, hsupport⟩ := run_invalid .generate doc h
    rw [hsupport] at hs
    cases hs
  · rfl

theorem accepted_parts (r : Result) (h : r.accepted = true) : r.built = true ∧ r.panic = false ∧ r.diags = [] := by
  simpa [Result.accepted, and_assoc] using h

/-- a constant the consumer evaluates and converts and then neither uses nor diagnoses: C04's two silent drops,
    `separator: false` as an action's only binding (F18) and an `actions` value that is no object list -/
def SilentDrop (r : Route) (l : Leaf) : Prop :=
  (r = .separator ∧ l.const = some (.ok 0)) ∨ (r = .refList ∧ l.shapeOk = false)

/-- The records the constant pass can leave for a scalar binding, whether a top-level leaf under its route or a member
    under its group's consumer.  `b`: the consumer evaluates the binding; `Drop`: the condition under which a converted
    constant is used nowhere without a diagnostic of its own (`SilentDrop` for a leaf; for a member, that its group is
    refused as a whole).  Of the binding only its identity `i` and its constant `c` matter, so `{ l with rangeOk := true }`
    has the records of `l`.  `diagnosed` leaves the `evaluated` flag open: the size-policy member nobody knows is
    diagnosed without being evaluated, while its siblings are evaluated. -/
inductive Rec (b : Bool) (Drop : Prop) (i : Nat) (c : Option Conv) : LeafOut → Prop
  | blank (h : b = false ∨ c = none) : Rec b Drop i c ⟨i, b, none, [], false⟩
  | panics (hb : b = true) (hc : c ≠ some .fail) : Rec b Drop i c ⟨i, b, none, [], true⟩
  | diagnosed (ev : Bool) (k : DK) (ks : List DK) : Rec b Drop i c ⟨i, ev, none, ks ++ [k], false⟩
  | embedded (hb : b = true) (v : Value) (hc : c = some (.ok v)) : Rec b Drop i c ⟨i, b, some v, [], false⟩
  | dropped (hd : Drop) (hb : b = true) (v : Value) (hc : c = some (.ok v)) : Rec b Drop i c ⟨i, b, none, [], false⟩

/-- the record of a leaf under its route; its cell is initialised exactly when the route reaches it, which `Rec` alone
    does not say (`Rec.diagnosed`) -/
theorem constLeaf_spec (r : Route) (l : Leaf) :
    Rec (r != .untouched) (SilentDrop r l) l.id l.const (constLeaf r l) ∧
      (constLeaf r l).evaluated = (r != .untouched) := by
  unfold constLeaf
  split
  · exact ⟨.blank (.inl rfl), rfl⟩
  rename_i hr
  have hb : (r != .untouched) = true := bne_iff_ne.2 hr
  split
  · exact ⟨.blank (.inr ‹_›), rfl⟩
  · rename_i hp
    exact ⟨.panics hb (by rw [hp]; nofun), rfl⟩
  · exact ⟨.diagnosed _ _ [], rfl⟩
  rename_i v hc
  -- a constant `v`, by consumer in the order of `Route`
  split
  · exact absurd rfl hr
  · exact ⟨.embedded hb v hc, rfl⟩
  · split
    · exact ⟨.embedded hb v hc, rfl⟩
    · exact ⟨.diagnosed _ _ [], rfl⟩
  · split
    · exact ⟨.diagnosed _ _ [], rfl⟩
    · split
      · exact ⟨.diagnosed _ _ [], rfl⟩
      · exact ⟨.embedded hb v hc, rfl⟩
  · split
    · rename_i h
      exact ⟨.dropped (.inr ⟨rfl, by simpa using h⟩) hb v hc, rfl⟩
    · split
      · exact ⟨.panics hb (by rw [hc]; nofun), rfl⟩
      · exact ⟨.embedded hb v hc, rfl⟩
  · exact ⟨.embedded hb v hc, rfl⟩
  · split
    · exact ⟨.diagnosed _ _ [], rfl⟩
    · split
      · rename_i h0
        exact ⟨.dropped (.inl ⟨rfl, h0 ▸ hc⟩) hb v hc, rfl⟩
      · exact ⟨.embedded hb v hc, rfl⟩

theorem constLeaf_rec (r : Route) (l : Leaf) : Rec (r != .untouched) (SilentDrop r l) l.id l.const (constLeaf r l) :=
  (constLeaf_spec r l).1

theorem constLeaf_evaluated (r : Route) (l : Leaf) : (constLeaf r l).evaluated = (r != .untouched) :=
  (constLeaf_spec r l).2

namespace Rec
variable {b : Bool} {D : Prop} {i : Nat} {c : Option Conv} {o : LeafOut}

theorem id_eq (h : Rec b D i c o) : o.id = i := by cases h <;> rfl

/-- a record without a diagnostic tells whether the consumer evaluates -/
theorem quiet (h : Rec b D i c o) (hd : o.diags = []) : o.evaluated = b := by
  cases h with
  | diagnosed ev k ks => exact absurd hd (List.append_ne_nil_of_right_ne_nil _ (List.cons_ne_nil _ _))
  | _ => rfl

theorem emb (h : Rec b D i c o) {v : Value} (hv : o.emb = some v) : o.evaluated = true ∧ c = some (.ok v) := by
  cases h <;> cases hv
  exact ⟨‹_›, ‹_›⟩

theorem of_fail (h : Rec b D i c o) (hf : c = some .fail) : o.emb = none ∧ o.panic = false := by
  cases h with
  | panics _ hc => exact absurd hf hc
  | embedded _ v hc => cases hc.symm.trans hf
  | _ => exact ⟨rfl, rfl⟩

theorem mono {D' : Prop} (hD : D → D') (h : Rec b D i c o) : Rec b D' i c o := by
  cases h with
  | blank h => exact .blank h
  | panics hb hc => exact .panics hb hc
  | diagnosed ev k ks => exact .diagnosed ev k ks
  | embedded hb v hc => exact .embedded hb v hc
  | dropped hd hb v hc => exact .dropped (hD hd) hb v hc
end Rec

theorem constLeaf_id (r : Route) (l : Leaf) : (constLeaf r l).id = l.id := (constLeaf_rec r l).id_eq

theorem cell_evaluated_const (o : LeafOut) (l : Leaf) : o.evalConst l = (o.evaluated && l.const.isSome) := rfl

def propOut (d : Disp) (o : Obj) (sole : Bool) : Entry → EntryOut
  | .leaf l => .leaf l (constLeaf (propLeafRoute d o sole l) l) (propLeafExtra d o l)
  | .group g => .group g (constGroup (propGroupRoute d o g) g)

theorem constProps_eq_map (d : Disp) (o : Obj) (sole : Bool) (es : List Entry) :
    constProps d o sole es = es.map (propOut d o sole) := by
  induction es with
  | nil => rfl
  | cons e es ih => cases e <;> simp only [constProps, List.map_cons, propOut, ih]

def attOut (reach : Reach) (d : Disp) (first : Bool) (ty : AttType) : Entry → EntryOut
  | .leaf l => .leaf l (constLeaf (attLeafRoute reach d first ty l) l) []
  | .group g => .group g (constGroup (attGroupRoute reach d first ty g) g)

theorem constAttEntries_eq_map (reach : Reach) (d : Disp) (first : Bool) (ty : AttType) (es : List Entry) :
    constAttEntries reach d first ty es = es.map (attOut reach d first ty) := by
  induction es with
  | nil => rfl
  | cons e es ih => cases e <;> simp only [constAttEntries, List.map_cons, attOut, ih]

theorem rejectEntry_nil_iff (e : EntryOut) : rejectEntry e = [] ↔ e.evalConst = true := by
  unfold rejectEntry
  cases h : e.evalConst
  · cases e <;> simp
  · simp

theorem cxxEntry_of_evalConst (e : EntryOut) (h : e.evalConst = true) : cxxEntry e = {} := by
  simp [cxxEntry, h]

/- `π` is one of the list-valued fields of `Cxx`, each empty in `{}` (`h0`) and concatenated by `Cxx.append` (`ha`). -/

theorem cxxEntry_live {α : Type} {π : Cxx → List α} (h0 : π {} = []) {e : EntryOut} {x : α}
    (h : x ∈ π (cxxEntry e)) : e.evalConst = false := by
  cases hc : e.evalConst
  · rfl
  · rw [cxxEntry_of_evalConst e hc, h0] at h
    cases h

theorem cxxLeaf_kind (l : Leaf) (k : DK) (h : cxxLeaf l = some k) :
    k = .cxxRetType ∨ k = .cxxNotReadable ∨ k = .cxxNotWritable := by
  unfold cxxLeaf at h
  revert h
  -- the three tests of `cxxLeaf`, in its order
  cases l.retTypeOk <;> cases l.readable <;> cases l.writable
  all_goals
    intro h
    cases h <;> simp

/-- the subject of a diagnostic about the entry as a whole, as in `leftoverDiags` -/
def entryId : EntryOut → Nat
  | .leaf l _ _ => l.id
  | .group g _ => g.id

/-- An entry that is not an evaluated constant — a scalar read as a group of one — either becomes one binding that
    carries what its scalars gave, or is refused as a whole with one diagnostic of its own after those of its scalars. -/
theorem cxxEntry_cases (e : EntryOut) (h : e.evalConst = false) :
    cxxEntry e = { cxxMembers e.leafOuts with bindings := [entryId e] } ∨
    ∃ k pre, (k = .cxxRetType ∨ k = .cxxNotReadable ∨ k = .cxxNotWritable ∨ k = .cxxNested) ∧
      (∀ d ∈ pre, d ∈ (cxxMembers e.leafOuts).diags) ∧ cxxEntry e = { diags := pre ++ [⟨entryId e, k⟩] } := by
  cases e with
  | leaf l o x =>
    have hm : o.evalConst l = false := h
    cases hk : cxxLeaf l with
    | none =>
      refine .inl ?_
      simp only [cxxEntry, h, hk, hm, EntryOut.leafOuts, cxxMembers, cxxMember, Cxx.append, List.append_nil,
        Bool.false_eq_true, if_false, entryId]
    | some k =>
      refine .inr ⟨k, [], (cxxLeaf_kind l k hk).imp_right (.imp_right .inl), nofun, ?_⟩
      simp only [cxxEntry, h, hk, Bool.false_eq_true, if_false, entryId, List.nil_append]
  | group g o =>
    simp only [cxxEntry, h, Bool.false_eq_true, if_false]
    split
    · exact .inr ⟨_, [], .inr (.inr (.inr rfl)), nofun, rfl⟩
    · cases hr : g.readable
      · exact .inr ⟨_, _, .inr (.inl rfl), fun _ hd => hd, rfl⟩
      · cases hw : g.writable
        · exact .inr ⟨_, _, .inr (.inr (.inl rfl)), fun _ hd => hd, rfl⟩
        · exact .inl rfl

theorem cxxEntry_trace (e : EntryOut) (h : e.evalConst = false) :
    (cxxEntry e).bindings ≠ [] ∨ (cxxEntry e).diags ≠ [] := by
  rcases cxxEntry_cases e h with he | ⟨k, pre, _, _, he⟩ <;> rw [he]
  · exact .inl (List.cons_ne_nil _ _)
  · exact .inr (List.append_ne_nil_of_right_ne_nil _ (List.cons_ne_nil _ _))

theorem mem_of_cons {α β : Type} {F : List α → List β} {g : α → List β} (hnil : F [] = [])
    (hcons : ∀ x r, F (x :: r) = g x ++ F r) (xs : List α) (d : β) : d ∈ F xs ↔ ∃ x ∈ xs, d ∈ g x := by
  induction xs with
  | nil => simp [hnil]
  | cons x r ih => simp [hcons, ih]

theorem append_of_cons {α β : Type} (F : List α → List β) (g : α → List β) (hnil : F [] = [])
    (hcons : ∀ x r, F (x :: r) = g x ++ F r) (xs ys : List α) : F (xs ++ ys) = F xs ++ F ys := by
  induction xs with
  | nil => simp [hnil]
  | cons x r ih => simp [hcons, ih]

theorem liveEntries_cons (e : Entry) (r : List Entry) : liveEntries (e :: r) = liveEntries [e] ++ liveEntries r := by
  cases e <;> simp only [liveEntries] <;> split <;> rfl

theorem mem_cxxMember_generated (m x : Leaf × LeafOut) :
    x ∈ (cxxMember m).generated ↔ x = m ∧ m.2.evalConst m.1 = false ∧ cxxLeaf m.1 = none := by
  unfold cxxMember
  split
  · simp_all
  · split <;> simp_all

theorem mem_cxxMember_repeated (m x : Leaf × LeafOut) :
    x ∈ (cxxMember m).repeated ↔ x = m ∧ m.2.evalConst m.1 = true ∧ cxxLeaf m.1 = none := by
  unfold cxxMember
  split
  · simp_all
  · split <;> simp_all

theorem mem_cxxMember_diags (m : Leaf × LeafOut) (d : Diag) :
    d ∈ (cxxMember m).diags ↔ ∃ k, cxxLeaf m.1 = some k ∧ d = ⟨m.1.id, k⟩ := by
  unfold cxxMember
  split
  · simp_all
  · split <;> simp_all

theorem mem_cxxMembers {α : Type} {π : Cxx → List α} (h0 : π {} = []) (ha : ∀ a b, π (a.append b) = π a ++ π b)
    (zs : List (Leaf × LeafOut)) (x : α) : x ∈ π (cxxMembers zs) ↔ ∃ m ∈ zs, x ∈ π (cxxMember m) :=
  mem_of_cons (F := fun zs => π (cxxMembers zs)) h0 (fun _ _ => ha _ _) zs x

theorem mem_cxxMembers_generated (zs : List (Leaf × LeafOut)) (x : Leaf × LeafOut) :
    x ∈ (cxxMembers zs).generated ↔ x ∈ zs ∧ x.2.evalConst x.1 = false ∧ cxxLeaf x.1 = none := by
  rw [mem_cxxMembers (π := Cxx.generated) rfl (fun _ _ => rfl)]
  simp only [mem_cxxMember_generated]
  exact ⟨fun ⟨m, hm, hx, h⟩ => hx ▸ ⟨hm, h⟩, fun ⟨hm, h⟩ => ⟨x, hm, rfl, h⟩⟩

theorem mem_cxxMembers_repeated (zs : List (Leaf × LeafOut)) (x : Leaf × LeafOut) :
    x ∈ (cxxMembers zs).repeated ↔ x ∈ zs ∧ x.2.evalConst x.1 = true ∧ cxxLeaf x.1 = none := by
  rw [mem_cxxMembers (π := Cxx.repeated) rfl (fun _ _ => rfl)]
  simp only [mem_cxxMember_repeated]
  exact ⟨fun ⟨m, hm, hx, h⟩ => hx ▸ ⟨hm, h⟩, fun ⟨hm, h⟩ => ⟨x, hm, rfl, h⟩⟩

theorem mem_cxxMembers_diags (zs : List (Leaf × LeafOut)) (d : Diag) :
    d ∈ (cxxMembers zs).diags ↔ ∃ m ∈ zs, ∃ k, cxxLeaf m.1 = some k ∧ d = ⟨m.1.id, k⟩ := by
  rw [mem_cxxMembers (π := Cxx.diags) rfl (fun _ _ => rfl)]
  simp only [mem_cxxMember_diags]

theorem mem_cxxAll {α : Type} {π : Cxx → List α} (h0 : π {} = []) (ha : ∀ a b, π (a.append b) = π a ++ π b)
    (ps : List Placed) (x : α) : x ∈ π (cxxAll ps) ↔ ∃ p ∈ ps, ∃ e ∈ p.props, x ∈ π (cxxEntry e) := by
  rw [mem_of_cons (F := fun ps => π (cxxAll ps)) h0 (fun _ _ => ha _ _)]
  simp only [mem_of_cons (F := fun es => π (cxxEntries es)) h0 (fun _ _ => ha _ _)]

theorem mem_commonDiags_obj (ps : List Placed) (t : List Diag) (p : Placed) (hp : p ∈ ps) (d : Diag)
    (h : d ∈ codeMapDiags p.obj ∨ d ∈ p.formDiags ∨ d ∈ leftoverDiags p) : d ∈ commonDiags ps t := by
  simp only [commonDiags, List.mem_append, List.mem_flatMap]
  rcases h with h | h | h
  · exact .inl (.inl (.inr ⟨p, hp, h⟩))
  · exact .inl (.inr ⟨p, hp, h⟩)
  · exact .inr ⟨p, hp, h⟩

theorem dispatch_action (reach : Reach) (o : Obj) (h : (dispatch reach o).1 = .action) : o.isAction = true := by
  cases hA : o.isAction
  · -- without the flag, what is left of each arm of `dispatch` chooses among `.layout`, `.spacer` and `.widget`
    cases reach <;> simp [dispatch, hA, apply_ite Prod.fst] at h
    all_goals
      repeat' split at h
      all_goals cases h
  · rfl

theorem hasResolving_prune (F : Forest) : hasResolving (prune F) = hasResolving F := by
  induction F with
  | nil => rfl
  | cons o ch rest _ ihr =>
    by_cases h : o.resolves = true
    · simp [prune, hasResolving, h]
    · have h' : o.resolves = false := by simpa using h
      simp [prune, hasResolving, h', ihr]

/-- objects whose type does not resolve vanish with their subtree and leave the rest untouched -/
theorem place_prune (F : Forest) : ∀ reach, (place reach (prune F)).1 = (place reach F).1 := by
  induction F with
  | nil => intro _; rfl
  | cons o ch rest ihc ihr =>
    intro reach
    by_cases h : o.resolves = true
    · simp only [prune, h, if_true, place, hasResolving_prune, ihc, ihr]
    · have h' : o.resolves = false := by simpa using h
      simp [prune, place, h', ihr]

theorem place_mem (F : Forest) : ∀ reach, ∀ p ∈ (place reach F).1,
    ∃ reach' kids, ∃ o ∈ objs F, p = placeOne reach' o kids := by
  induction F with
  | nil => intro _ p hp; simp [place] at hp
  | cons o ch rest ihc ihr =>
    intro reach p hp
    by_cases h : o.resolves = true
    · simp [place, h] at hp
      rcases hp with hp | hp | hp
      · exact ⟨reach, hasResolving ch, o, by simp [objs], hp⟩
      · obtain ⟨r', kids, o', ho', e⟩ := ihc _ p hp
        exact ⟨r', kids, o', by simp [objs, ho'], e⟩
      · obtain ⟨r', kids, o', ho', e⟩ := ihr _ p hp
        exact ⟨r', kids, o', by simp [objs, ho'], e⟩
    · have h' : o.resolves = false := by simpa using h
      simp only [place, h'] at hp
      obtain ⟨r', kids, o', ho', e⟩ := ihr _ p (by simpa using hp)
      exact ⟨r', kids, o', by simp [objs, ho'], e⟩

/-- in every mode the placed objects are `placeOne` of objects of the document -/
theorem run_objects_mem {m : Mode} {doc : Forest} {p : Placed} (hp : p ∈ (run m doc).objects) :
    ∃ reach kids, ∃ o ∈ objs doc, p = placeOne reach o kids := by
  rw [run_valid m doc (valid_of_mem_objects hp)] at hp
  exact place_mem doc .root p hp

/-- in every mode: an error of the phases before the mode switch is reported -/
theorem run_diags_mem {m : Mode} {doc : Forest} {p : Placed} (hp : p ∈ (run m doc).objects) {d : Diag}
    (hd : d ∈ codeMapDiags p.obj ∨ d ∈ p.formDiags ∨ d ∈ leftoverDiags p) : d ∈ (run m doc).diags := by
  have hv := valid_of_mem_objects hp
  rw [run_valid m doc hv] at hp ⊢
  exact List.mem_append_left _ (mem_commonDiags_obj _ _ p hp d hd)

end QV.Proofs.Passes
