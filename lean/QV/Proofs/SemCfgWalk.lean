/-
  The CFG-level induction over the AST walk (QV.Props.C01): what a walk achieves (`CResult`) and the single-block cases.
  `TyRel` is needed where Spec.Sem converts an untyped constant: at the ternary and at a declaration.
  The hypothesis `∀ x q u, st.w.prop x q = some u → isCint u = false` of `Sim` and of everything built on it says that
  no property of the world holds an untyped constant (a property read is stored in a typed local).
-/
import QV.Proofs.SemCfg
import QV.Proofs.SemStraight

namespace QV.Proofs.SemCfgWalk
open QV.Model QV.Model.IrSem QV.Proofs.SemIr QV.Proofs.SemVisit QV.Proofs.SemWalk QV.Proofs.SemStraight QV.Proofs.SemCfg
open QV.Spec.Sem (Val World Host Ev Ty STy coerceTo binop unop staticTy)

/-- the operand's type (as the builder sees it) agrees with the static type of the reference semantics, as far as the
    conversion of untyped constants depends on it: an untyped integer constant on both sides, or a concrete kind whose
    `Ty` is the static one (enum and class names play no part in `coerceTo`) -/
def TyRel (op : Operand) (t : STy) : Prop :=
  (op.typeDesc = .constInteger ∧ t.const = true ∧ t.ty = .int) ∨
  (∃ k, op.typeDesc = .concrete k ∧ t.const = false ∧ t.ty = (styOf k).ty)

/-- what is known of the variables before the program runs: names, types, constness (not the values) -/
def shapeOf (vars : List QV.Spec.Sem.Var) : List (String × STy × Bool) := vars.map fun v => (v.name, v.sty, v.const)

theorem find?_shape {a b : List QV.Spec.Sem.Var} (h : shapeOf a = shapeOf b) (name : String) :
    (a.find? (·.name = name)).map (fun v => (v.name, v.sty, v.const)) =
    (b.find? (·.name = name)).map (fun v => (v.name, v.sty, v.const)) := by
  -- both sides look `name` up in the shape
  have key (l : List QV.Spec.Sem.Var) : (shapeOf l).find? (·.1 = name) =
      (l.find? (·.name = name)).map fun v => (v.name, v.sty, v.const) := List.find?_map
  rw [← key, ← key, h]

theorem find?_none_of_shape {a b : List QV.Spec.Sem.Var} (h : shapeOf a = shapeOf b) (name : String)
    (hb : b.find? (·.name = name) = none) : a.find? (·.name = name) = none := by
  have := find?_shape h name
  rw [hb] at this
  simpa using this

theorem find?_some_of_shape {a b : List QV.Spec.Sem.Var} (h : shapeOf a = shapeOf b) (name : String)
    (var : QV.Spec.Sem.Var) (hb : b.find? (·.name = name) = some var) :
    ∃ var', a.find? (·.name = name) = some var' ∧ var'.sty = var.sty ∧ var'.const = var.const := by
  have := find?_shape h name
  rw [hb] at this
  cases ha : a.find? (·.name = name) with
  | none => rw [ha] at this; simp at this
  | some var' =>
    rw [ha] at this
    simp only [Option.map_some, Option.some.injEq, Prod.mk.injEq] at this
    exact ⟨var', rfl, this.2.1, this.2.2⟩

/-- STATIC agreement on the variables in scope: the walk's name map `wl` (name ↦ IR local, kind), the (shape of the)
    reference semantics' variable stack `vars`, and the builder's local types `ltys` know the same names, and every
    variable is of the non-void, typed (never an untyped constant) type of its local -/
structure VarRel (ltys : List TypeKind) (wl : QV.Model.Locals) (vars : List QV.Spec.Sem.Var) : Prop where
  none : ∀ name, wl.get? name = none → vars.find? (·.name = name) = none
  some : ∀ name n k, wl.get? name = some (n, k) → ∃ var ty, vars.find? (·.name = name) = some var ∧
    ltys[n]? = some ty ∧ ty ≠ .void ∧ var.sty.const = false ∧ var.sty.ty = (styOf ty).ty

/-- DYNAMIC agreement: every variable in scope has been initialised (the fragment has no declaration without initialiser)
    with a typed value, which is in its IR local -/
def ValRel (wl : QV.Model.Locals) (vars : List QV.Spec.Sem.Var) (L : IrSem.Locals) : Prop :=
  ∀ name n k, wl.get? name = some (n, k) →
    ∃ var v, vars.find? (·.name = name) = some var ∧ var.val = some v ∧ L n = some v ∧ isCint v = false

theorem VarRel.nil (ltys : List TypeKind) : VarRel ltys [] [] :=
  ⟨fun _ _ => rfl, fun _ _ _ h => by simp [QV.Model.Locals.get?] at h⟩

theorem ValRel.nil (vars : List QV.Spec.Sem.Var) (L : IrSem.Locals) : ValRel [] vars L := by
  intro name n k h
  simp [QV.Model.Locals.get?] at h

theorem VarRel.mono {ltys ltys' : List TypeKind} {wl : QV.Model.Locals} {vars : List QV.Spec.Sem.Var}
    (h : VarRel ltys wl vars) (hp : ∃ tys, ltys' = ltys ++ tys) : VarRel ltys' wl vars := by
  obtain ⟨tys, rfl⟩ := hp
  refine ⟨h.none, ?_⟩
  intro name n k hn
  obtain ⟨var, ty, h1, h2, h3⟩ := h.some name n k hn
  exact ⟨var, ty, h1, prefix_getElem? (List.prefix_append _ _) n ty h2, h3⟩

theorem ValRel.mono {ltys : List TypeKind} {wl : QV.Model.Locals} {vars vars' : List QV.Spec.Sem.Var} {L L' : IrSem.Locals}
    (hv : ValRel wl vars' L) (hr : VarRel ltys wl vars) (h : ∀ m, m < ltys.length → L' m = L m) : ValRel wl vars' L' := by
  intro name n k h1
  obtain ⟨_, ty, _, hty, _⟩ := hr.some name n k h1
  have hn : n < ltys.length := lt_length_of_getElem? hty
  obtain ⟨var, v, h2, h3, h4, h5⟩ := hv name n k h1
  exact ⟨var, v, h2, h3, by rw [h n hn]; exact h4, h5⟩

/-- the simulation: over any final code covering the builder after the walk, from the entry position (entry block,
    behind the statements it had) execution reaches the exit position (current block, behind its statements) with the
    reference value in the operand and the earlier locals, the world and the trace unchanged; the state's variables have
    the shape `vars` and their values are in their locals -/
def Sim (sc : QV.Spec.Sem.Ctx) (ic : ICtx) (wl : QV.Model.Locals) (vars : List QV.Spec.Sem.Var) (e : Expr)
    (b b' : Builder) (op : Operand) : Prop :=
  ∀ C, Covers C b' b.currentRef →
  ∀ (st : State) (sst sst' : QV.Spec.Sem.St) (v : Val),
    shapeOf sst.vars = shapeOf vars → sst.w = st.w → (∀ x q u, st.w.prop x q = some u → isCint u = false) →
    ValRel wl sst.vars st.L →
    QV.Spec.Sem.evalExpr sc e sst = some (v, sst') →
    sst' = sst ∧ ∃ d st', d ≤ b'.currentRef - b.currentRef ∧
      (∀ fuel, runAt ic C (fuel + d) b.currentRef (curLen b) st = runAt ic C fuel b'.currentRef (curLen b') st') ∧
      evalOperand ic st'.L op = some v ∧ (∀ m, m < b.code.locals.length → st'.L m = st.L m) ∧
      st'.w = st.w ∧ st'.trace = st.trace ∧ ((∀ c, op ≠ .const c) → isCint v = false)

structure CResult (sc : QV.Spec.Sem.Ctx) (ic : ICtx) (wl : QV.Model.Locals) (vars : List QV.Spec.Sem.Var) (e : Expr)
    (s s' : WState) (op : Operand) : Prop where
  locals : s'.locals = wl
  walked : Walked s.b s'.b
  ok : OperandOk s'.b.code.locals.length op
  ty : ∃ t, QV.Spec.Sem.staticTy sc vars e = some t ∧ TyRel op t
  sim : Sim sc ic wl vars e s.b s'.b op
  /-- no operand of type `void` (the sink of a ternary could not be allocated for it) -/
  nv : op.typeDesc ≠ .concrete .void

/-- the induction hypothesis / conclusion for one expression: every successful walk from a builder whose current block
    is open, with the variables `wl` ~ `vars` in scope -/
def WalkOk (wc : Ctx) (sc : QV.Spec.Sem.Ctx) (ic : ICtx) (wl : QV.Model.Locals) (vars : List QV.Spec.Sem.Var)
    (e : Expr) : Prop :=
  ∀ s s' op, (walkRvalue wc e).run s = (some op, s') → s.locals = wl → VarRel s.b.code.locals wl vars →
    (∃ blk, OpenAt s.b blk) → CResult sc ic wl vars e s s' op

/-- the states of the reference semantics and of the IR agree on the variables in scope -/
structure Rel (wl : QV.Model.Locals) (vars : List QV.Spec.Sem.Var) (sst : QV.Spec.Sem.St) (st : State) : Prop where
  shape : shapeOf sst.vars = shapeOf vars
  world : sst.w = st.w
  nc : ∀ x q u, st.w.prop x q = some u → isCint u = false
  vals : ValRel wl sst.vars st.L

theorem expr_run {sc : QV.Spec.Sem.Ctx} {ic : ICtx} {wl : QV.Model.Locals} {vars : List QV.Spec.Sem.Var} {e : Expr}
    {s s1 : WState} {op : Operand} (r : CResult sc ic wl vars e s s1 op) (hvr : VarRel s.b.code.locals wl vars)
    {C : CodeBody} (hC : Covers C s1.b s.b.currentRef) {st : State} {sst sA : QV.Spec.Sem.St} {v : Val}
    (hrel : Rel wl vars sst st) (hev : QV.Spec.Sem.evalExpr sc e sst = some (v, sA)) :
    sA = sst ∧ ∃ d st1, d ≤ s1.b.currentRef - s.b.currentRef ∧
      (∀ fuel, runAt ic C (fuel + d) s.b.currentRef (curLen s.b) st = runAt ic C fuel s1.b.currentRef (curLen s1.b) st1) ∧
      evalOperand ic st1.L op = some v ∧ st1.w = st.w ∧ Rel wl vars sst st1 := by
  obtain ⟨hsA, d, st1, hd, hrun, hv, hp, hw, _, _⟩ := r.sim C hC st sst sA v hrel.shape hrel.world hrel.nc hrel.vals hev
  exact ⟨hsA, d, st1, hd, hrun, hv, hw,
    hrel.shape, hrel.world.trans hw.symm, by rw [hw]; exact hrel.nc, hrel.vals.mono hvr hp⟩

theorem const_nv (c : ConstantValue) : (Operand.const c).typeDesc ≠ .concrete .void := by
  cases c <;> simp [Operand.typeDesc, ConstantValue.typeDesc, TypeDesc.bool, TypeDesc.double, TypeDesc.string,
    TypeKind.bool, TypeKind.void, TypeKind.double, TypeKind.string]

theorem local_nv {m : Nat} {ty : TypeKind} (h : ty ≠ .void) : (Operand.local m ty).typeDesc ≠ .concrete .void := by
  simp [Operand.typeDesc, h]

theorem runAt_emit (ic : ICtx) (C : CodeBody) (b b' : Builder) (ss : List Statement) (lo : Nat)
    (hg : Grows b ss b') (hC : Covers C b' lo) (st st1 : State)
    (he : execStatements ic C.locals ss st = some st1) (fuel : Nat) :
    runAt ic C fuel b.currentRef (curLen b) st = runAt ic C fuel b'.currentRef (curLen b') st1 := by
  obtain ⟨blk0, hb, ht, hbl⟩ := hg.blocks
  have hcur := hg.currentRef
  obtain ⟨blkE, bE, hE, hCE, hp⟩ := hC.exit
  have hE' : blkE = { blk0 with statements := blk0.statements ++ ss } := by
    rw [hcur, hbl, getElem?_set_self' _ _ _ _ hb] at hE
    injection hE with hE
    exact hE.symm
  subst hE'
  have hl0 : curLen b = blk0.statements.length := curLen_of_open ⟨hb, ht⟩
  have hl1 : curLen b' = blk0.statements.length + ss.length := by
    simp [curLen, hcur, hbl, getElem?_set_self' _ _ _ _ hb]
  rw [hcur] at hCE ⊢
  rw [hl0, hl1]
  obtain ⟨rest, hr⟩ := hp
  exact runAt_stmts ic C fuel _ _ bE ss st st1 hCE ⟨rest, by rw [← hr, List.append_assoc, List.drop_left]⟩ he

/-- `emit_result` of a non-void type: the operand is the new local, the builder grew by one assignment, and over a
    covering code the run steps over that assignment inside the block, the value — converted to the local's type — in
    the new local -/
theorem emit_step {b b' : Builder} {blk : BasicBlock} {ty : TypeKind} {rv : Rvalue} {x : Operand} (hty : ty ≠ .void)
    (ho : OpenAt b blk) (h : (x, b') = b.emitResult ty rv) :
    x = .local b.code.locals.length ty ∧ Grows b [.assign b.code.locals.length rv] b' ∧
    b'.code.locals = b.code.locals ++ [ty] ∧
    ∀ (ic : ICtx) (C : CodeBody) (lo : Nat), Covers C b' lo → ∀ (st st1 : State) (v v' : Val),
      evalRvalue ic st rv = some (v, st1) → coerceTo (styOf ty).ty v = some v' →
      Reaches ic C 0 b.currentRef (curLen b) st b'.currentRef (curLen b')
        { st1 with L := upd st1.L b.code.locals.length v' } := by
  obtain ⟨hop, hg, hloc⟩ := grows_emit b blk ty rv hty ho
  rw [← h] at hop hg hloc
  refine ⟨hop, hg, hloc, fun ic C lo hC st st1 v v' hev hco => runAt_emit ic C b b' _ lo hg hC st _ ?_⟩
  rw [execStatements, exec_assign ic _ st st1 _ ty rv v v' (prefix_getElem? hC.locals _ _ (by rw [hloc]; simp)) hev hco]
  rfl

section
variable (sc : QV.Spec.Sem.Ctx) (vars : List QV.Spec.Sem.Var)

theorem sty_integer (v : Nat) : staticTy sc vars (.integer v) = some QV.Spec.Sem.sCint := rfl
theorem sty_bool (v : Bool) : staticTy sc vars (.bool v) = some QV.Spec.Sem.sBool := rfl
theorem sty_member_ident (o p : String) :
    staticTy sc vars (.member (.ident o) p) =
      (match staticTy sc vars (.ident o) with
       | some ot => ot.cls.bind fun cls => sc.propTy cls p
       | none => if (sc.enumVal o p).isSome then some { ty := .enum } else none) := rfl
theorem sty_ident (o : String) :
    staticTy sc vars (.ident o) =
      (match QV.Spec.Sem.varTy vars o with
       | some t => some t
       | none =>
         match sc.objects.find? (·.1 = o) with
         | some (_, _, cls) => some { ty := .ptr, cls := some cls }
         | none => sc.thisObj.bind fun (_, cls) => sc.propTy cls o) := rfl
theorem sty_unary (tok : UnaryToken) (a : Expr) : staticTy sc vars (.unary tok a) = staticTy sc vars a := rfl
theorem sty_ternary (c a b : Expr) :
    staticTy sc vars (.ternary c a b) =
      (match staticTy sc vars a, staticTy sc vars b with
       | some x, some y => some (x.unify y).concrete
       | _, _ => none) := rfl
theorem sty_binary (tok : BinaryToken) (l r : Expr) :
    staticTy sc vars (.binary tok l r) =
    (match tok.toOp with
     | some (.logical _) | some (.cmp _) => some QV.Spec.Sem.sBool
     | some (.shift _) =>
       (match staticTy sc vars l, staticTy sc vars r with
        | some x, some y => some (if x.const && y.const then x else x.concrete)
        | _, _ => none)
     | some _ =>
       (match staticTy sc vars l, staticTy sc vars r with
        | some x, some y => some (x.unify y)
        | _, _ => none)
     | none => none) := rfl

end

theorem sim_unchanged (sc : QV.Spec.Sem.Ctx) (ic : ICtx) (wl : QV.Model.Locals) (vars : List QV.Spec.Sem.Var) (e : Expr)
    (b : Builder) (op : Operand)
    (h : ∀ (st : State) (sst sst' : QV.Spec.Sem.St) (v : Val), shapeOf sst.vars = shapeOf vars → ValRel wl sst.vars st.L →
      QV.Spec.Sem.evalExpr sc e sst = some (v, sst') →
      sst' = sst ∧ evalOperand ic st.L op = some v ∧ ((∀ c, op ≠ .const c) → isCint v = false)) :
    Sim sc ic wl vars e b b op := by
  intro C _ st sst sst' v hv _ _ hval hspec
  obtain ⟨h1, h2, h3⟩ := h st sst sst' v hv hval hspec
  exact ⟨h1, 0, st, by omega, fun _ => rfl, h2, fun _ _ => rfl, rfl, rfl, h3⟩

theorem cfg_int (wc : Ctx) (sc : QV.Spec.Sem.Ctx) (ic : ICtx) (wl : QV.Model.Locals) (vars : List QV.Spec.Sem.Var)
    (v : Nat) : WalkOk wc sc ic wl vars (.integer v) := by
  intro s s' op h hl _ ⟨blk, ho⟩
  obtain ⟨hop, hs, hv⟩ := run_integer wc v s s' op h
  subst hop
  rw [hs]
  refine ⟨hl, Walked.of_grows (Grows.refl s.b blk ho), QV.Proofs.ConstWalk.representable_nat v hv,
    ⟨_, sty_integer sc vars v, Or.inl ⟨rfl, rfl, rfl⟩⟩, ?_, const_nv _⟩
  apply sim_unchanged
  intro st sst sst' val _ _ hspec
  rw [spec_integer] at hspec
  split at hspec
  · simp only [Option.some.injEq, Prod.mk.injEq] at hspec
    obtain ⟨rfl, rfl⟩ := hspec
    exact ⟨rfl, rfl, fun hc => absurd rfl (hc _)⟩
  · simp at hspec

theorem cfg_bool (wc : Ctx) (sc : QV.Spec.Sem.Ctx) (ic : ICtx) (wl : QV.Model.Locals) (vars : List QV.Spec.Sem.Var)
    (v : Bool) : WalkOk wc sc ic wl vars (.bool v) := by
  intro s s' op h hl _ ⟨blk, ho⟩
  rw [run_bool] at h
  injection h with h1 h2
  injection h1 with h1
  subst h1 h2
  refine ⟨hl, Walked.of_grows (Grows.refl s.b blk ho), trivial,
    ⟨_, sty_bool sc vars v, Or.inr ⟨.bool, rfl, rfl, rfl⟩⟩, ?_, const_nv _⟩
  apply sim_unchanged
  intro st sst sst' val _ _ hspec
  rw [spec_bool] at hspec
  simp only [Option.some.injEq, Prod.mk.injEq] at hspec
  obtain ⟨rfl, rfl⟩ := hspec
  exact ⟨rfl, rfl, fun hc => absurd rfl (hc _)⟩

theorem spec_ident (c : QV.Spec.Sem.Ctx) (x : String) (s : QV.Spec.Sem.St) :
    QV.Spec.Sem.evalExpr c (.ident x) s =
      (match QV.Spec.Sem.resolveIdent c x s with
       | some (.val v) => some (v, s)
       | _ => none) := by
  rw [QV.Spec.Sem.evalExpr.eq_def]
  -- what is left are two compiled `match`es with the same arms
  simp only
  rfl

/-- a variable in scope: the operand is the variable's local, nothing is emitted -/
theorem cfg_var (wc : Ctx) (sc : QV.Spec.Sem.Ctx) (ic : ICtx) (wl : QV.Model.Locals) (vars : List QV.Spec.Sem.Var)
    (x : String) (n : Nat) (k : DeclKind) (hx : wl.get? x = some (n, k)) : WalkOk wc sc ic wl vars (.ident x) := by
  intro s s' op h hl hvr ⟨blk, ho⟩
  obtain ⟨var, ty, hfind, hty, htnv, hconst, hsty⟩ := hvr.some x n k hx
  obtain ⟨hop, hs⟩ := run_var wc x n k ty s s' op (by rw [hl]; exact hx) hty h
  subst hop
  rw [hs]
  have hn : n < s.b.code.locals.length := lt_length_of_getElem? hty
  refine ⟨hl, Walked.of_grows (Grows.refl s.b blk ho), hn,
    ⟨var.sty, by rw [sty_ident]; simp [QV.Spec.Sem.varTy, hfind], Or.inr ⟨ty, rfl, hconst, hsty⟩⟩, ?_, local_nv htnv⟩
  apply sim_unchanged
  intro st sst sst' val _ hval hspec
  obtain ⟨var', v0, hfind', hv0, hL, hnc0⟩ := hval x n k hx
  rw [spec_ident] at hspec
  simp only [QV.Spec.Sem.resolveIdent, QV.Spec.Sem.St.lookup, hfind', hv0, Option.map_some, Option.some.injEq,
    Prod.mk.injEq] at hspec
  obtain ⟨rfl, rfl⟩ := hspec
  exact ⟨rfl, hL, fun _ => hnc0⟩

/-- the static type of an IR local is never that of an untyped constant -/
theorem styOf_const (ty : TypeKind) : (styOf ty).const = false := by
  cases ty with
  | just n => cases n <;> simp [styOf]
  | pointer n => simp [styOf]
  | list t => cases t <;> simp [styOf] <;> (rename_i n; cases n <;> simp)

theorem cfg_read (wc : Ctx) (sc : QV.Spec.Sem.Ctx) (ic : ICtx) (hag : Agree wc sc ic)
    (wl : QV.Model.Locals) (vars : List QV.Spec.Sem.Var)
    (o p cls : String) (ci : ClassInfo) (pinfo : PropInfo)
    (h1 : wc.objects.find? (·.1 = o) = some (o, cls)) (h2 : wc.env.findClass cls = some ci)
    (h3 : ci.props.find? (·.name = p) = some pinfo) (h5 : pinfo.ty ≠ .void) (hno : wl.get? o = none) :
    WalkOk wc sc ic wl vars (.member (.ident o) p) := by
  intro s s' op h hl hvr ⟨blk, ho⟩
  obtain ⟨hop', hs⟩ := run_read wc o p cls ci pinfo s s' op (by rw [hl]; exact hno) h1 h2 h3 h
  obtain ⟨hop, hg, hloc, hstep⟩ := emit_step (x := op) (b' := s'.b) h5 ho (by rw [hop', hs])
  have hl' : s'.locals = wl := by rw [hs]; exact hl
  clear hop' hs
  obtain ⟨oid, hso, hnamed⟩ := hag.objects o cls h1
  have hname : pinfo.name = p := by simpa using List.find?_some h3
  have hvnone := hvr.none o hno
  refine ⟨hl', Walked.of_grows hg, ?_, ⟨styOf pinfo.ty, ?_, Or.inr ⟨pinfo.ty, by rw [hop]; rfl, ?_, rfl⟩⟩, ?_,
    by rw [hop]; exact local_nv h5⟩
  · rw [hop]; exact OperandOk.fresh hloc
  · rw [sty_member_ident, sty_ident]
    simp [QV.Spec.Sem.varTy, hvnone, hso, hag.props, h2, h3]
  · exact styOf_const pinfo.ty
  · intro C hC st sst sst' val hvars hw hnc _ hspec
    rw [QV.Proofs.SemFold.spec_member_ident] at hspec
    simp only [QV.Spec.Sem.resolveIdent, QV.Spec.Sem.St.lookup, find?_none_of_shape hvars o hvnone, hso,
      QV.Spec.Sem.memberRef, QV.Spec.Sem.memberOf] at hspec
    cases hp : sst.w.prop oid p with
    | none => simp [hp] at hspec
    | some pv =>
      simp only [hp, Option.some.injEq, Prod.mk.injEq] at hspec
      obtain ⟨rfl, rfl⟩ := hspec
      rw [hw] at hp
      have hpv := hnc oid p pv hp
      exact ⟨rfl, 0, _, Nat.zero_le _,
        hstep ic C _ hC st st pv pv (by simp [evalRvalue, evalOperand, hnamed, hname, hp]) (coerceTo_of_not_cint _ _ hpv),
        by rw [hop]; exact upd_same _ _ _, upd_frame (fun _ _ => rfl) (Nat.le_refl _), rfl, rfl, fun _ => hpv⟩

theorem tyrel_const_integer (k : Int) (t : STy) : TyRel (.const (.integer k)) t ↔ (t.const = true ∧ t.ty = .int) := by
  constructor
  · rintro (⟨_, h1, h2⟩ | ⟨k', h, _⟩)
    · exact ⟨h1, h2⟩
    · simp [Operand.typeDesc, ConstantValue.typeDesc] at h
  · rintro ⟨h1, h2⟩
    exact Or.inl ⟨rfl, h1, h2⟩

theorem tyrel_concrete (op : Operand) (k : TypeKind) (t : STy) (h : op.typeDesc = .concrete k) :
    TyRel op t ↔ (t.const = false ∧ t.ty = (styOf k).ty) := by
  constructor
  · rintro (⟨h', _, _⟩ | ⟨k', h', h1, h2⟩)
    · rw [h] at h'; cases h'
    · rw [h] at h'; injection h' with h'; subst h'; exact ⟨h1, h2⟩
  · rintro ⟨h1, h2⟩
    exact Or.inr ⟨k, h, h1, h2⟩

theorem fold_unary_types (F : FloatOps) (b b' : Builder) (u : UnaryOp) (c : ConstantValue) (x : Operand) (t : STy)
    (h : visitUnaryExpression F b u (.const c) = .ok (x, b')) (hok : ConstOk c) (ht : TyRel (.const c) t) : TyRel x t := by
  -- the folded constant is of the argument's type, and `TyRel` reads nothing else of an operand
  cases c with
  | integer k =>
    obtain ⟨-, ⟨-, rfl⟩ | ⟨-, -, rfl⟩ | ⟨-, rfl⟩⟩ := QV.Proofs.SemFold.visitUnary_const h <;> exact ht
  | bool k =>
    obtain ⟨-, -, rfl⟩ := QV.Proofs.SemFold.visitUnary_const h
    exact ht
  | _ => exact absurd hok (by simp [ConstOk])

theorem cfg_unary (wc : Ctx) (sc : QV.Spec.Sem.Ctx) (ic : ICtx) (hag : Agree wc sc ic)
    (wl : QV.Model.Locals) (vars : List QV.Spec.Sem.Var) (tok : UnaryToken) (a : Expr)
    (ih : WalkOk wc sc ic wl vars a) : WalkOk wc sc ic wl vars (.unary tok a) := by
  intro s s' x h hl hvr ho
  obtain ⟨arg, s1, u, b, hw, htok, hv, rfl⟩ := run_unary_some h
  obtain ⟨hl1, hw1, hok1, ⟨t, hsty, hty⟩, hsim1⟩ := ih s s1 arg hw hl hvr ho
  obtain ⟨blk1, ho1⟩ := hw1.exitOpen
  -- a constant is folded, without code: the run is that of the sub-walk.  A local costs one `emit_result` in the exit block of
  -- the sub-walk: a step of no transition (`emit_step`), so the bound `d` stands
  cases arg with
  | const c =>
    obtain ⟨hb, c', hres, hc', hfold⟩ := fold_const_unary wc.F s1.b u c hok1 x b hv
    subst hb; subst hres
    refine ⟨hl1, hw1, hc', ⟨t, by rw [sty_unary]; exact hsty, fold_unary_types wc.F _ _ u c _ t hv hok1 hty⟩, ?_,
      const_nv _⟩
    intro C hC st sst sst' val hvars hw' hnc hval hspec
    obtain ⟨va, hsa, hu⟩ := spec_unary_some htok hspec
    obtain ⟨rfl, d, st1, hd, hrun, hv1, hp1, hw1', ht1, _⟩ := hsim1 C hC st sst sst' va hvars hw' hnc hval hsa
    exact ⟨rfl, d, st1, hd, hrun, hfold ic st1.L va val hv1 (by rw [← hag.float]; exact hu), hp1, hw1', ht1,
      fun hc => absurd rfl (hc _)⟩
  | «local» m ty =>
    have hem : emitUnaryExpression s1.b u (.local m ty) = .ok (x, b) := by
      simpa [visitUnaryExpression] using hv
    obtain ⟨ty', hty', hconc, hshape⟩ := emitUnary_ty s1.b u (.local m ty) x b hem
    have htyeq : ty' = ty := by
      simp [ensureConcreteString, Operand.typeDesc, toConcreteType] at hconc
      exact hconc.symm
    subst htyeq
    obtain ⟨hop, hg2, hloc2, hstep⟩ := emit_step hty' ho1 hshape
    have hw2 : Walked s1.b b := Walked.of_grows hg2
    refine ⟨hl1, hw1.trans hw2, ?_, ⟨t, by rw [sty_unary]; exact hsty, ?_⟩, ?_, by rw [hop]; exact local_nv hty'⟩
    · rw [hop]; exact OperandOk.fresh hloc2
    · -- the new local has the type of the argument's, and `TyRel` reads nothing else of an operand
      rw [hop]
      exact hty
    · intro C hC st sst sst' val hvars hw' hnc hval hspec
      obtain ⟨va, hsa, hu⟩ := spec_unary_some htok hspec
      have hC1 : Covers C s1.b s.b.currentRef := Covers.of_ext hw2.toExt hC hw1.cur_le
      obtain ⟨rfl, d, st1, hd, hrun, hv1, hp1, hw1', ht1, hnc1⟩ := hsim1 C hC1 st sst sst' va hvars hw' hnc hval hsa
      have hva : isCint va = false := hnc1 (by intro c hc; cases hc)
      have hvv : isCint val = false := QV.Proofs.SemFold.unop_not_cint _ u va val hva hu
      have hu' : unop ic.H.F u va = some val := by rw [← hag.host]; exact hu
      exact ⟨rfl, d, _, by rw [hg2.currentRef]; exact hd,
        Reaches.trans (d2 := 0) hrun (hstep ic C _ hC st1 st1 val val
          (by simp [evalRvalue, evalOperand_ensure, hv1, hu']) (coerceTo_of_not_cint _ _ hvv)),
        by rw [hop]; exact upd_same _ _ _, upd_frame hp1 hw1.locals_le, hw1', ht1, fun _ => hvv⟩
  | _ => exact absurd hok1 (by simp [OperandOk])

theorem ensure_ok {n : Nat} {op : Operand} (h : OperandOk n op) : ensureConcreteString op = op := by
  cases op with
  | const c => cases c <;> simp_all [OperandOk, ConstOk, ensureConcreteString]
  | _ => rfl

/-- static type of a binary operator application in the reference semantics -/
def binSTy (op : BinaryOp) (x y : STy) : STy :=
  match op with
  | .logical _ | .cmp _ => QV.Spec.Sem.sBool
  | .shift _ => if x.const && y.const then x else x.concrete
  | _ => x.unify y

theorem sty_binary' (sc : QV.Spec.Sem.Ctx) (vars : List QV.Spec.Sem.Var) (tok : BinaryToken) (op : BinaryOp) (l r : Expr)
    (x y : STy) (htok : tok.toOp = some op) (hl : staticTy sc vars l = some x) (hr : staticTy sc vars r = some y) :
    staticTy sc vars (.binary tok l r) = some (binSTy op x y) := by
  rw [sty_binary, htok, hl, hr]
  cases op with
  | logical o => rfl
  | cmp o => rfl
  | shift o => rfl
  | arith o => rfl
  | bitwise o => rfl

/-- the deduced type of two operands, not both untyped constants, is the type of one of them, and the reference
    semantics' `unify` arrives at the same -/
theorem deduce_tyrel_side (env : Env) (l r : Operand) (x y : STy) (k : TypeKind)
    (h : deduceConcreteType env l.typeDesc r.typeDesc = .ok k) (hx : TyRel l x) (hy : TyRel r y)
    (hdyn : l.typeDesc ≠ .constInteger ∨ r.typeDesc ≠ .constInteger) :
    ((x.unify y).const = false ∧ (x.unify y).ty = (styOf k).ty) ∧
      (l.typeDesc = .concrete k ∨ r.typeDesc = .concrete k) := by
  -- `deduce_type` answers with the entry of the specification's table `common`
  obtain ⟨t, ht, hk⟩ := Option.bind_eq_some_iff.1 ((QV.Proofs.TypingRules.deduceConcreteType_ok_iff env _ _ k).1 h)
  rcases hx with ⟨hlc, hxc, hxt⟩ | ⟨kl, hlk, hxc, hxt⟩
  · rcases hy with ⟨hrc, _, _⟩ | ⟨kr, hrk, hyc, hyt⟩
    · exact hdyn.elim (absurd hlc) (absurd hrc)
    · -- an untyped integer constant beside a concrete type takes that type
      rw [hlc, hrk] at ht
      simp only [QV.Spec.Typing.common] at ht
      split at ht <;> cases ht
      cases hk
      exact ⟨by simp [STy.unify, hxc, hyc, hyt], .inr hrk⟩
  · rcases hy with ⟨hrc, hyc, _⟩ | ⟨kr, hrk, hyc, hyt⟩
    · rw [hlk, hrc] at ht
      simp only [QV.Spec.Typing.common] at ht
      split at ht <;> cases ht
      cases hk
      exact ⟨by simp [STy.unify, hxc, hyc, hxt], .inl hlk⟩
    · -- two concrete types: the same, or two enums, which are one `Ty`
      rw [hlk, hrk] at ht
      obtain ⟨rfl, hcc⟩ := QV.Proofs.TypingRules.common_cc ht
      cases hk
      have hsame : (styOf kr).ty = (styOf k).ty := by
        obtain rfl | ⟨a, b, rfl, rfl⟩ := hcc <;> rfl
      refine ⟨?_, .inl hlk⟩
      simp only [STy.unify, hxc, hyc, Bool.false_and, Bool.false_eq_true, ↓reduceIte]
      split
      · exact ⟨hyc, by rw [hyt, hsame]⟩
      · split
        · exact ⟨hyc, by rw [hyt, hsame]⟩
        · exact ⟨hxc, hxt⟩

theorem tyrel_not_const {op : Operand} {t : STy} (h : TyRel op t) (hd : op.typeDesc ≠ .constInteger) : t.const = false := by
  rcases h with ⟨h1, _, _⟩ | ⟨_, _, h2, _⟩
  · exact absurd h1 hd
  · exact h2

/-- the concrete type of an operand (an untyped integer constant becomes `int`) is the type of the `concrete` form of its
    static type: the type of a declared variable's local, and of the result of a shift -/
theorem tyrel_toConcrete (v : Operand) (t : STy) (ty : TypeKind) (hty : TyRel v t) (htc : toConcreteType v.typeDesc = .ok ty) :
    t.concrete.ty = (styOf ty).ty := by
  rcases hty with ⟨hc, _, ht⟩ | ⟨k, hk, _, ht⟩
  · rw [hc] at htc
    simp only [toConcreteType, Except.ok.injEq] at htc
    subst htc
    simp [STy.concrete, ht]
    rfl
  · rw [hk] at htc
    simp only [toConcreteType, Except.ok.injEq] at htc
    subst htc
    simpa [STy.concrete] using ht

theorem emit_binary_types (env : Env) (op : BinaryOp) (l r : Operand) (n m : Nat) (ty : TypeKind) (x y : STy)
    (hokl : OperandOk n l) (hokr : OperandOk n r) (hx : TyRel l x) (hy : TyRel r y)
    (hdyn : l.typeDesc ≠ .constInteger ∨ r.typeDesc ≠ .constInteger)
    (hfact : BinTyFact env op l r ty) :
    TyRel (.local m ty) (binSTy op x y) := by
  unfold BinTyFact at hfact
  rw [ensure_ok hokl, ensure_ok hokr] at hfact
  rw [tyrel_concrete _ ty _ rfl]
  cases op with
  | logical o => exact absurd hfact (by simp)
  | cmp o => simp only at hfact; subst hfact; exact ⟨rfl, rfl⟩
  | arith o | bitwise o => exact (deduce_tyrel_side env l r x y ty hfact hx hy hdyn).1
  | shift o =>
    simp only at hfact
    have hnb : (x.const && y.const) = false := by
      rcases hdyn with hd | hd
      · rw [tyrel_not_const hx hd, Bool.false_and]
      · rw [tyrel_not_const hy hd, Bool.and_false]
    simp only [binSTy, hnb, Bool.false_eq_true, ↓reduceIte]
    exact ⟨rfl, tyrel_toConcrete l x ty hx hfact⟩

theorem fold_binary_types (F : FloatOps) (env : Env) (b b' : Builder) (op : BinaryOp) (hlog : ∀ lop, op ≠ .logical lop)
    (cl cr : ConstantValue) (res : Operand) (x y : STy)
    (h : visitBinaryExpression F env b op (.const cl) (.const cr) = .ok (res, b'))
    (hokl : ConstOk cl) (hokr : ConstOk cr) (hx : TyRel (.const cl) x) (hy : TyRel (.const cr) y) :
    TyRel res (binSTy op x y) := by
  obtain ⟨-, hs⟩ := QV.Proofs.SemFold.visitBinary_shape hlog hokl.intOrBool hokr.intOrBool h
  cases hs with
  | int a c k hcmp =>
    have hx' := (tyrel_const_integer a x).mp hx
    have hy' := (tyrel_const_integer c y).mp hy
    refine (tyrel_const_integer _ _).mpr ?_
    cases op with
    | logical lop => exact absurd rfl (hlog lop)
    | cmp o => exact absurd rfl (hcmp o)
    | shift o => simp [binSTy, hx'.1, hy'.1, hx'.2]
    | _ => simp [binSTy, STy.unify, hx'.1, hy'.1, hx'.2]
  | intCmp a c o v hop => subst hop; exact (tyrel_concrete _ .bool _ rfl).mpr ⟨rfl, rfl⟩
  | boolBit a c o hop =>
    subst hop
    have hx' := (tyrel_concrete _ .bool x rfl).mp hx
    have hy' := (tyrel_concrete _ .bool y rfl).mp hy
    refine (tyrel_concrete _ .bool _ rfl).mpr ?_
    have hs : (styOf TypeKind.bool).ty = Ty.bool := rfl
    simp only [binSTy, STy.unify, hx'.1, hy'.1, Bool.false_and, Bool.false_eq_true, ↓reduceIte, hx'.2, hs]
    simp [hx'.1, hx'.2, hs]
  | boolCmp a c o hop => subst hop; exact (tyrel_concrete _ .bool _ rfl).mpr ⟨rfl, rfl⟩

theorem not_const_of_local {m : Nat} {ty : TypeKind} : (Operand.local m ty).typeDesc ≠ .constInteger := by
  simp [Operand.typeDesc]

/-- the arm of `cfg_binary` that emits code: the two sub-walks in sequence, then one `emit_result` in the exit block of the
    second.  The left operand is read after the right walk has run: a constant, or a local below those the right walk
    allocates (`evalOperand_agree`).  `hdyn`: one operand is no constant, so the result is typed (`binop_dyn_not_cint`). -/
theorem cfg_binary_emit (wc : Ctx) (sc : QV.Spec.Sem.Ctx) (ic : ICtx) (hag : Agree wc sc ic)
    (wl : QV.Model.Locals) (vars : List QV.Spec.Sem.Var)
    (tok : BinaryToken) (op : BinaryOp) (l r : Expr) (htok : tok.toOp = some op) (hlog : ∀ lop, op ≠ .logical lop)
    (s s1 s2 : WState) (left right x : Operand) (b : Builder) (hvr : VarRel s.b.code.locals wl vars)
    (r1 : CResult sc ic wl vars l s s1 left) (r2 : CResult sc ic wl vars r s1 s2 right)
    (hdyn : (∀ c, left ≠ .const c) ∨ (∀ c, right ≠ .const c))
    (hdynT : left.typeDesc ≠ .constInteger ∨ right.typeDesc ≠ .constInteger)
    (hv : visitBinaryExpression wc.F wc.env s2.b op left right = .ok (x, b)) :
    CResult sc ic wl vars (.binary tok l r) s { s2 with b := b } x := by
  -- nothing is folded: not both operands are constants
  rw [QV.Proofs.TypingConst.visitBinary_dynamic _ _ _ _ _ _ fun ⟨⟨cl, hl⟩, cr, hr⟩ => hdyn.elim (· cl hl) (· cr hr)] at hv
  obtain ⟨_, hw1, hok1, ⟨tx, hstx, htyx⟩, hsim1⟩ := r1
  obtain ⟨hl2, hw2, hok2, ⟨ty, hsty, htyy⟩, hsim2⟩ := r2
  obtain ⟨blk2, ho2⟩ := hw2.exitOpen
  obtain ⟨ty', hty', hshape, hfact⟩ := emitBinary_ty wc.env s2.b op left right x b hlog hv
  obtain ⟨hop, hg3, hloc3, hstep⟩ := emit_step hty' ho2 hshape
  have hw3 : Walked s2.b b := Walked.of_grows hg3
  have hn01 := hw1.locals_le
  have hn12 := hw2.locals_le
  have hok1' : OperandOk s2.b.code.locals.length left := hok1.mono hn12
  refine ⟨hl2, (hw1.trans hw2).trans hw3, ?_, ⟨binSTy op tx ty, sty_binary' sc vars tok op l r tx ty htok hstx hsty, ?_⟩, ?_,
    by rw [hop]; exact local_nv hty'⟩
  · rw [hop]; exact OperandOk.fresh hloc3
  · rw [hop]
    exact emit_binary_types wc.env op left right _ _ ty' tx ty hok1' hok2 htyx htyy hdynT hfact
  · intro C hC st sst sst' val hvars hw' hnc hval hspec
    obtain ⟨va, sa, vb, hsl, hsr, hbin⟩ := spec_binary_some htok hlog hspec
    have hC2 : Covers C s2.b s.b.currentRef := Covers.of_ext hw3.toExt hC (hw1.trans hw2).cur_le
    have hC1 : Covers C s1.b s.b.currentRef := Covers.of_ext hw2.toExt hC2 hw1.cur_le
    obtain ⟨rfl, d1, st1, hd1, hrun1, hv1, hp1, hw1', ht1, hnc1⟩ := hsim1 C hC1 st sst sa va hvars hw' hnc hval hsl
    obtain ⟨rfl, d2, st2, hd2, hrun2, hv2, hp2, hw2', ht2, hnc2⟩ :=
      hsim2 C (hC2.mono hw1.cur_le) st1 sa sst' vb hvars (hw'.trans hw1'.symm) (by rw [hw1']; exact hnc)
        (hval.mono hvr hp1) hsr
    have hv1' : evalOperand ic st2.L left = some va := by
      rw [evalOperand_agree ic st1.L st2.L _ left hok1 hp2]; exact hv1
    have hvv : isCint val = false := by
      refine binop_dyn_not_cint _ op va vb val hbin ?_
      rcases hdyn with hd | hd
      · exact Or.inl (hnc1 hd)
      · exact Or.inr (hnc2 hd)
    have hb' : binop ic.H.F op va vb = some val := by rw [← hag.host]; exact hbin
    refine ⟨rfl, d1 + d2, _, ?_,
      Reaches.trans hrun1 (Reaches.trans (d2 := 0) hrun2 (hstep ic C _ hC st2 st2 val val
        (by simp [evalRvalue, evalOperand_ensure, hv1', hv2, hb']) (coerceTo_of_not_cint _ _ hvv))), ?_,
      upd_frame (frame_trans hp1 hp2 hn01) (Nat.le_trans hn01 hn12), hw2'.trans hw1', ht2.trans ht1, fun _ => hvv⟩
    · show d1 + d2 ≤ b.currentRef - s.b.currentRef
      rw [hg3.currentRef]
      exact fuel_seq hd1 hw1.cur_le hd2 hw2.cur_le
    · rw [hop]; exact upd_same _ _ _

theorem cfg_binary (wc : Ctx) (sc : QV.Spec.Sem.Ctx) (ic : ICtx) (hag : Agree wc sc ic)
    (wl : QV.Model.Locals) (vars : List QV.Spec.Sem.Var)
    (tok : BinaryToken) (op : BinaryOp) (l r : Expr) (htok : tok.toOp = some op) (hlog : ∀ lop, op ≠ .logical lop)
    (ihl : WalkOk wc sc ic wl vars l) (ihr : WalkOk wc sc ic wl vars r) : WalkOk wc sc ic wl vars (.binary tok l r) := by
  intro s s' x h hl hvr ho
  obtain ⟨left, s1, right, s2, b, hw1, hw2, hv, rfl⟩ := run_binary_some htok hlog h
  have r1 := ihl s s1 left hw1 hl hvr ho
  have r2 := ihr s1 s2 right hw2 r1.locals (hvr.mono r1.walked.locals) r1.walked.exitOpen
  cases left with
  | const cl =>
    cases right with
    | const cr =>
      obtain ⟨_, hwk1, hok1, ⟨tx, hstx, htyx⟩, hsim1⟩ := r1
      obtain ⟨hl2, hwk2, hok2, ⟨ty, hsty, htyy⟩, hsim2⟩ := r2
      obtain ⟨hb, c', hres, hc', hfold⟩ := fold_const_binary wc.F wc.env s2.b op hlog cl cr hok1 hok2 x b hv
      subst hb; subst hres
      refine ⟨hl2, hwk1.trans hwk2, hc', ⟨binSTy op tx ty, sty_binary' sc vars tok op l r tx ty htok hstx hsty,
        fold_binary_types wc.F wc.env _ _ op hlog cl cr _ tx ty hv hok1 hok2 htyx htyy⟩, ?_, const_nv _⟩
      intro C hC st sst sst' val hvars hw' hnc hval hspec
      obtain ⟨va, sa, vb, hsl, hsr, hbin⟩ := spec_binary_some htok hlog hspec
      have hC1 : Covers C s1.b s.b.currentRef := Covers.of_ext hwk2.toExt hC hwk1.cur_le
      obtain ⟨rfl, d1, st1, hd1, hrun1, hv1, hp1, hw1', ht1, _⟩ := hsim1 C hC1 st sst sa va hvars hw' hnc hval hsl
      obtain ⟨rfl, d2, st2, hd2, hrun2, hv2, hp2, hw2', ht2, _⟩ :=
        hsim2 C (hC.mono hwk1.cur_le) st1 sa sst' vb hvars (hw'.trans hw1'.symm) (by rw [hw1']; exact hnc)
          (hval.mono hvr hp1) hsr
      have hv1' : evalOperand ic st2.L (.const cl) = some va := by
        rw [evalOperand_agree ic st1.L st2.L _ (.const cl) hok1 hp2]; exact hv1
      exact ⟨rfl, d1 + d2, st2, fuel_seq hd1 hwk1.cur_le hd2 hwk2.cur_le, Reaches.trans hrun1 hrun2,
        hfold ic st2.L va vb val hv1' hv2 (by rw [← hag.float]; exact hbin), frame_trans hp1 hp2 hwk1.locals_le, hw2'.trans hw1',
        ht2.trans ht1, fun hc => absurd rfl (hc _)⟩
    | «local» m ty =>
      exact cfg_binary_emit wc sc ic hag wl vars tok op l r htok hlog s s1 s2 _ _ x b hvr r1 r2
        (Or.inr (by intro c hc; cases hc)) (Or.inr not_const_of_local) hv
    | _ => exact absurd r2.ok (by simp [OperandOk])
  | «local» m ty =>
    exact cfg_binary_emit wc sc ic hag wl vars tok op l r htok hlog s s1 s2 _ _ x b hvr r1 r2
      (Or.inl (by intro c hc; cases hc)) (Or.inl not_const_of_local) hv
  | _ => exact absurd r1.ok (by simp [OperandOk])

end QV.Proofs.SemCfgWalk
