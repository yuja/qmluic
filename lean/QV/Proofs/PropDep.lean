/-
  The model of tir/propdep.rs (`analyzeBlock`, `analyzePropertyDependency`) produces covered code whenever it starts
  from a body without observe statements, reports no diagnostic and does not panic (`fold_pdStep_spec`).  The two
  passes of the Rust code (scan, then insert the observe statements at the recorded lines in reverse) are shown
  equal to a one-pass `annotate`, about which the facts are proved by induction.
-/
import QV.Model.Finalize
import QV.Model.Observe

namespace QV.Proofs.PropDep
open QV.Model QV.Model.Observe

/-- what `analyze_block` does at one statement -/
inductive Decision where
  | nothing | dep (n : String) (sig : MethodInfo) | observe (x : Nat) (sig : MethodInfo) | diag (m : String)
  | panic (m : String)

/-- the arm for `ReadProperty(a, p)`; `locals`: the named object each local holds, if known -/
def readDecision (locals : List (Option String)) (a : Operand) (p : PropInfo) : Decision :=
  if a.typeDesc.isPointer && !p.constant then
    match p.notify with
    | some (some signal) =>
      (match a with
       | .namedObject x _ => .dep x signal
       | .local x _ => (match locals.getD x none with | some n => .dep n signal | none => .observe x signal)
       | _ => .panic "invald read_property")  -- sic (propdep.rs)
    | none => .diag s!"unobservable property: {p.name}"
    | some none => .diag "type resolution failed"
  else .nothing

def decision (locals : List (Option String)) : Statement → Decision
  | .assign _ (.readProperty a p) | .exec (.readProperty a p) => readDecision locals a p
  | _ => .nothing

/-- the table after the statement ("track object reference") -/
def nextLocals (locals : List (Option String)) : Statement → List (Option String)
  | .assign l r => locals.set l (trackCopy locals r)
  | _ => locals

/-- the decision as the scan records it: (to observe, static deps, diagnostics, panic) -/
def Decision.out (line : Nat) : Decision →
    List (Nat × Nat × MethodInfo) × List (String × MethodInfo) × List String × Option String
  | .nothing => ([], [], [], none)
  | .dep n sig => ([], [(n, sig)], [], none)
  | .observe x sig => ([(line, x, sig)], [], [], none)
  | .diag m => ([], [], [m], none)
  | .panic m => ([], [], [], some m)

theorem scan_cons (locals : List (Option String)) (line : Nat) (stmt : Statement) (rest : List Statement) :
    analyzeBlock.scan locals line (stmt :: rest) =
      let here := (decision locals stmt).out line
      let r := analyzeBlock.scan (nextLocals locals stmt) (line + 1) rest
      (here.1 ++ r.1, here.2.1 ++ r.2.1, here.2.2.1 ++ r.2.2.1, here.2.2.2.or r.2.2.2) := by
  -- one function of the record and the table on both sides; unfolding the scan would copy the record four times
  refine congr (congrArg (fun (here : List _ × List _ × List _ × Option _) locals' =>
    let r := analyzeBlock.scan locals' (line + 1) rest
    (here.1 ++ r.1, here.2.1 ++ r.2.1, here.2.2.1 ++ r.2.2.1, here.2.2.2.or r.2.2.2)) ?here) ?next
  case next =>
    cases stmt with
    | assign l r =>
      cases r with
      | copy a => cases a <;> rfl
      | _ => rfl
    | _ => rfl
  case here =>
    cases stmt with
    | observeProperty h l s => rfl
    | exec r | assign l r =>
      cases r with
      | readProperty a p =>
        simp only [decision, readDecision]
        cases a.typeDesc.isPointer && !p.constant
        · rfl
        · rcases p.notify with _ | _ | sig
          · rfl
          · rfl
          · cases a with
            | «local» x t => dsimp only; cases locals.getD x none <;> rfl
            | _ => rfl
      | _ => rfl

theorem scan_nil (locals : List (Option String)) (line : Nat) :
    analyzeBlock.scan locals line [] = ([], [], [], none) := rfl

theorem Decision.observe_or (d : Decision) : (∃ x sig, d = .observe x sig) ∨ ∀ x sig, d ≠ .observe x sig := by
  cases d with
  | observe x sig => exact Or.inl ⟨x, sig, rfl⟩
  | _ => exact Or.inr fun _ _ h => Decision.noConfusion h

theorem out_fst_nil {d : Decision} (h : ∀ x sig, d ≠ .observe x sig) (line : Nat) : (d.out line).1 = [] := by
  cases d with
  | observe x sig => exact absurd rfl (h x sig)
  | _ => rfl

theorem scan_lines (stmts : List Statement) : ∀ (locals : List (Option String)) (line : Nat),
    ∀ e ∈ (analyzeBlock.scan locals line stmts).1, line ≤ e.1 := by
  induction stmts with
  | nil => simp [scan_nil]
  | cons stmt rest ih =>
    intro locals line e he
    rw [scan_cons] at he
    rcases List.mem_append.mp he with he | he
    · -- only an `observe` decision records a line, and it is `line`
      cases hd : decision locals stmt <;> simp [hd, Decision.out] at he
      subst he
      exact Nat.le_refl _
    · exact Nat.le_of_succ_le (ih _ _ e he)

/-- `statements.insert(line, ObserveProperty(h, obj, signal))` of pass 2, relative to a base line -/
def insOne (start line : Nat) (e : (Nat × Nat × MethodInfo) × Nat) (acc : List Statement) : List Statement :=
  acc.take (e.1.1 - line) ++ [Statement.observeProperty (start + e.2) e.1.2.1 e.1.2.2] ++ acc.drop (e.1.1 - line)

theorem foldr_ins_cons (start line : Nat) (s : Statement) (xs : List Statement) (o : List (Nat × Nat × MethodInfo)) :
    ∀ (k : Nat), (∀ e ∈ o, line + 1 ≤ e.1) →
      (o.zipIdx k).foldr (insOne start line) (s :: xs) = s :: (o.zipIdx k).foldr (insOne start (line + 1)) xs := by
  induction o with
  | nil => exact fun _ _ => rfl
  | cons e o ih =>
    intro k h
    rw [List.zipIdx_cons, List.foldr_cons, List.foldr_cons, ih (k + 1) (fun x hx => h x (List.mem_cons_of_mem _ hx))]
    have he : line + 1 ≤ e.1 := h e List.mem_cons_self
    have : e.1 - line = (e.1 - (line + 1)) + 1 := by omega
    simp only [insOne, this, List.take_succ_cons, List.drop_succ_cons, List.cons_append]

/-- scan and insertion in one pass; `start` = `observerStart`, `k` = observers allocated so far in this block -/
def annotate (start : Nat) : List (Option String) → Nat → List Statement → List Statement
  | _, _, [] => []
  | locals, k, stmt :: rest =>
    match decision locals stmt with
    | .observe x sig =>
      .observeProperty (start + k) x sig :: stmt :: annotate start (nextLocals locals stmt) (k + 1) rest
    | _ => stmt :: annotate start (nextLocals locals stmt) k rest

theorem annotate_observe {locals : List (Option String)} {stmt : Statement} {x : Nat} {sig : MethodInfo}
    (h : decision locals stmt = .observe x sig) (start k : Nat) (rest : List Statement) :
    annotate start locals k (stmt :: rest) =
      .observeProperty (start + k) x sig :: stmt :: annotate start (nextLocals locals stmt) (k + 1) rest := by
  simp only [annotate, h]

theorem annotate_other {locals : List (Option String)} {stmt : Statement}
    (h : ∀ x sig, decision locals stmt ≠ .observe x sig) (start k : Nat) (rest : List Statement) :
    annotate start locals k (stmt :: rest) = stmt :: annotate start (nextLocals locals stmt) k rest := by
  rw [annotate]
  split
  · exact absurd ‹_› (h _ _)
  · rfl

theorem insert_eq_annotate (start : Nat) (stmts : List Statement) : ∀ (locals : List (Option String)) (line k : Nat),
    ((analyzeBlock.scan locals line stmts).1.zipIdx k).foldr (insOne start line) stmts = annotate start locals k stmts := by
  induction stmts with
  | nil => exact fun _ _ _ => rfl
  | cons stmt rest ih =>
    intro locals line k
    rw [scan_cons]
    have hl := scan_lines rest (nextLocals locals stmt) (line + 1)
    rcases (decision locals stmt).observe_or with ⟨x, sig, hd⟩ | hd
    · simp only [hd, Decision.out, List.cons_append, List.nil_append, List.zipIdx_cons, List.foldr_cons]
      rw [foldr_ins_cons start line stmt rest _ (k + 1) hl, ih, annotate_observe hd]
      simp [insOne]
    · simp only [out_fst_nil hd, List.nil_append]
      rw [foldr_ins_cons start line stmt rest _ k hl, ih, annotate_other hd]

theorem analyzeBlock_eq (stmts : List Statement) (n start : Nat) :
    analyzeBlock stmts n start =
      let r := analyzeBlock.scan (List.replicate n none) 0 stmts
      (annotate start (List.replicate n none) 0 stmts, r.2.1, r.2.2.1, start + r.1.length, r.2.2.2) := by
  have hw := insert_eq_annotate start stmts (List.replicate n none) 0 0
  have hf : (fun (x : (Nat × Nat × MethodInfo) × Nat) (acc : List Statement) =>
      match x with
      | ((line, obj, signal), k) =>
        acc.take line ++ [Statement.observeProperty (start + k) obj signal] ++ acc.drop line) = insOne start 0 := by
    funext ⟨⟨line, obj, sig⟩, k⟩ acc
    rfl
  simp only [analyzeBlock]
  rw [hf, hw]

def stmtReadOk (deps : List (String × MethodInfo)) (known : List (Option String)) (obsd : List (Nat × MethodInfo)) :
    Statement → Bool
  | .assign _ r | .exec r => readOk deps known obsd r
  | _ => true

theorem readDecision_readOk (deps : List (String × MethodInfo)) (known : List (Option String))
    (obsd : List (Nat × MethodInfo)) (a : Operand) (p : PropInfo) :
    match readDecision known a p with
    | .nothing => readOk deps known obsd (.readProperty a p) = true
    | .dep n sig => (n, sig) ∈ deps → readOk deps known obsd (.readProperty a p) = true
    | .observe x sig => readOk deps known ((x, sig) :: obsd) (.readProperty a p) = true
    | _ => True := by
  simp only [readDecision, readOk]
  cases a.typeDesc.isPointer && !p.constant
  · rfl
  · rcases p.notify with _ | _ | sig
    · trivial
    · trivial
    · cases a with
      | namedObject x cls => exact decide_eq_true
      | «local» x ty =>
        dsimp only
        cases known.getD x none with
        | none => simp
        | some n => exact fun h => by simp [h]
      | _ => trivial

theorem decision_readOk (deps : List (String × MethodInfo)) (known : List (Option String))
    (obsd : List (Nat × MethodInfo)) (stmt : Statement) :
    match decision known stmt with
    | .nothing => stmtReadOk deps known obsd stmt = true
    | .dep n sig => (n, sig) ∈ deps → stmtReadOk deps known obsd stmt = true
    | .observe x sig => stmtReadOk deps known ((x, sig) :: obsd) stmt = true
    | _ => True := by
  cases stmt with
  | observeProperty h l s => exact rfl
  | exec r | assign l r =>
    cases r with
    | readProperty a p => exact readDecision_readOk deps known obsd a p
    | _ => exact rfl

theorem coveredStmts_cons (deps : List (String × MethodInfo)) (known : List (Option String))
    (obsd : List (Nat × MethodInfo)) (stmt : Statement) (rest : List Statement)
    (h1 : stmtReadOk deps known obsd stmt = true)
    (h2 : ∀ obsd', coveredStmts deps (nextLocals known stmt) obsd' rest = true) :
    coveredStmts deps known obsd (stmt :: rest) = true := by
  cases stmt with
  | observeProperty h l s => exact h2 _
  | exec r | assign l r => exact Bool.and_eq_true _ _ ▸ ⟨h1, h2 _⟩

theorem annotate_covered (deps : List (String × MethodInfo)) (start : Nat) (stmts : List Statement) :
    ∀ (locals : List (Option String)) (line k : Nat) (obsd : List (Nat × MethodInfo)),
      (analyzeBlock.scan locals line stmts).2.2.1 = [] → (analyzeBlock.scan locals line stmts).2.2.2 = none →
      (∀ e ∈ (analyzeBlock.scan locals line stmts).2.1, e ∈ deps) →
      coveredStmts deps locals obsd (annotate start locals k stmts) = true := by
  induction stmts with
  | nil => intros; rfl
  | cons stmt rest ih =>
    intro locals line k obsd hg hp hd
    rw [scan_cons] at hg hp hd
    simp only [List.append_eq_nil_iff, Option.or_eq_none_iff] at hg hp
    have ih := fun k obsd' => ih (nextLocals locals stmt) (line + 1) k obsd' hg.2 hp.2
      (fun e he => hd e (List.mem_append_right _ he))
    have hdec := decision_readOk deps locals obsd stmt
    cases hdc : decision locals stmt with
    | nothing =>
      rw [hdc] at hdec
      rw [annotate_other (by simp [hdc])]
      exact coveredStmts_cons deps locals obsd stmt _ hdec (ih k)
    | dep n sig =>
      rw [hdc] at hdec
      have : (n, sig) ∈ deps := hd _ (by simp [hdc, Decision.out])
      rw [annotate_other (by simp [hdc])]
      exact coveredStmts_cons deps locals obsd stmt _ (hdec this) (ih k)
    | observe x sig =>
      rw [hdc] at hdec
      rw [annotate_observe hdc, coveredStmts]
      exact coveredStmts_cons deps locals _ stmt _ hdec (ih (k + 1))
    | diag m => simp [hdc, Decision.out] at hg
    | panic m => simp [hdc, Decision.out] at hp

theorem annotate_obs (start : Nat) (stmts : List Statement) : ∀ (locals : List (Option String)) (line k : Nat),
    (∀ s ∈ stmts, stmtObs s = []) →
    ((annotate start locals k stmts).flatMap stmtObs).map (·.1) =
      List.range' (start + k) (analyzeBlock.scan locals line stmts).1.length := by
  induction stmts with
  | nil => exact fun _ _ _ _ => rfl
  | cons stmt rest ih =>
    intro locals line k hno
    rw [scan_cons]
    have hs : stmtObs stmt = [] := hno stmt List.mem_cons_self
    have ih := fun k => ih (nextLocals locals stmt) (line + 1) k (fun s hs => hno s (List.mem_cons_of_mem _ hs))
    rcases (decision locals stmt).observe_or with ⟨x, sig, hd⟩ | hd
    · have e2 : stmtObs (.observeProperty (start + k) x sig) = [(start + k, sig)] := rfl
      rw [annotate_observe hd]
      simp only [List.flatMap_cons, hs, e2, List.nil_append, List.map_cons, ih (k + 1),
        hd, Decision.out, List.cons_append, List.length_cons, List.range'_succ, Nat.add_assoc]
    · rw [annotate_other hd]
      simp only [List.flatMap_cons, hs, List.nil_append, ih k, out_fst_nil hd]

theorem readDecision_unobservable {a : Operand} {p : PropInfo} (hptr : a.typeDesc.isPointer = true)
    (hconst : p.constant = false) (hnotify : p.notify = none) (locals : List (Option String)) :
    readDecision locals a p = .diag s!"unobservable property: {p.name}" := by
  simp [readDecision, hptr, hconst, hnotify]

theorem scan_diag (stmts : List Statement) : ∀ (locals : List (Option String)) (line : Nat) (s : Statement) (m : String),
    s ∈ stmts → (∀ locals', decision locals' s = .diag m) → m ∈ (analyzeBlock.scan locals line stmts).2.2.1 := by
  induction stmts with
  | nil => exact fun _ _ _ _ h => absurd h List.not_mem_nil
  | cons stmt rest ih =>
    intro locals line s m h hd
    rw [scan_cons]
    rcases List.mem_cons.mp h with rfl | h
    · exact List.mem_append_left _ (by simp [hd locals, Decision.out])
    · exact List.mem_append_right _ (ih _ _ s m h hd)

/-- (blocks, static deps, diagnostics, observer count, panic) -/
abbrev Acc := List BasicBlock × List (String × MethodInfo) × List String × Nat × Option String

/-- the local `step` of `analyzePropertyDependency`, for a body with `n` locals -/
def pdStep (n : Nat) (acc : Acc) (b : BasicBlock) : Acc :=
  let r := analyzeBlock b.statements n acc.2.2.2.1
  (acc.1 ++ [{ b with statements := r.1 }], acc.2.1 ++ r.2.1, acc.2.2.1 ++ r.2.2.1, r.2.2.2.1, acc.2.2.2.2.or r.2.2.2.2)

theorem pdStep_eq (n : Nat) (acc : Acc) (b : BasicBlock) :
    pdStep n acc b =
      let r := analyzeBlock.scan (List.replicate n none) 0 b.statements
      (acc.1 ++ [{ b with statements := annotate acc.2.2.2.1 (List.replicate n none) 0 b.statements }],
        acc.2.1 ++ r.2.1, acc.2.2.1 ++ r.2.2.1, acc.2.2.2.1 + r.1.length, acc.2.2.2.2.or r.2.2.2) := by
  simp only [pdStep, analyzeBlock_eq]

theorem apd_eq (code : CodeBody) :
    analyzePropertyDependency code =
      let r := code.blocks.foldl (pdStep code.locals.length) ([], code.staticDeps, [], code.observerCount, none)
      ({ code with blocks := r.1, staticDeps := r.2.1, observerCount := r.2.2.2.1 }, r.2.2.1, r.2.2.2.2) := rfl

end QV.Proofs.PropDep

namespace QV.Proofs.PropDepShape
open QV.Model QV.Proofs.PropDep

/-- `b'` is `b` with observe statements inserted by `annotate` -/
def AnnRel (n : Nat) (b b' : BasicBlock) : Prop :=
  ∃ k, b' = { b with statements := annotate k (List.replicate n none) 0 b.statements }

def BlocksRel (n : Nat) (bs B : List BasicBlock) : Prop :=
  B.length = bs.length ∧ ∀ (i : Nat) (b' : BasicBlock), B[i]? = some b' → ∃ b, bs[i]? = some b ∧ AnnRel n b b'

end QV.Proofs.PropDepShape

namespace QV.Proofs.PropDep
open QV.Model QV.Model.Observe QV.Proofs.PropDepShape

/-- what the fold adds to its accumulator (`B D G N P` as in `Acc`): coverage, observer handles, diagnostics, and the
    blocks it was given with observe statements inserted -/
theorem fold_pdStep_spec (n : Nat) (bs : List BasicBlock) : ∀ (B0 : List BasicBlock) (D0 : List (String × MethodInfo))
    (G0 : List String) (o0 : Nat) (P0 : Option String),
    ∃ B D G N P, bs.foldl (pdStep n) (B0, D0, G0, o0, P0) = (B0 ++ B, D0 ++ D, G0 ++ G, o0 + N, P0.or P) ∧
      (G = [] → P = none → ∀ deps, (∀ e ∈ D, e ∈ deps) →
        ∀ b ∈ B, coveredStmts deps (List.replicate n none) [] b.statements = true) ∧
      ((∀ b ∈ bs, ∀ s ∈ b.statements, stmtObs s = []) → (B.flatMap blockObs).map (·.1) = List.range' o0 N) ∧
      (∀ b ∈ bs, ∀ m ∈ (analyzeBlock.scan (List.replicate n none) 0 b.statements).2.2.1, m ∈ G) ∧
      BlocksRel n bs B := by
  induction bs with
  | nil => exact fun B0 D0 G0 o0 P0 => ⟨[], [], [], 0, none, by simp, by simp, by simp, by simp, by simp [BlocksRel]⟩
  | cons b bs ih =>
    intro B0 D0 G0 o0 P0
    let r := analyzeBlock.scan (List.replicate n none) 0 b.statements  -- (to observe, deps, diagnostics, panic)
    let b' : BasicBlock := { b with statements := annotate o0 (List.replicate n none) 0 b.statements }
    obtain ⟨B, D, G, N, P, he, f1, f2, f3, f4⟩ :=
      ih (B0 ++ [b']) (D0 ++ r.2.1) (G0 ++ r.2.2.1) (o0 + r.1.length) (P0.or r.2.2.2)
    refine ⟨b' :: B, r.2.1 ++ D, r.2.2.1 ++ G, r.1.length + N, r.2.2.2.or P, ?_, ?_, ?_, ?_, ?_⟩
    · rw [List.foldl_cons, pdStep_eq]
      exact he.trans (by simp only [List.append_assoc, List.singleton_append, Nat.add_assoc, Option.or_assoc])
    · intro hG hP deps hD x hx
      simp only [List.append_eq_nil_iff] at hG
      have hP' : r.2.2.2 = none ∧ P = none := by simpa [Option.or_eq_none_iff] using hP
      rcases List.mem_cons.mp hx with e | hx
      · subst e
        exact annotate_covered deps o0 b.statements _ 0 0 [] hG.1 hP'.1 (fun e he => hD e (List.mem_append_left _ he))
      · exact f1 hG.2 hP'.2 deps (fun e he => hD e (List.mem_append_right _ he)) x hx
    · intro hno
      have h1 := annotate_obs o0 b.statements (List.replicate n none) 0 0 (hno b List.mem_cons_self)
      have h2 := f2 (fun x hx => hno x (List.mem_cons_of_mem _ hx))
      rw [List.flatMap_cons, List.map_append, h2]
      show ((annotate o0 (List.replicate n none) 0 b.statements).flatMap stmtObs).map (·.1) ++ _ = _
      rw [h1, Nat.add_zero, List.range'_append_1]
    · intro x hx m hm
      rcases List.mem_cons.mp hx with e | hx
      · subst e; exact List.mem_append_left _ hm
      · exact List.mem_append_right _ (f3 x hx m hm)
    · refine ⟨congrArg (· + 1) f4.1, fun i b'' hi => ?_⟩
      cases i with
      | zero => exact ⟨b, rfl, o0, (Option.some.inj hi).symm⟩
      | succ i => exact f4.2 i b'' hi

end QV.Proofs.PropDep
