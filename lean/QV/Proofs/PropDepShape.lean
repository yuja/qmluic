/-
  tir/propdep.rs (`analyzePropertyDependency`, QV.Model.Finalize) and the C06 conclusion: the pass keeps every block's
  terminator, inserts only `observeProperty` statements, each one directly before a statement that reads the observed
  local itself — so jump targets, terminators and define-before-use (including the reads of the inserted statements)
  carry over from the body it is given, on every path.  For EVERY body; no assumption on where it comes from.
  Then, in namespace `QV.Proofs.BuilderInv`, the pass on a body whose statements are those the builder emits (`GoodSt`,
  BuilderVisit; `build_statements_good`, BuilderStatements): it never reaches its `panic!("invald read_property")`.
-/
import QV.Proofs.PropDep
import QV.Proofs.Cfg
import QV.Proofs.BuilderVisit

namespace QV.Proofs.PropDepShape
open QV.Model QV.Model.Cfg QV.Model.Observe QV.Proofs.PropDep QV.Proofs.Cfg

/-- the local an inserted observe statement reads is read by the statement it is inserted before -/
theorem decision_observe_reads {L : List (Option String)} {s : Statement} {x : Nat} {sig : MethodInfo}
    (h : decision L s = .observe x sig) : x ∈ stmtReads s := by
  have key : ∀ a p, readDecision L a p = .observe x sig → x ∈ operandReads a := by
    intro a p hd
    unfold readDecision at hd
    split at hd
    · split at hd
      · split at hd  -- on `a`; only a local that holds no known object is observed
        · cases hd
        · split at hd
          · cases hd
          · injection hd with h1 h2
            subst h1
            simp [operandReads]
        · cases hd
      · cases hd  -- no notify signal
      · cases hd
    · cases hd  -- not a pointer, or constant
  cases s with
  | observeProperty hh l m => simp [decision] at h
  | exec r | assign _ r =>
    cases r with
    | readProperty a p =>
      simp only [stmtReads, rvalueReads]
      exact key _ _ h
    | _ => cases h

theorem defsOf_cons (s : Statement) (l : List Statement) : defsOf (s :: l) = stmtDef s ++ defsOf l := List.flatMap_cons

theorem defsOf_annotate (start : Nat) : ∀ (stmts : List Statement) (L : List (Option String)) (k : Nat),
    defsOf (annotate start L k stmts) = defsOf stmts
  | [], L, k => by simp [annotate]
  | stmt :: rest, L, k => by
    -- whatever the decision, the statements inserted are observe statements, which define nothing
    cases hd : decision L stmt
    all_goals
      simp only [annotate, hd, defsOf_cons, stmtDef, List.nil_append]
      rw [defsOf_annotate]

theorem covR_annotate {U : Nat → Prop} (start : Nat) : ∀ (stmts : List Statement) (L : List (Option String)) (k : Nat) (A : List Nat),
    CovR U stmts A → CovR U (annotate start L k stmts) A
  | [], L, k, A, h => by simp [annotate, CovR]
  | stmt :: rest, L, k, A, h => by
    cases hd : decision L stmt with
    | observe x sig =>
      simp only [annotate, hd]
      refine ⟨fun y hy hu => ?_, h.1, covR_annotate start rest _ _ _ h.2⟩
      simp [stmtReads] at hy
      subst hy
      exact h.1 y (decision_observe_reads hd) hu
    | nothing | dep | diag | panic => simp only [annotate, hd]; exact ⟨h.1, covR_annotate start rest _ _ _ h.2⟩

theorem analyze_blocks (code : CodeBody) :
    BlocksRel code.locals.length code.blocks (analyzePropertyDependency code).1.blocks ∧
      (analyzePropertyDependency code).1.parameterCount = code.parameterCount := by
  rw [apd_eq]
  obtain ⟨B, _, _, _, _, he, _, _, _, hr⟩ :=
    fold_pdStep_spec code.locals.length code.blocks [] code.staticDeps [] code.observerCount none
  simp only [he, List.nil_append]
  exact ⟨hr, trivial⟩

theorem BlocksRel.back {n : Nat} {bs B : List BasicBlock} (h : BlocksRel n bs B) {i : Nat} {b : BasicBlock} (hb : bs[i]? = some b) :
    ∃ b', B[i]? = some b' ∧ AnnRel n b b' := by
  have hi : i < bs.length := (List.getElem?_eq_some_iff.1 hb).1
  have hi' : i < B.length := by rw [h.1]; exact hi
  obtain ⟨b0, hb0, hr⟩ := h.2 i _ (List.getElem?_eq_getElem hi')
  rw [hb] at hb0
  cases hb0
  exact ⟨_, List.getElem?_eq_getElem hi', hr⟩

theorem AnnRel.term {n : Nat} {b b' : BasicBlock} (h : AnnRel n b b') : b'.terminator = b.terminator := by
  obtain ⟨k, rfl⟩ := h; rfl

theorem AnnRel.defs {n : Nat} {b b' : BasicBlock} (h : AnnRel n b b') : defsOf b'.statements = defsOf b.statements := by
  obtain ⟨k, rfl⟩ := h; exact defsOf_annotate _ _ _ _

theorem reaches_back (code : CodeBody) : ∀ {i : Nat} {A : List Nat},
    Reaches (analyzePropertyDependency code).1 i A → Reaches code i A := by
  obtain ⟨hrel, hnp⟩ := analyze_blocks code
  intro i A hr
  induction hr with
  | entry => rw [hnp]; exact .entry
  | @step i j A b' _ hb hj ih =>
    obtain ⟨b, hb0, hann⟩ := hrel.2 i b' hb
    rw [hann.defs]
    exact .step ih hb0 (by rw [← hann.term]; exact hj)

/-- the whole conclusion of `checkCfg_sound` (QV.Props.C06), with the reads of the locals in `U` exempt -/
def SemOk (U : Nat → Prop) (c : CodeBody) : Prop :=
  ∀ (i : Nat) (A : List Nat), Reaches c i A →
    ∃ (b : BasicBlock) (t : Terminator), c.blocks[i]? = some b ∧ b.terminator = some t ∧
      t ≠ Terminator.unreachable ∧
      (∀ j ∈ successors b.terminator, j < c.blocks.length) ∧
      (∀ (k : Nat) (s : Statement), b.statements[k]? = some s →
        ∀ x ∈ stmtReads s, ¬ U x → x ∈ defsOf (b.statements.take k) ++ A) ∧
      (∀ x ∈ termReads t, ¬ U x → x ∈ defsOf b.statements ++ A)

/-- **the pass preserves the C06 conclusion**, for every body and every path — in particular every inserted
    observe statement reads a local that is assigned on every path to it -/
theorem analyze_keeps_semOk (U : Nat → Prop) (code : CodeBody) (h : SemOk U code) :
    SemOk U (analyzePropertyDependency code).1 := by
  obtain ⟨hrel, hnp⟩ := analyze_blocks code
  intro i A hr
  obtain ⟨b, t, hb, ht, hne, htg, hst, htr⟩ := h i A (reaches_back code hr)
  obtain ⟨b', hb', hann⟩ := hrel.back hb
  refine ⟨b', t, hb', by rw [hann.term]; exact ht, hne, ?_, ?_, ?_⟩
  · rw [hann.term, hrel.1]; exact htg
  · obtain ⟨k0, rfl⟩ := hann
    exact indexed_of_covR _ A (covR_annotate k0 _ _ _ A (covR_of_indexed _ A hst))
  · rw [hann.defs]; exact htr

end QV.Proofs.PropDepShape

namespace QV.Proofs.BuilderInv
open QV.Model QV.Model.Cfg QV.Proofs.PropDep QV.Model.Observe

theorem ptr_shape {a : Operand} (hn : NotNull a) (hp : a.typeDesc.isPointer = true) :
    (∃ x c, a = .namedObject x c) ∨ (∃ x t, a = .local x t) := by
  cases a with
  | const v =>
    cases v with
    | nullPointer => exact absurd rfl hn
    | _ => exact absurd hp (by intro h; cases h)
  | enumVariant e v => exact absurd hp (by simp [Operand.typeDesc, TypeDesc.isPointer, TypeKind.isPointer])
  | «local» x t => exact Or.inr ⟨x, t, rfl⟩
  | namedObject x c => exact Or.inl ⟨x, c, rfl⟩
  | void => exact absurd hp (by decide)

theorem readDecision_no_panic (L : List (Option String)) {a : Operand} (p : PropInfo) (hn : NotNull a) (m : String) :
    readDecision L a p ≠ .panic m := by
  unfold readDecision
  split
  · rename_i hc
    simp only [Bool.and_eq_true] at hc
    rcases ptr_shape hn hc.1 with ⟨x, c, rfl⟩ | ⟨x, t, rfl⟩
    · split <;> simp
    · split
      · simp only
        split <;> simp
      · simp
      · simp
  · simp

theorem decision_no_panic (L : List (Option String)) {s : Statement} (hg : GoodSt s) (m : String) : decision L s ≠ .panic m := by
  cases s with
  | observeProperty h l sig => exact absurd hg (by simp [GoodSt])
  | exec r | assign _ r =>
    cases r with
    | readProperty a p => exact readDecision_no_panic L _ hg m
    | _ =>
      simp only [decision]
      intro hx
      cases hx

theorem scan_no_panic : ∀ (stmts : List Statement) (L : List (Option String)) (line : Nat), (∀ s ∈ stmts, GoodSt s) →
    (analyzeBlock.scan L line stmts).2.2.2 = none
  | [], L, line, _ => by simp [scan_nil]
  | stmt :: rest, L, line, hg => by
    rw [scan_cons]
    have ih := scan_no_panic rest (nextLocals L stmt) (line + 1) (fun s hs => hg s (List.mem_cons_of_mem _ hs))
    have hd := decision_no_panic L (hg stmt List.mem_cons_self)
    simp only [ih]
    cases hdc : decision L stmt with
    | panic m => exact absurd hdc (hd m)
    | _ => simp [Decision.out]

theorem fold_no_panic (n : Nat) : ∀ (bs : List BasicBlock) (acc : Acc), (∀ b ∈ bs, ∀ s ∈ b.statements, GoodSt s) →
    (bs.foldl (pdStep n) acc).2.2.2.2 = acc.2.2.2.2
  | [], acc, _ => rfl
  | b :: bs, acc, hg => by
    rw [List.foldl_cons, fold_no_panic n bs _ (fun x hx => hg x (List.mem_cons_of_mem _ hx))]
    rw [pdStep_eq]
    simp only
    rw [scan_no_panic _ _ _ (hg b List.mem_cons_self)]
    simp

theorem analyze_no_panic (code : CodeBody) (hg : ∀ b ∈ code.blocks, ∀ s ∈ b.statements, GoodSt s) :
    (analyzePropertyDependency code).2.2 = none := by
  rw [apd_eq]
  simp only
  rw [fold_no_panic _ _ _ hg]

theorem goodSt_noObs {s : Statement} (hg : GoodSt s) : stmtObs s = [] := by
  cases s with
  | observeProperty h l sig => exact absurd hg (by simp [GoodSt])
  | exec | assign => rfl

end QV.Proofs.BuilderInv
