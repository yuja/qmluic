/-
  For C14: what the modes share; the diagnostic classes of the C++ pass (`cxxAll_diags`) and of the reject pass
  (`rejectAll_diags`); when the reject pass is silent.
  For C20: a per-object invariance lifted through `place` (`place_obs_congr`), the form lemmas that follow from it
  (`₂`: two edits compared), and the edits that plant a fault.
-/
import QV.Proofs.Passes

namespace QV.Proofs.Passes
open QV.Model.Passes

/-- the state the form is computed from is fixed before the mode switch -/
theorem run_state (m : Mode) (doc : Forest) :
    (run m doc).objects = (run .omit doc).objects ∧ (run m doc).built = (run .omit doc).built ∧
      (run m doc).panic = (run .omit doc).panic := by
  cases h : valid doc
  · rw [(run_invalid m doc h).1]
    exact ⟨rfl, rfl, rfl⟩
  · rw [run_valid m doc h, run_valid .omit doc h]
    exact ⟨rfl, rfl, rfl⟩

/-- preview mode builds the support code for its diagnostics and discards it: the diagnostics are those of
    generate mode, in the same order -/
theorem run_omit_diags (doc : Forest) : (run .omit doc).diags = (run .generate doc).diags := by
  cases h : valid doc
  · rw [(run_invalid .generate doc h).1]
  · rw [run_valid .generate doc h, run_valid .omit doc h]

theorem cxxEntry_quiet_iff (e : EntryOut) :
    ((cxxEntry e).bindings = [] ∧ (cxxEntry e).diags = []) ↔ e.evalConst = true := by
  constructor
  · intro ⟨hb, hd⟩
    cases h : e.evalConst
    · rcases cxxEntry_trace e h with h' | h'
      · exact absurd hb h'
      · exact absurd hd h'
    · rfl
  · intro h
    rw [cxxEntry_of_evalConst e h]
    exact ⟨rfl, rfl⟩

/-- the four diagnostic classes of the C++ pass -/
def isCxxKind (d : Diag) : Prop :=
  d.kind = .cxxRetType ∨ d.kind = .cxxNotReadable ∨ d.kind = .cxxNotWritable ∨ d.kind = .cxxNested

theorem cxxMembers_diags (ms : List (Leaf × LeafOut)) : ∀ d ∈ (cxxMembers ms).diags, isCxxKind d := by
  intro d hd
  obtain ⟨m, _, k, hk, rfl⟩ := (mem_cxxMembers_diags ms d).1 hd
  rcases cxxLeaf_kind m.1 k hk with rfl | rfl | rfl <;> simp [isCxxKind]

theorem cxxEntry_diags (e : EntryOut) : ∀ d ∈ (cxxEntry e).diags, isCxxKind d := by
  intro d hd
  rcases cxxEntry_cases e (cxxEntry_live (π := Cxx.diags) rfl hd) with he | ⟨k, pre, hk, hpre, he⟩ <;> rw [he] at hd
  · exact cxxMembers_diags _ d hd
  · rcases List.mem_append.1 hd with hd | hd
    · exact cxxMembers_diags _ d (hpre d hd)
    · obtain rfl := List.mem_singleton.1 hd
      rcases hk with rfl | rfl | rfl | rfl <;> simp [isCxxKind]

theorem rejectEntries_nil_iff (es : List EntryOut) :
    rejectEntries es = [] ↔ ∀ e ∈ es, e.evalConst = true := by
  induction es with
  | nil => simp [rejectEntries]
  | cons e rest ih => simp [rejectEntries, rejectEntry_nil_iff, ih]

theorem cxxEntries_quiet_iff (es : List EntryOut) :
    ((cxxEntries es).bindings = [] ∧ (cxxEntries es).diags = []) ↔ ∀ e ∈ es, e.evalConst = true := by
  induction es with
  | nil => simp [cxxEntries]
  | cons e rest ih =>
    rw [List.forall_mem_cons, ← ih, ← cxxEntry_quiet_iff]
    simp only [cxxEntries, Cxx.append, List.append_eq_nil_iff]
    constructor
    · rintro ⟨⟨bHead, bRest⟩, dHead, dRest⟩
      exact ⟨⟨bHead, dHead⟩, bRest, dRest⟩
    · rintro ⟨⟨bHead, dHead⟩, bRest, dRest⟩
      exact ⟨⟨bHead, bRest⟩, dHead, dRest⟩

theorem cxxAll_diags (ps : List Placed) : ∀ d ∈ (cxxAll ps).diags, isCxxKind d := by
  intro d hd
  obtain ⟨_, _, e, _, h⟩ := (mem_cxxAll (π := Cxx.diags) rfl (fun _ _ => rfl) ps d).1 hd
  exact cxxEntry_diags e d h

def isRejKind (d : Diag) : Prop :=
  d.kind = .rejDynamic ∨ d.kind = .rejNotWritable ∨ d.kind = .rejCallback

theorem rejectEntry_diags (e : EntryOut) : ∀ d ∈ rejectEntry e, isRejKind d := by
  intro d hd
  unfold rejectEntry at hd
  split at hd
  · cases hd
  · cases e <;> obtain rfl := List.mem_singleton.1 hd
    all_goals
      simp only [isRejKind]
      split <;> simp

theorem rejectAll_diags (ps : List Placed) : ∀ d ∈ rejectAll ps, isRejKind d := by
  intro d hd
  obtain ⟨p, _, h⟩ := (mem_of_cons (F := rejectAll) rfl (fun _ _ => rfl) ps d).1 hd
  rcases List.mem_append.1 h with h | h
  · obtain ⟨e, _, h⟩ := (mem_of_cons (F := rejectEntries) rfl (fun _ _ => rfl) _ d).1 h
    exact rejectEntry_diags e d h
  · obtain ⟨c, _, rfl⟩ := List.mem_map.1 h
    simp [isRejKind]

theorem rejectAll_entries_nil (ps : List Placed) (h : rejectAll ps = []) :
    ∀ p ∈ ps, ∀ e ∈ p.props, e.evalConst = true := by
  induction ps with
  | nil => intro p hp; simp at hp
  | cons q rest ih =>
    simp only [rejectAll, List.append_eq_nil_iff] at h
    intro p hp e he
    rcases List.mem_cons.1 hp with rfl | hp
    · exact (rejectEntries_nil_iff _).1 h.1.1 e he
    · exact ih h.2 p hp e he

/-- the reject pass is silent exactly when the support code would be empty and error-free -/
theorem rejectAll_nil_iff (ps : List Placed) :
    rejectAll ps = [] ↔
      ((cxxAll ps).diags = [] ∧ (cxxAll ps).bindings = [] ∧ connectedAll ps = []) := by
  induction ps with
  | nil => simp [rejectAll, cxxAll, connectedAll]
  | cons p rest ih =>
    simp only [rejectAll, cxxAll, connectedAll, Cxx.append, List.append_eq_nil_iff, ih, List.map_eq_nil_iff,
      rejectEntries_nil_iff]
    rw [← cxxEntries_quiet_iff]
    constructor
    · rintro ⟨⟨⟨bHead, dHead⟩, cbHead⟩, dRest, bRest, cbRest⟩
      exact ⟨⟨dHead, dRest⟩, ⟨bHead, bRest⟩, cbHead, cbRest⟩
    · rintro ⟨⟨dHead, dRest⟩, ⟨bHead, bRest⟩, cbHead, cbRest⟩
      exact ⟨⟨⟨bHead, dHead⟩, cbHead⟩, dRest, bRest, cbRest⟩

theorem objs_mapObj (f : Obj → Obj) (F : Forest) : objs (mapObj f F) = (objs F).map f := by
  induction F with
  | nil => rfl
  | cons o ch rest ihc ihr => simp [objs, mapObj, ihc, ihr]

theorem mapObj_id (F : Forest) : mapObj id F = F := by
  induction F with
  | nil => rfl
  | cons o ch rest ihc ihr => simp [mapObj, ihc, ihr]

/-- the two objects have the same identity and kind: everything `dispatch`, `childReach` and the tree walk read -/
structure SameFlags (a b : Obj) : Prop where
  oid : a.oid = b.oid
  resolves : a.resolves = b.resolves
  isAction : a.isAction = b.isAction
  isLayout : a.isLayout = b.isLayout
  isMenu : a.isMenu = b.isMenu
  isWidget : a.isWidget = b.isWidget
  isSpacer : a.isSpacer = b.isSpacer
  layoutKind : a.layoutKind = b.layoutKind
  isTabWidget : a.isTabWidget = b.isTabWidget

/-- the same flags and class-dependent exclude lists: everything the constant pass reads besides the code map (the
    bindings and the two fault flags are left out on purpose) -/
structure SameView (a b : Obj) : Prop where
  flags : SameFlags a b
  comboOrList : a.comboOrList = b.comboOrList
  tableView : a.tableView = b.tableView
  treeView : a.treeView = b.treeView

theorem SameView.refl (o : Obj) : SameView o o := by repeat' constructor

theorem dispatch_congr {a b : Obj} (h : SameFlags a b) (reach : Reach) : dispatch reach a = dispatch reach b := by
  unfold dispatch
  rw [h.isAction, h.isLayout, h.isMenu, h.isWidget, h.isSpacer]

theorem childReach_congr {a b : Obj} (h : SameFlags a b) (d : Disp) : childReach d a = childReach d b := by
  unfold childReach
  rw [h.layoutKind, h.isTabWidget]

theorem hasResolving_mapObj₂ (f g : Obj → Obj) (h : ∀ o, (f o).resolves = (g o).resolves) (F : Forest) :
    hasResolving (mapObj f F) = hasResolving (mapObj g F) := by
  induction F with
  | nil => rfl
  | cons o ch rest _ ihr => simp [mapObj, hasResolving, h, ihr]

theorem placeOne_disp (reach : Reach) (o : Obj) (hc : Bool) : (placeOne reach o hc).disp = (dispatch reach o).1 := rfl
theorem placeOne_obj (reach : Reach) (o : Obj) (hc : Bool) : (placeOne reach o hc).obj = o := rfl

/-- Lifting: an observation of placed objects that two edits `f`, `g` agree on object by object is the same
    on the two edited documents, provided the edits do not touch identity and kind. -/
theorem place_obs_congr {α : Type} (obs : Placed → α) (f g : Obj → Obj) (hfl : ∀ o, SameFlags (f o) (g o)) :
    ∀ F : Forest,
      (∀ o ∈ objs F, ∀ reach kids, obs (placeOne reach (f o) kids) = obs (placeOne reach (g o) kids)) →
      ∀ reach, (place reach (mapObj f F)).1.map obs = (place reach (mapObj g F)).1.map obs := by
  intro F
  induction F with
  | nil => intro _ _; rfl
  | cons o ch rest ihc ihr =>
    intro hobs reach
    have hch := ihc (fun o' ho' => hobs o' (by simp [objs, ho']))
    have hr' := ihr (fun o' ho' => hobs o' (by simp [objs, ho']))
    have ho := hobs o (by simp [objs])
    simp only [mapObj, place]
    rw [(hfl o).resolves]
    by_cases h : (g o).resolves = true
    · simp only [h, if_true, List.map_cons, List.map_append, placeOne_disp]
      rw [hasResolving_mapObj₂ f g (fun o => (hfl o).resolves) ch, ho, dispatch_congr (hfl o),
        childReach_congr (hfl o), hch, hr']
    · have h' : (g o).resolves = false := by simpa using h
      simp only [h', Bool.false_eq_true, if_false]
      exact hr' reach

theorem valid_mapObj₂ (f g : Obj → Obj) (h : ∀ o, (f o).resolves = (g o).resolves) (doc : Forest) :
    valid (mapObj f doc) = valid (mapObj g doc) := by
  cases doc with
  | nil => rfl
  | cons root ch rest =>
    cases rest with
    | nil => exact h root
    | cons _ _ _ => rfl

/-- what of a placed object is in the form -/
@[reducible] def formKey (p : Placed) : Nat × Disp × List (Nat × Value) := (p.obj.oid, p.disp, embOf p)

/-- the test inside `anyPanic` -/
def panicOf (p : Placed) : Bool := p.allOuts.any (·.panic)

theorem anyPanic_eq (ps : List Placed) : anyPanic ps = (ps.map panicOf).any id := by
  simp [anyPanic, List.any_map, panicOf, Function.comp_def]

/-- `place_obs_congr` at the two observations the form is made of -/
theorem form_omit_congr (f g : Obj → Obj) (hfl : ∀ o, SameFlags (f o) (g o)) (doc : Forest)
    (h : ∀ o ∈ objs doc, ∀ reach kids, embOf (placeOne reach (f o) kids) = embOf (placeOne reach (g o) kids) ∧
      panicOf (placeOne reach (f o) kids) = panicOf (placeOne reach (g o) kids)) :
    (run .omit (mapObj f doc)).form = (run .omit (mapObj g doc)).form := by
  have hv := valid_mapObj₂ f g (fun o => (hfl o).resolves) doc
  cases hg : valid (mapObj g doc)
  · obtain ⟨_, hf, _⟩ := run_invalid .omit _ (hv.trans hg)
    obtain ⟨_, hg', _⟩ := run_invalid .omit _ hg
    simp [Result.form, hf, hg']
  · rw [run_valid .omit _ (hv.trans hg), run_valid .omit _ hg]
    have hk := place_obs_congr formKey f g hfl doc (fun o ho reach kids => by
      simp only [formKey, placeOne_obj, placeOne_disp, (hfl o).oid, dispatch_congr (hfl o),
        (h o ho reach kids).1]) .root
    have hp := place_obs_congr panicOf f g hfl doc (fun o ho reach kids => (h o ho reach kids).2) .root
    simp only [Result.form, anyPanic_eq, hp, hk]

/-- the lifting lemma for the form key, single edit: identity, kind and embedded values of every placed object -/
theorem place_formKey_congr (f : Obj → Obj) (hfl : ∀ o, SameFlags (f o) o)
    (hemb : ∀ reach o hc, embOf (placeOne reach (f o) hc) = embOf (placeOne reach o hc)) (reach : Reach)
    (F : Forest) :
    ((place reach (mapObj f F)).1.map fun p => (p.obj.oid, p.disp, embOf p)) =
      ((place reach F).1.map fun p => (p.obj.oid, p.disp, embOf p)) := by
  have := place_obs_congr formKey f id hfl F (fun o _ reach kids => by
    simp only [formKey, placeOne_obj, placeOne_disp, (hfl o).oid, dispatch_congr (hfl o), hemb reach o kids, id]) reach
  rw [mapObj_id] at this
  exact this

theorem propOut_congr {a b : Obj} (h : SameView a b) (d : Disp) (sole : Bool) :
    propOut d a sole = propOut d b sole := by
  funext e
  cases e
  · unfold propOut propLeafRoute propLeafExtra
    rw [h.flags.layoutKind, h.comboOrList, h.tableView, h.treeView]
  · unfold propOut propGroupRoute
    rw [h.flags.layoutKind, h.comboOrList, h.tableView, h.treeView]

/-- `is_action_separator` only matters for an action -/
theorem propOut_sole (d : Disp) (o : Obj) (s s' : Bool) (hd : d ≠ .action) : propOut d o s = propOut d o s' := by
  funext e
  cases e
  · cases d
    case action => exact absurd rfl hd
    all_goals rfl
  · rfl

theorem placeOne_outs_congr {a b : Obj} (h : SameView a b) (hcm : codeMap a = codeMap b) (reach : Reach)
    (kids : Bool) : (placeOne reach a kids).allOuts = (placeOne reach b kids).allOuts := by
  simp only [placeOne, Placed.allOuts, hcm, dispatch_congr h.flags, constProps_eq_map, propOut_congr h]

theorem outs_congr {p q : Placed} (h : p.allOuts = q.allOuts) : embOf p = embOf q ∧ panicOf p = panicOf q := by
  simp only [embOf, panicOf, h, and_self]

theorem liveEntries_append (xs ys : List Entry) : liveEntries (xs ++ ys) = liveEntries xs ++ liveEntries ys :=
  append_of_cons liveEntries _ rfl liveEntries_cons xs ys

theorem liveAttached_append (xs ys : List AttMap) : liveAttached (xs ++ ys) = liveAttached xs ++ liveAttached ys :=
  append_of_cons liveAttached (fun a => liveAttached [a]) rfl
    (fun a r => by
      simp only [liveAttached]
      split <;> rfl) xs ys

theorem codeMap_append_leaf (o : Obj) (l : Leaf) (he : l.enters = true) (hm : o.mapFault = false) :
    codeMap { o with entries := o.entries ++ [.leaf l] } =
      { codeMap o with props := (codeMap o).props ++ [.leaf l] } := by
  simp [codeMap, hm, liveEntries_append, liveEntries, he]

theorem codeMap_append_leaf_fault (o : Obj) (l : Leaf) (hm : o.mapFault = true) :
    codeMap { o with entries := o.entries ++ [.leaf l] } = codeMap o := by
  simp [codeMap, hm]

theorem placeOne_append_fail (o : Obj) (l : Leaf) (he : l.enters = true) (hf : l.const = some .fail)
    (ha : o.isAction = false) (reach : Reach) (kids : Bool) :
    embOf (placeOne reach { o with entries := o.entries ++ [.leaf l] } kids) = embOf (placeOne reach o kids) ∧
      panicOf (placeOne reach { o with entries := o.entries ++ [.leaf l] } kids) = panicOf (placeOne reach o kids) := by
  have hv : SameView { o with entries := o.entries ++ [.leaf l] } o := by repeat' constructor
  by_cases hm' : o.mapFault = true
  case pos =>
    exact outs_congr (placeOne_outs_congr hv (codeMap_append_leaf_fault o l hm') reach kids)
  case neg =>
    have hm : o.mapFault = false := by simpa using hm'
    have hd : (dispatch reach o).1 ≠ .action := fun h => by
      have := dispatch_action reach o h
      simp [ha] at this
    -- the results of the edited object are those of `o` with one more leaf after the properties
    have hx : (placeOne reach { o with entries := o.entries ++ [.leaf l] } kids).allOuts =
        (placeOne reach o kids).props ++ [propOut (dispatch reach o).1 o (soleSeparator (codeMap o)) (.leaf l)] ++
          (placeOne reach o kids).attached.flatten := by
      simp only [placeOne, Placed.allOuts, dispatch_congr hv.flags, constProps_eq_map, propOut_congr hv]
      rw [propOut_sole _ _ _ (soleSeparator (codeMap o)) hd, codeMap_append_leaf o l he hm]
      simp only [List.map_append, List.map_cons, List.map_nil]
    obtain ⟨h1, h2⟩ := (constLeaf_rec (propLeafRoute (dispatch reach o).1 o (soleSeparator (codeMap o)) l) l).of_fail hf
    constructor
    · unfold embOf
      rw [hx]
      simp [Placed.allOuts, List.flatMap_append, List.filterMap_append, EntryOut.leafOuts, propOut, h1]
    · unfold panicOf
      rw [hx]
      simp [Placed.allOuts, EntryOut.panic, propOut, h2]

/-- the edit `e` at the objects with `oid = n` (ids need not be distinct), nothing elsewhere -/
def editAt (n : Nat) (e : Obj → Obj) (o : Obj) : Obj := if o.oid = n then e o else o

theorem editAt_id (n : Nat) : editAt n id = id := funext fun _ => ite_self _

theorem editAt_rel {R : Obj → Obj → Prop} (hr : ∀ o, R o o) {e e' : Obj → Obj} (h : ∀ o, R (e o) (e' o)) (n : Nat)
    (o : Obj) : R (editAt n e o) (editAt n e' o) := by
  unfold editAt
  split
  · exact h o
  · exact hr o

theorem form_omit_editAt_congr (n : Nat) (e e' : Obj → Obj) (hfl : ∀ o, SameFlags (e o) (e' o)) (doc : Forest)
    (h : ∀ o ∈ objs doc, o.oid = n → ∀ reach kids,
      embOf (placeOne reach (e o) kids) = embOf (placeOne reach (e' o) kids) ∧
      panicOf (placeOne reach (e o) kids) = panicOf (placeOne reach (e' o) kids)) :
    (run .omit (mapObj (editAt n e) doc)).form = (run .omit (mapObj (editAt n e') doc)).form := by
  refine form_omit_congr _ _ (editAt_rel (fun o => (SameView.refl o).flags) hfl n) doc fun o ho reach kids => ?_
  unfold editAt
  split
  · rename_i hn
    exact h o ho hn reach kids
  · exact ⟨rfl, rfl⟩

theorem form_omit_editAt₂ (n : Nat) (e e' : Obj → Obj) (hv : ∀ o, SameView (e o) (e' o))
    (hcm : ∀ o, codeMap (e o) = codeMap (e' o)) (doc : Forest) :
    (run .omit (mapObj (editAt n e) doc)).form = (run .omit (mapObj (editAt n e') doc)).form :=
  form_omit_editAt_congr n e e' (fun o => (hv o).flags) doc
    fun o _ _ reach kids => outs_congr (placeOne_outs_congr (hv o) (hcm o) reach kids)

theorem form_omit_editAt (n : Nat) (e : Obj → Obj) (hv : ∀ o, SameView (e o) o)
    (hcm : ∀ o, codeMap (e o) = codeMap o) (doc : Forest) :
    (run .omit (mapObj (editAt n e) doc)).form = (run .omit doc).form := by
  have := form_omit_editAt₂ n e id hv hcm doc
  rwa [editAt_id, mapObj_id] at this

theorem view_entries (o : Obj) (es : List Entry) : SameView { o with entries := es } o := by
  repeat' constructor
theorem view_callbacks (o : Obj) (cs : List Callback) : SameView { o with callbacks := cs } o := by
  repeat' constructor
theorem view_attached (o : Obj) (as : List AttMap) : SameView { o with attached := as } o := by
  repeat' constructor
theorem view_mapFault_erase (o : Obj) :
    SameView { o with mapFault := true } { o with entries := [], callbacks := [] } := by
  repeat' constructor
theorem view_attFault_erase (o : Obj) : SameView { o with attFault := true } { o with attached := [] } := by
  repeat' constructor

/-- a binding rejected while the code map is built never enters the map -/
theorem codeMap_rejected_leaf (o : Obj) (l : Leaf) :
    codeMap { o with entries := o.entries ++ [.leaf { l with enters := false }] } = codeMap o := by
  simp [codeMap, liveEntries_append, liveEntries]

theorem codeMap_rejected_callback (o : Obj) (c : Callback) :
    codeMap { o with callbacks := o.callbacks ++ [{ c with enters := false }] } = codeMap o := by
  simp [codeMap, List.filter_append]

theorem codeMap_unknown_attached (o : Obj) (a : AttMap) :
    codeMap { o with attached := o.attached ++ [{ a with resolves := false }] } = codeMap o := by
  simp [codeMap, liveAttached_append, liveAttached]

/-- a failed `build_binding_map` leaves the object with an empty property / callback map -/
theorem codeMap_mapFault_erase (o : Obj) :
    codeMap { o with mapFault := true } = codeMap { o with entries := [], callbacks := [] } := by
  simp [codeMap, liveEntries]

theorem codeMap_attFault_erase (o : Obj) :
    codeMap { o with attFault := true } = codeMap { o with attached := [] } := by
  simp [codeMap, liveAttached]

theorem diags_rejected_leaf (o : Obj) (l : Leaf) (hm : o.mapFault = false) :
    ⟨l.id, .build⟩ ∈ codeMapDiags { o with entries := o.entries ++ [.leaf { l with enters := false }] } := by
  simp [codeMapDiags, hm, append_of_cons entriesBuildDiags entryBuildDiags rfl fun _ _ => rfl, entriesBuildDiags,
    entryBuildDiags, leafBuildDiags]

theorem diags_rejected_callback (o : Obj) (c : Callback) (hm : o.mapFault = false) :
    ⟨c.id, .build⟩ ∈ codeMapDiags { o with callbacks := o.callbacks ++ [{ c with enters := false }] } := by
  simp [codeMapDiags, hm, append_of_cons callbacksBuildDiags _ rfl fun _ _ => rfl, callbacksBuildDiags]

theorem diags_unknown_attached (o : Obj) (a : AttMap) (hm : o.attFault = false) :
    ⟨a.tid, .attachedType⟩ ∈ codeMapDiags { o with attached := o.attached ++ [{ a with resolves := false }] } := by
  simp [codeMapDiags, hm, append_of_cons attBuildDiags _ rfl fun _ _ => rfl, attBuildDiags]

theorem run_omit_obj_mem (doc : Forest) : ∀ p ∈ (run .omit doc).objects, p.obj ∈ objs doc := by
  intro p hp
  obtain ⟨r, kids, o, ho, rfl⟩ := run_objects_mem hp
  exact ho

/-- `C`: the side condition under which the planted fault is not masked (`mapFault = false` / `attFault = false`) -/
theorem edit_diag_reported (n : Nat) (e : Obj → Obj) (d : Diag) (C : Obj → Prop) (doc : Forest)
    (h : ∀ o, C (e o) → d ∈ codeMapDiags (e o)) :
    ∀ p ∈ (run .omit (mapObj (editAt n e) doc)).objects, p.obj.oid = n → C p.obj →
      d ∈ (run .omit (mapObj (editAt n e) doc)).diags := by
  intro p hp hn hC
  have hmem := run_omit_obj_mem _ p hp
  rw [objs_mapObj, List.mem_map] at hmem
  obtain ⟨o, _, ho⟩ := hmem
  refine run_diags_mem hp (.inl ?_)
  rw [← ho] at hn hC ⊢
  unfold editAt at hn hC ⊢
  by_cases hoid : o.oid = n
  · simp only [hoid, if_true] at hC ⊢
    exact h o hC
  · simp only [hoid, if_false] at hn

theorem form_omit_plant_fail (n : Nat) (l : Leaf) (he : l.enters = true) (hf : l.const = some .fail)
    (doc : Forest) (ha : ∀ o ∈ objs doc, o.oid = n → o.isAction = false) :
    (run .omit (mapObj (editAt n fun o => { o with entries := o.entries ++ [.leaf l] }) doc)).form =
      (run .omit doc).form := by
  have := form_omit_editAt_congr n _ id (fun o => (view_entries o _).flags) doc
    fun o ho hn reach kids => placeOne_append_fail o l he hf (ha o ho hn) reach kids
  rwa [editAt_id, mapObj_id] at this

end QV.Proofs.Passes
