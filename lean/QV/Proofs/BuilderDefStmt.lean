/-
  C06, define-before-use: statements and whole programs.
  A branch block claims what the block that branches to it knows; the block after an `if`/`switch` claims what was
  known when the condition / the switch value had been computed; every clause of a `switch` starts from that too
  (`hloc` in `bodies_step`: for this every clause has to take its name map from before the switch, as /repo does since 0aff63c;
  finding F100).  The claim of the induction is `DFrom bl s s'`: from every claim that fits `s` (`DPre`) and under which the `break`
  target claims no more than is known (`BreakOk`), a step `SStep` to a claim that fits `s'`; for the clause bodies of a `switch` it is
  `BodiesStep`.  `walk_cert`: the walk from the empty builder ends with a claim that fits everything built.
-/
import QV.Proofs.BuilderDefExpr

namespace QV.Proofs.BuilderInv
open QV.Model QV.Model.Cfg

/-- the effect of walking a statement: as `EStep`, but the name map may change and `let v: T;` may add to `U` -/
structure SStep (s : WState) (ins : Ins) (s' : WState) (ins' : Ins) : Prop where
  pre : DPre s' ins'
  le : LeB s.b ins s'.b ins'
  m : ∀ x, Cur ins s.b x → Cur ins' s'.b x
  uu : ∀ x, UU s x → UU s' x

theorem SStep.refl {s : WState} {ins : Ins} (hp : DPre s ins) : SStep s ins s ins :=
  ⟨hp, LeB.refl _ _, fun _ h => h, fun _ h => h⟩

theorem SStep.trans {s1 s2 s3 : WState} {i1 i2 i3 : Ins} (h1 : SStep s1 i1 s2 i2) (h2 : SStep s2 i2 s3 i3) : SStep s1 i1 s3 i3 :=
  ⟨h2.pre, h1.le.trans h2.le, fun x hx => h2.m x (h1.m x hx), fun x hx => h2.uu x (h1.uu x hx)⟩

theorem SStep.of_estep {s s' : WState} {ins ins' : Ins} (e : EStep s ins s' ins') : SStep s ins s' ins' :=
  ⟨e.pre, e.le, e.m, fun x hx => by rw [UU_eq e.uueq]; exact hx⟩

/-- the target of `break` claims no more than is known here -/
def BreakOk (s : WState) (ins : Ins) (bl : Option Nat) : Prop :=
  ∀ l, bl = some l → l < len s.b ∧ ∀ x, ins l x → Cur ins s.b x

theorem BreakOk.of {s s' : WState} {ins ins' : Ins} {bl : Option Nat} (h : BreakOk s ins bl) (le : LeB s.b ins s'.b ins')
    (m : ∀ x, Cur ins s.b x → Cur ins' s'.b x) : BreakOk s' ins' bl := by
  intro l hl
  obtain ⟨h1, h2⟩ := h l hl
  refine ⟨Nat.lt_of_lt_of_le h1 le.mono, fun x hx => ?_⟩
  rw [le.ext l h1] at hx
  exact m x (h2 x hx)

/-- the claim of the induction over statements; `bl` is the target of `break` -/
def DFrom (bl : Option Nat) (s s' : WState) : Prop :=
  ∀ ins, DPre s ins → BreakOk s ins bl → ∃ ins', SStep s ins s' ins'

theorem DFrom.refl (bl : Option Nat) (s : WState) : DFrom bl s s := fun ins hp _ => ⟨ins, SStep.refl hp⟩

theorem DFrom.step {bl : Option Nat} {s s1 s' : WState} (h1 : DFrom bl s s1) (h2 : DFrom bl s1 s') : DFrom bl s s' :=
  fun ins hp hbl =>
    let ⟨ins1, st1⟩ := h1 ins hp hbl
    let ⟨ins2, st2⟩ := h2 ins1 st1.pre (hbl.of st1.le st1.m)
    ⟨ins2, st1.trans st2⟩

/-- a declaration: the builder made a step that keeps the claim, and a name is entered for a variable that is known at the current
    point or joins those declared without initialiser -/
theorem SStep.declare {s : WState} {ins : Ins} {b' : Builder} {name : String} {v : Nat × DeclKind} {uu : List Nat}
    (hp : DPre s ins) (hs : Same s.b b') (hds : DS (UU s) ins s.b b') (huu : ∀ x, UU s x → x ∈ uu)
    (hv : v.1 ∈ uu ∨ Cur ins b' v.1) :
    SStep s ins { s with b := b', locals := s.locals.insert name v, userUninit := uu } ins :=
  ⟨⟨hs.adv.inv hp.inv, hds.d.weaken huu, fun e he => (mem_insert he).elim (fun h => by rw [h]; exact hv)
      fun h => (hp.loc e h).imp (huu _) hds.cur⟩,
    LeB.of_ds hds, fun _ => hds.cur, huu⟩

/-- `mark_branch_point` with the claim `S` for the new block, which starts with the name map `L'` -/
theorem mark_claimS {s : WState} {ins : Ins} (hp : DPre s ins) (S : Nat → Prop) (L' : Locals)
    (hloc : ∀ e ∈ L', UU s e.2.1 ∨ S e.2.1) :
    DPre (marked { s with locals := L' }) (upd ins (len s.b) S) ∧ LeB s.b ins s.b.newBlock.2 (upd ins (len s.b) S) ∧
      Pend (upd ins (len s.b) S) s.b.newBlock.2 s.b.currentRef (Cur ins s.b) S ∧
      ∀ z, S z → Cur (upd ins (len s.b) S) s.b.newBlock.2 z :=
  have ⟨hd', L, P, hD⟩ := mark_claimB hp.inv hp.d S
  ⟨⟨(adv_newBlock _).inv hp.inv, hd', fun e he => (hloc e he).imp_right (hD _)⟩, L, P, hD⟩

theorem currentRef_marked {s : WState} (hi : Inv s.b) : (marked s).b.currentRef = s.b.currentRef + 1 := by
  show len s.b.newBlock.2 - 1 = len s.b - 1 + 1
  have := hi.pos
  rw [len_newBlock]
  omega

theorem DeclsRun.d {c : Ctx} {kind : DeclKind} {ds : List Decl} {s s' : WState} (h : DeclsRun c kind ds s s') :
    ∀ ins, DPre s ins → ∃ ins', SStep s ins s' ins' := by
  induction h with
  | nil => exact fun ins hp => ⟨ins, SStep.refl hp⟩
  | @init d rest s e v s1 ty l b1 a b2 s' _ h1 _ h2 h3 _ ih =>
    -- `let x = e`: afterwards `x` is known at the current point
    intro ins hp
    obtain ⟨ins1, e1, hv1⟩ := h1.estep hp
    have hds1 := visitLocalDeclaration_d (U := UU s1) (ins := ins1) h2 e1.pre.d
    obtain ⟨hds2, hcurl⟩ := visitLocalAssignment_d (U := UU s1) (ins := ins1) h3 hds1.d
      (by rw [hds1.eq]; exact e1.pre.inv.pos) (hv1.mono hds1)
    have st2 := (SStep.of_estep e1).trans (SStep.declare (name := d.name) (v := (l, kind)) e1.pre
      ((visitLocalDeclaration_same h2).trans (visitLocalAssignment_straight h3).same) (hds1.trans hds2) (fun _ h => h)
      (.inr (hcurl (by rw [(visitLocalDeclaration_ok h2).2.1, (visitLocalDeclaration_ok h2).2.2]; simp))))
    obtain ⟨ins', st'⟩ := ih ins1 st2.pre
    exact ⟨ins', st2.trans st'⟩
  | @uninit d rest s ty l b1 s' _ _ _ h2 _ ih =>
    -- `let x: T`: `x` joins the variables declared without initialiser
    intro ins hp
    have hds1 := visitLocalDeclaration_d (U := UU s) (ins := ins) h2 hp.d
    have st1 := SStep.declare (name := d.name) (v := (l, kind)) hp (visitLocalDeclaration_same h2) hds1
      (fun _ hx => List.mem_append_left [l] hx) (.inl (List.mem_append_right _ (List.mem_singleton_self l)))
    obtain ⟨ins', st'⟩ := ih ins st1.pre
    exact ⟨ins', st1.trans st'⟩

/-- the case conditions: each one ends in a pending branch point whose block knows the operand of the comparison and
    what was known before the first condition -/
theorem CondsRun.d {c : Ctx} {left : Operand} {cl : Clauses} {s s' : WState} {conds : List (Operand × Nat)}
    (h : CondsRun c left cl s conds s') : ∀ ins, DPre s ins → OpOk (UU s) ins s.b left →
    ∃ ins', EStep s ins s' ins' ∧ ∀ x ∈ conds, ∃ K, Pend ins' s'.b x.2 K K ∧
      (∀ z ∈ operandReads x.1, ¬ UU s' z → K z) ∧ (∀ z, Cur ins s.b z → K z) := by
  induction h with
  | nil => exact fun ins hp _ => ⟨ins, EStep.refl hp, fun x hx => nomatch hx⟩
  | default _ ih => exact ih
  | @case v body rest s right s3 cnd b' conds s' h1 h2 _ ih =>
    intro ins hp hleft
    obtain ⟨ins1, e1, hright⟩ := h1.estep hp
    have hl1 : OpOk (UU s3) ins1 s3.b left := fun x hx hu => e1.m x (hleft x hx (by rw [← UU_eq e1.uueq]; exact hu))
    have st := visitBinaryExpression_straight h2
    obtain ⟨hds, hcnd⟩ := st.ds e1.pre.d e1.pre.inv.pos (fun x hx hu => (List.mem_append.1 hx).elim (hl1 x · hu) (hright x · hu))
    have e2 := e1.trans (EStep.of_ds e1.pre st.same hds)
    obtain ⟨hp3, L23, P, hD3⟩ := mark_claimS e2.pre (Cur ins1 b') s3.locals e2.pre.loc
    have e3 : EStep s ins (marked { s3 with b := b' }) _ := ⟨hp3, e2.le.trans L23, fun x hx => hD3 x (e2.m x hx), e2.locs, e2.uueq⟩
    obtain ⟨ins', e4, hothers⟩ := ih _ hp3 (fun x hx hu => hD3 x (hds.cur (hl1 x hx hu)))
    refine ⟨ins', e3.trans e4, fun y hy => ?_⟩
    rcases List.mem_cons.1 hy with rfl | hy
    · refine ⟨_, P.le e4.le, fun z hz hu => hcnd z hz ?_, e2.m⟩
      rw [UU_eq e4.uueq] at hu
      exact hu
    · obtain ⟨K, PK, g2, g4⟩ := hothers y hy
      exact ⟨K, PK, g2, fun z hz => g4 z (e3.m z hz)⟩

/-- `break` / `return`: the current block has been closed and a fresh (dead) block is current, claiming what was known; `h` is
    what `visitBreak_d` / `visitReturn_d` conclude -/
theorem SStep.of_dead {s : WState} {ins : Ins} {b' : Builder} (hp : DPre s ins)
    (h : FreshBlock (UU s) ins s.b (Cur ins s.b) b')
    (hadv : Adv s.b b') (hlen : len b' = len s.b + 1) :
    SStep s ins { s with b := b' } (upd ins (len s.b) (Cur ins s.b)) := by
  obtain ⟨hd, hold, hnew⟩ := h
  have hcur : ∀ x, Cur ins s.b x → Cur (upd ins (len s.b) (Cur ins s.b)) b' x := by
    intro x hx
    unfold Cur
    rw [hlen]
    exact (hnew x).2 (Or.inl hx)
  have hle : LeB s.b ins b' (upd ins (len s.b) (Cur ins s.b)) :=
    ⟨hadv.mono, fun i hi => upd_ne ins _ (Nat.ne_of_lt hi), fun i hi x hx => (hold i x (Nat.ne_of_lt hi)).2 hx⟩
  exact ⟨⟨hadv.inv hp.inv, hd, fun e he => (hp.loc e he).imp_right (hcur _)⟩, hle, hcur, fun x hx => hx⟩

theorem break_d {s : WState} {ins : Ins} {l : Nat} (hp : DPre s ins) (hbr : l < len s.b ∧ ∀ x, ins l x → Cur ins s.b x) :
    SStep s ins { s with b := visitBreakStatement s.b l } (upd ins (len s.b) (Cur ins s.b)) :=
  have a := visitBreakStatement_adv s.b l hbr.1
  SStep.of_dead hp (visitBreak_d s.b l (Cur ins s.b) hp.d hp.inv hbr.1 hbr.2) a.1 a.2.1

theorem return_d {s : WState} {ins : Ins} {v : Operand} (hp : DPre s ins) (hv : OpOk (UU s) ins s.b v) :
    SStep s ins { s with b := visitReturnStatement s.b v } (upd ins (len s.b) (Cur ins s.b)) :=
  have a := visitReturnStatement_adv s.b v hp.inv.pos
  SStep.of_dead hp (visitReturn_d s.b v (Cur ins s.b) hp.d hp.inv hv) a.1 a.2.1

def StmtsD (c : Ctx) (bl : Option Nat) (ss : List Stmt) : Prop :=
  ∀ s s' ins, DPre s ins → BreakOk s ins bl → run (walkStmts c bl ss) s = (some true, s') → ∃ ins', SStep s ins s' ins'

/-- the clause bodies of a `switch` whose `break` target is `er`; `D`: what is known once the value of the `switch` has
    been computed, before any case condition (every body starts from it) -/
def BodiesD (c : Ctx) (er : Nat) (cl : List (Option Expr × List Stmt)) : Prop :=
  ∀ s s' bodies ins (D : Nat → Prop), DPre s ins → (∀ z, D z → Cur ins s.b z) → (∀ e ∈ s.locals, UU s e.2.1 ∨ D e.2.1) →
    er < len s.b → (∀ z, ins er z → D z) →
    run (walkBodies c (some er) cl) s = (some bodies, s') → bodies.length = cl.length →
    ∃ ins', DPre s' ins' ∧ LeB s.b ins s'.b ins' ∧ (∀ z, UU s z → UU s' z) ∧ (∀ z, D z → Cur ins' s'.b z) ∧
      s'.locals = s.locals ∧
      ∀ r ∈ bodies, r + 1 < len s'.b ∧ (∀ z, ins' (r + 1) z → D z) ∧ (∀ z, D z → Out ins' s'.b r z)

/-- the end of a branching construct, from the state `s` in which the condition (the value of the `switch`) has been computed:
    the visitor took `bj` to `s'.b` with the join block current; the join block knows what was known in `s`, which covers the
    variables of the name map -/
theorem SStep.of_join {s s' : WState} {bj : Builder} {ins insj : Ins} (hinv' : Inv s'.b)
    (L : LeB s.b ins bj insj) (hds : DS (UU s') insj bj s'.b) (hD : ∀ z, Cur ins s.b z → Cur insj bj z)
    (hloc : ∀ e ∈ s'.locals, UU s' e.2.1 ∨ Cur ins s.b e.2.1) (huu : ∀ z, UU s z → UU s' z) : SStep s ins s' insj :=
  ⟨⟨hinv', hds.d, fun e he => (hloc e he).imp_right fun h => hds.cur (hD _ h)⟩,
   L.trans (LeB.of_ds hds), fun z hz => hds.cur (hD z hz), huu⟩

/-- `BodiesD` on derivations.  `bl` is an index of `BodiesRun`, so the exit block `er` comes with an equation -/
def BodiesStep (bl : Option Nat) (s : WState) (bodies : List Nat) (s' : WState) : Prop :=
  ∀ ins er (D : Nat → Prop), bl = some er → DPre s ins → (∀ z, D z → Cur ins s.b z) → (∀ e ∈ s.locals, UU s e.2.1 ∨ D e.2.1) →
    er < len s.b → (∀ z, ins er z → D z) →
    ∃ ins', DPre s' ins' ∧ LeB s.b ins s'.b ins' ∧ (∀ z, UU s z → UU s' z) ∧ (∀ z, D z → Cur ins' s'.b z) ∧
      s'.locals = s.locals ∧
      ∀ r ∈ bodies, r + 1 < len s'.b ∧ (∀ z, ins' (r + 1) z → D z) ∧ (∀ z, D z → Out ins' s'.b r z)

theorem BodiesStep.nil (bl : Option Nat) (s : WState) : BodiesStep bl s [] s :=
  fun ins _ _ _ hp hD _ _ _ => ⟨ins, hp, LeB.refl _ _, fun _ h => h, hD, rfl, fun _ hr => nomatch hr⟩

/-- a clause body, then the rest of the bodies: the block of the next body claims `D`, like this one (`hloc`: every clause
    starts from the name map before the switch) -/
theorem bodies_step {bl : Option Nat} {s s1 s' : WState} {others : List Nat} (h1 : DFrom bl s s1)
    (ih : BodiesStep bl (marked { s1 with locals := s.locals }) others s') : BodiesStep bl s (s1.b.currentRef :: others) s' := by
  intro ins er D hbl hp hD hloc her hier
  have hbr : BreakOk s ins bl := fun l' hl' => by
    rw [hbl] at hl'; cases hl'; exact ⟨her, fun x hx => hD x (hier x hx)⟩
  obtain ⟨ins1, st1⟩ := h1 ins hp hbr
  obtain ⟨hp2, L12, P, hD2⟩ := mark_claimS st1.pre D s.locals (fun e he => (hloc e he).imp_left (st1.uu _))
  have L02 := st1.le.trans L12
  obtain ⟨ins', hp', L23, huu23, hD', hl3, hothers⟩ := ih _ er D hbl hp2 hD2 (fun e he => (hloc e he).imp_left (st1.uu _))
    (Nat.lt_of_lt_of_le her L02.mono) (fun z hz => by rw [L02.ext _ her] at hz; exact hier z hz)
  have P' := (P.mono (fun z hz => st1.m z (hD z hz))).le L23
  refine ⟨ins', hp', L02.trans L23, fun z hz => huu23 z (st1.uu z hz), hD', hl3, fun r hr => ?_⟩
  rcases List.mem_cons.1 hr with rfl | hr
  · exact ⟨P'.lt, P'.claim, P'.knows⟩
  · exact hothers r hr

/-- walking a statement (with `break` target `bl`, whose claim is known here) extends the claim so that the invariants hold
    again -/
theorem StmtRun.d {c : Ctx} {bl : Option Nat} {st : Stmt} {s s' : WState} (h : StmtRun c bl st s s') : DFrom bl s s' := by
  induction h using StmtRun.rec (motive_2 := fun bl _ s s' _ => DFrom bl s s')
    (motive_3 := fun bl _ s bodies s' _ => BodiesStep bl s bodies s') with
  | @expr bl e s v s1 h1 =>
    intro ins hp _
    obtain ⟨ins1, e1, hv⟩ := h1.estep hp
    have hds := visitExpressionStatement_d (v := v) e1.pre.d hv
    exact ⟨ins1, (SStep.of_estep e1).trans (SStep.of_estep (EStep.of_ds e1.pre (visitExpressionStatement_same _ _) hds))⟩
  | @block bl ss s s2 _ ih =>
    intro ins hp hbl
    obtain ⟨ins2, st2⟩ := ih ins hp hbl
    exact ⟨ins2, ⟨⟨st2.pre.inv, st2.pre.d, fun e he => (hp.loc e he).imp (st2.uu _) (st2.m _)⟩, st2.le, st2.m, st2.uu⟩⟩
  | lexical h1 => exact fun ins hp _ => h1.d ins hp
  | @if_ bl cnd a s cv s1 s4 b' h1 ha hc hb iha =>
    intro ins hp hbl
    obtain ⟨ins1, e1, hcv⟩ := h1.estep hp
    -- every block opened from here on claims what the condition block knows
    obtain ⟨hp2, L12, P1, hD2⟩ := mark_claimS e1.pre (Cur ins1 s1.b) s1.locals e1.pre.loc
    obtain ⟨ins4, st4⟩ := iha _ hp2 (hbl.of (e1.le.trans L12) fun z hz => hD2 z (e1.m z hz))
    have hlocD : ∀ e ∈ s1.locals, UU s4 e.2.1 ∨ Cur ins1 s1.b e.2.1 := fun e he => (e1.pre.loc e he).imp_left (st4.uu _)
    obtain ⟨hp6, L46, P2, hD6⟩ := mark_claimS st4.pre (Cur ins1 s1.b) s1.locals hlocD
    have Pc := (P1.le st4.le).le L46
    have Pa := P2.mono fun z hz => st4.m z (hD2 z hz)
    have hds := visitIf_d (U := UU s4) hb hp6.d
      (fun z hz hu => Pc.knows z (hcv z hz fun h => hu (st4.uu z h)))
      (fun z hz => Pc.knows z (Pc.claim z hz))
      (fun z hz => Pc.knows z (Pa.claim z hz))
      (fun z hz => Pa.knows z (Pa.claim z hz))
      (fun y hy => nomatch hy)
    have hinv' : Inv b' := (visitIfStatement_ctl (yr := none) Pc.lt Pa.lt (fun y hy => nomatch hy) hb).adv.inv hp6.inv
    exact ⟨_, (SStep.of_estep e1).trans (SStep.of_join hinv' ((L12.trans st4.le).trans L46) hds hD6 hlocD st4.uu)⟩
  | @ifElse bl cnd a n s cv s1 s4 s8 b' h1 ha hn hc hb iha ihn =>
    intro ins hp hbl
    obtain ⟨ins1, e1, hcv⟩ := h1.estep hp
    obtain ⟨hp2, L12, P1, hD2⟩ := mark_claimS e1.pre (Cur ins1 s1.b) s1.locals e1.pre.loc
    obtain ⟨ins4, st4⟩ := iha _ hp2 (hbl.of (e1.le.trans L12) fun z hz => hD2 z (e1.m z hz))
    have hlocD : ∀ e ∈ s1.locals, UU s4 e.2.1 ∨ Cur ins1 s1.b e.2.1 := fun e he => (e1.pre.loc e he).imp_left (st4.uu _)
    obtain ⟨hp6, L46, P2, hD6⟩ := mark_claimS st4.pre (Cur ins1 s1.b) s1.locals hlocD
    have L16 := (L12.trans st4.le).trans L46
    obtain ⟨ins8, st8⟩ := ihn _ hp6 (hbl.of (e1.le.trans L16) fun z hz => hD6 z (e1.m z hz))
    have hlocD8 : ∀ e ∈ s1.locals, UU s8 e.2.1 ∨ Cur ins1 s1.b e.2.1 := fun e he => (hlocD e he).imp_left (st8.uu _)
    obtain ⟨hp10, L810, P3, hD10⟩ := mark_claimS st8.pre (Cur ins1 s1.b) s1.locals hlocD8
    have L610 := st8.le.trans L810
    have Pc := ((P1.le st4.le).le L46).le L610
    have Pa := (P2.mono fun z hz => st4.m z (hD2 z hz)).le L610
    have Pb := P3.mono fun z hz => st8.m z (hD6 z hz)
    have huu : ∀ x, UU s1 x → UU s8 x := fun x hx => st8.uu x (st4.uu x hx)
    have hds := visitIf_d (U := UU s8) hb hp10.d
      (fun z hz hu => Pc.knows z (hcv z hz fun h => hu (huu z h)))
      (fun z hz => Pc.knows z (Pc.claim z hz))
      (fun z hz => Pc.knows z (Pa.claim z hz))
      (fun z hz => Pa.knows z (Pb.claim z hz))
      (fun y hy z hz => by cases hy; exact Pb.knows z (Pb.claim z hz))
    have hinv' : Inv b' := (visitIfStatement_ctl Pc.lt Pa.lt (fun y hy => by cases hy; exact Pb.lt) hb).adv.inv hp10.inv
    exact ⟨_, (SStep.of_estep e1).trans (SStep.of_join hinv' (L16.trans L610) hds hD10 hlocD8 huu)⟩
  | @switch bl v cl s left s1 conds s2 bodies s6 b' hmd h1 h2 hbod hlen1 hlen2 hb ihb =>
    intro ins hp hbl
    obtain ⟨ins1, e1, hleft⟩ := h1.estep hp
    obtain ⟨ins2, e2, hconds⟩ := h2.d ins1 e1.pre hleft
    -- the exit block (which `break` targets) and the first body block claim what was known before the conditions
    have hloc2 : ∀ e ∈ s2.locals, UU s2 e.2.1 ∨ Cur ins1 s1.b e.2.1 := by
      rw [e2.locs, UU_eq e2.uueq]; exact e1.pre.loc
    obtain ⟨hp3, L23, Ph, hD3⟩ := mark_claimS e2.pre (Cur ins1 s1.b) s2.locals hloc2
    obtain ⟨hp4, L34, Pe, hD4⟩ := mark_claimS (s := marked s2) hp3 (Cur ins1 s1.b) s2.locals hloc2
    have hPh := (Ph.le L34).claim
    rw [← currentRef_marked e2.pre.inv] at hPh
    obtain ⟨ins6, hp6, L46, huu46, hD6, hl6, hbod'⟩ := ihb _ _ (Cur ins1 s1.b) rfl hp4 hD4 hloc2 (Nat.lt_of_succ_lt Pe.lt) hPh
    have L26 := L23.trans (L34.trans L46)
    have hds := visitSwitch_d (U := UU s6) (ins := ins6) (Cur ins1 s1.b) hb hp6.d
      (fun x hx' => by
        obtain ⟨K, P, g2, g4⟩ := hconds x hx'
        have P' := P.le L26
        exact ⟨fun z hz hu => P'.knows z (g2 z hz fun h => hu (huu46 z h)),
          fun z hz => P'.knows z (P'.claim z hz), fun z hz => P'.knows z (g4 z hz)⟩)
      (fun r hr' => (hbod' r hr').2)
      (fun z hz => ((Ph.le L34).le L46).knows z (e2.m z hz))
      ⟨(Pe.le L46).claim, fun z hz => (Pe.le L46).knows z (hD3 z hz)⟩
    have hinv' : Inv b' := (visitSwitchStatement_ctl (fun x hx' => let ⟨_, P, _, _⟩ := hconds x hx'; (P.le L26).lt)
      (fun r hr' => (hbod' r hr').1) (Nat.lt_of_succ_lt ((Ph.le L34).le L46).lt) (Pe.le L46).lt
      (default_count cl hmd hlen1 hlen2) hb).adv.inv hp6.inv
    exact ⟨ins6, (SStep.of_estep e1).trans (SStep.of_join hinv' (e2.le.trans L26) hds hD6
      (fun e he => (hloc2 e he).imp_left (huu46 _)) fun z hz => huu46 z ((SStep.of_estep e2).uu z hz))⟩
  | break_ => exact fun ins hp hbl => ⟨_, break_d hp (hbl _ rfl)⟩
  | return_ h1 =>
    intro ins hp _
    obtain ⟨ins1, e1, hv⟩ := h1.estep hp
    exact ⟨_, (SStep.of_estep e1).trans (return_d e1.pre hv)⟩
  | returnVoid => exact fun ins hp _ => ⟨_, return_d hp (OpOk.void _ _ _)⟩
  | stop => exact .refl _ _
  | step _ _ _ ih1 ih2 => exact ih1.step ih2
  | done => exact .nil _ _
  | body _ _ ih1 ih2 => exact bodies_step ih1 ih2

theorem StmtsRun.d {c : Ctx} {bl : Option Nat} {ss : List Stmt} {s s' : WState} (h : StmtsRun c bl ss s s') : DFrom bl s s' :=
  h.induct (motive := fun _ s s' => DFrom bl s s') (.refl bl) fun h1 ih => h1.d.step ih

theorem d_stmts (c : Ctx) (bl : Option Nat) : (ss : List Stmt) → StmtsD c bl ss :=
  fun _ _ _ ins hp hbl h => (StmtsRun.of_run h).d ins hp hbl

theorem d_bodies (c : Ctx) (er : Nat) : (cl : List (Option Expr × List Stmt)) → BodiesD c er cl :=
  fun cl s s' bodies ins D hp hD hloc her hier h hlen =>
    ((bodiesRun c (some er) cl s bodies s' h).2 hlen).induct (motive := fun _ s bodies s' => BodiesStep (some er) s bodies s')
      (.nil _) (fun h1 ih => bodies_step h1.d ih) ins er D rfl hp hD hloc her hier

theorem ParamsRun.d {c : Ctx} {ps : List (String × Option (List String))} {s s' : WState} (h : ParamsRun c ps s s') :
    ∀ ins, DPre s ins → np s.b ≤ s.b.code.locals.length → SStep s ins s' ins := by
  induction h with
  | nil => exact fun ins hp _ => SStep.refl hp
  | @param name t rest s k l b1 s' _ _ h1 _ ih =>
    intro ins hp hnp
    obtain ⟨hds, hlnp, hnp1⟩ := visitFunctionParameter_d (U := UU s) (ins := ins) h1 hp.d hnp
    have st1 := SStep.declare (name := name) (v := (l, .let_)) hp (visitFunctionParameter_same h1) hds (fun _ h => h)
      (.inr (.inr (.inr hlnp)))
    exact st1.trans (ih ins st1.pre hnp1)

theorem d_program (c : Ctx) (callback : Bool) (p : Program) (s s' : WState) (ins : Ins) (hp : DPre s ins)
    (hnp : np s.b ≤ s.b.code.locals.length) (h : run (walkProgram c callback p) s = (some (), s')) :
    ∃ ins', SStep s ins s' ins' := by
  cases programRun h with
  | stmt h1 => exact h1.d ins hp (by intro l hl; cases hl)
  | function _ h1 h2 =>
    -- the name map starts empty
    have hp1 : DPre { s with locals := [] } ins := ⟨hp.inv, hp.d, fun e he => nomatch he⟩
    have st1 : SStep s ins { s with locals := [] } ins := ⟨hp1, LeB.refl _ _, fun x hx => hx, fun x hx => hx⟩
    have st2 := h1.d ins hp1 hnp
    obtain ⟨ins', st'⟩ := h2.d ins st2.pre (by intro l hl; cases hl)
    exact ⟨ins', (st1.trans st2).trans st'⟩

theorem dpre_init : DPre ({} : WState) (fun _ _ => False) := by
  refine ⟨inv_init, ⟨fun i => ?_, fun i t h => ?_, fun i a h => ?_⟩, fun e he => ?_⟩
  · show Cov _ (stmtsOf ({} : Builder) i) _
    rw [stmtsOf_init]; exact Cov.nil _ _
  · have : termOf ({} : Builder) i = none := termOf_init i
    rw [this] at h; cases h
  · have : complOf ({} : Builder) i = none := complOf_init i
    rw [this] at h; cases h
  · cases he

/-- the walk ends with a claim that fits everything built, and the entry block claims nothing -/
theorem walk_cert (c : Ctx) (callback : Bool) (p : Program) (st : WState)
    (h : (walkProgram c callback p).run {} = (some (), st)) :
    ∃ ins : Ins, DInv (UU st) ins st.b ∧ ∀ x, ¬ ins 0 x := by
  obtain ⟨ins, ss⟩ := d_program c callback p {} st _ dpre_init (by simp [np]) h
  refine ⟨ins, ss.pre.d, fun x hx => ?_⟩
  have := ss.le.ext 0 (by simp [len])
  rw [this] at hx
  exact hx

end QV.Proofs.BuilderInv
