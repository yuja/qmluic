/-
  The statements the builder emits, for ALL programs: never an `observeProperty` statement, and the object operand of every
  `readProperty` is not the null constant (`GoodSt`) — so tir/propdep.rs, run on a built body, starts from a body without
  observers and never reaches its `panic!("invald read_property")` (`analyze_no_panic`, PropDepShape): the hypotheses `hno` and
  `hp` of `propdep_covers` (Props/C02).  An induction over the walk about the statements only; `StE b b'` says that `b'` has
  the statements of `b` and good ones.
-/
import QV.Proofs.BuilderNames
import QV.Proofs.BuilderFinalize

namespace QV.Proofs.BuilderInv
open QV.Model QV.Model.Cfg

/-- every statement of `b'` is a statement of `b` (same block) or a good one -/
def StE (b b' : Builder) : Prop := ∀ i, ∀ s ∈ stmtsOf b' i, s ∈ stmtsOf b i ∨ GoodSt s

theorem StE.refl (b : Builder) : StE b b := fun _ _ h => Or.inl h

theorem StE.trans {a b c : Builder} (h1 : StE a b) (h2 : StE b c) : StE a c := by
  intro i s hs
  rcases h2 i s hs with h | h
  · exact h1 i s h
  · exact Or.inr h

theorem ste_of_eq {b b' : Builder} (h : ∀ i, stmtsOf b' i = stmtsOf b i) : StE b b' := fun i _ hs => Or.inl (h i ▸ hs)

theorem ste_code {b b' : Builder} (h : b'.code = b.code) : StE b b' := ste_of_eq (stmtsOf_congr h)

theorem ste_alloca (b : Builder) (ty : TypeKind) : StE b (b.alloca ty).2 := ste_of_eq (stmtsOf_alloca b ty)

theorem ste_pushStatementAt (b : Builder) (k : Nat) (st : Statement) (hg : GoodSt st) : StE b (b.pushStatementAt k st) := by
  intro i s hs
  rw [stmtsOf_pushStatementAt] at hs
  split at hs
  · rw [List.mem_append] at hs
    rcases hs with h | h
    · exact Or.inl h
    · simp at h; subst h; exact Or.inr hg
  · exact Or.inl hs

theorem ste_pushStatement (b : Builder) (st : Statement) (hg : GoodSt st) : StE b (b.pushStatement st) :=
  ste_pushStatementAt b _ st hg

theorem ste_finalizeAt (b : Builder) (k : Nat) (t : Terminator) : StE b (b.finalizeAt k t) := ste_of_eq (stmtsOf_finalizeAt b k t)

theorem ste_setCompletionValue (b : Builder) (v : Operand) : StE b (b.setCompletionValue v) :=
  ste_of_eq (stmtsOf_setCompletionValue b v)

theorem ste_newBlock (b : Builder) : StE b b.newBlock.2 := ste_of_eq (stmtsOf_newBlock b)

theorem Emitted.ste {b b' : Builder} {rv : Rvalue} {a : Operand} (h : Emitted b rv a b') (hg : GoodRv rv) : StE b b' := by
  obtain ⟨b0, ty, hc, h⟩ := h
  refine (ste_code hc).trans ?_
  by_cases hv : ty = .void
  · subst hv
    rw [emitResult_void] at h
    cases h
    exact ste_pushStatement _ _ hg
  · rw [emitResult_nonvoid b0 ty rv hv] at h
    cases h
    exact (ste_alloca b0 ty).trans (ste_pushStatement _ _ hg)

theorem Straight.ste {R : List Nat} {b b' : Builder} {a : Operand} (h : Straight R b a b') : StE b b' := by
  cases h with
  | pure hc ha => exact ste_code hc
  | emit he hr hg => exact he.ste hg
  | push hr hg => exact ste_pushStatement _ _ hg

theorem visitLocalDeclaration_ste {b b' : Builder} {ty : TypeKind} {n : Nat}
    (h : visitLocalDeclaration b ty = .ok (n, b')) : StE b b' := by
  rw [visitLocalDeclaration_eff h]; exact ste_alloca b ty

theorem visitFunctionParameter_ste {b b' : Builder} {ty : TypeKind} {n : Nat}
    (h : visitFunctionParameter b ty = .ok (n, b')) : StE b b' := by
  obtain ⟨b0, b1, hc0, rfl, -, -, rfl⟩ := visitFunctionParameter_eff h
  exact (ste_code hc0).trans ((ste_alloca b0 ty).trans (ste_of_eq fun _ => rfl))

theorem visitExpressionStatement_ste (b : Builder) (v : Operand) : StE b (visitExpressionStatement b v) :=
  ste_setCompletionValue _ _

/-! ### the visitors that build control flow: they only copy values into result temporaries -/

theorem storeAt_ste (sink : Option Operand) (t : Terminator) (b : Builder) (src : Operand) (ref : Nat) :
    StE b (storeAt sink t b src ref) := by
  unfold storeAt
  split
  · exact (ste_pushStatementAt _ _ (.assign _ (.copy _)) trivial).trans (ste_finalizeAt _ _ _)
  · exact ste_finalizeAt _ _ _

theorem visitLogical_ste {b b' : Builder} {op : LogicOp} {l r it : Operand} {lr rr : Nat}
    (h : visitBinaryLogicalExpression b op l lr r rr = (it, b')) : StE b b' := by
  obtain ⟨b0, init, T, F, hc0, _, heq⟩ := visitBinaryLogicalExpression_eff b op l r lr rr
  rw [h] at heq
  cases heq
  exact ((ste_code hc0).trans (ste_alloca _ _)).trans ((storeAt_ste _ _ _ _ _).trans (storeAt_ste _ _ _ _ _))

theorem visitTernary_ste {env : Env} {b b' : Builder} {c x y res : Operand} {cr xr yr : Nat}
    (h : visitTernaryExpression env b c cr x xr y yr = .ok (res, b')) : StE b b' := by
  obtain ⟨ty, -, hb'⟩ := visitTernaryExpression_eff h
  rw [hb']
  exact (ste_alloca b ty).trans ((ste_finalizeAt _ _ _).trans ((storeAt_ste _ _ _ _ _).trans (storeAt_ste _ _ _ _ _)))

theorem visitIf_ste {b b' : Builder} {cnd : Operand} {cr xr : Nat} {yr : Option Nat} (h : b' = visitIfStatement b cnd cr xr yr) :
    StE b b' := by
  subst h
  unfold visitIfStatement
  simp only []
  cases yr with
  | none => exact (ste_finalizeAt _ _ _).trans (ste_finalizeAt _ _ _)
  | some y => exact (ste_finalizeAt _ _ _).trans ((ste_finalizeAt _ _ _).trans (ste_finalizeAt _ _ _))

/-- `break` / `return` close the current block and open a new one -/
theorem closeCurrent_ste (b : Builder) (t : Terminator) : StE b (b.finalizeAt b.currentRef t).newBlock.2 :=
  (ste_finalizeAt _ _ _).trans (ste_newBlock _)

theorem visitSwitch_ste {b b' : Builder} {conds : List (Operand × Nat)} {bodies : List Nat} {dp : Option Nat} {hr er : Nat}
    (h : b' = visitSwitchStatement b conds bodies dp hr er) : StE b b' :=
  h ▸ visitSwitchStatement_preserves (P := StE b) (fun _ _ _ h => h.trans (ste_finalizeAt _ _ _))
    (fun _ _ h => h.trans (ste_code rfl)) (StE.refl b) conds bodies dp hr er

theorem ste_marked (s : WState) : StE s.b (marked s).b := ste_newBlock _

theorem ExprRun.ste {c : Ctx} {e : Expr} {s s' : WState} {i : Inter} (h : ExprRun c e s i s') : StE s.b s'.b := by
  induction h using ExprRun.rec
    (motive_2 := fun _ s _ s' _ => StE s.b s'.b) (motive_3 := fun _ s _ s' _ => StE s.b s'.b) with
  | ident h => rw [(processIdentifier_ok h).1]; exact StE.refl _
  | this | float | string | bool | null => exact StE.refl _
  | integer h => exact (visitInteger_straight h).ste
  | array _ h2 ih => exact ih.trans (visitArray_straight h2).ste
  | member h1 h2 h3 ih =>
    rw [(processItemProperty_reads h3).1]
    obtain ⟨b', rfl, st⟩ := interToRvalue_straight h1.wf h2
    exact ih.trans st.ste
  | memberNamespace _ h2 ih => rw [(processNamespaceName_reads h2).1]; exact ih
  | memberType _ h2 ih => rw [(processTypeMember_reads h2).1]; exact ih
  | subscript h1 h2 _ ih1 ih3 =>
    obtain ⟨b', rfl, st⟩ := interToRvalue_straight h1.wf h2
    exact (ih1.trans st.ste).trans ih3
  | callMethod _ _ h3 ih1 ih2 => exact (ih1.trans ih2).trans (visitObjectMethodCall_straight h3).ste
  | callBuiltin _ _ h3 ih1 ih2 => exact (ih1.trans ih2).trans (visitBuiltinCall_straight h3).ste
  | assignLocal _ _ h3 ih1 ih2 => exact (ih1.trans ih2).trans (visitLocalAssignment_straight h3).ste
  | assignProperty _ _ _ h3 ih1 ih2 => exact (ih1.trans ih2).trans (visitObjectPropertyAssignment_straight h3).ste
  | assignSubscript _ _ h3 ih1 ih2 => exact (ih1.trans ih2).trans (visitObjectSubscriptAssignment_straight h3).ste
  | unary _ _ h2 ih => exact ih.trans (visitUnaryExpression_straight h2).ste
  | binary _ _ _ _ h3 ih1 ih2 => exact (ih1.trans ih2).trans (visitBinaryExpression_straight h3).ste
  | logical _ _ _ _ _ hV ih1 ih2 =>
    exact ((ih1.trans (ste_marked _)).trans ih2).trans ((ste_marked _).trans (visitLogical_ste hV))
  | as_ _ _ h2 ih => exact ih.trans (visitAsExpression_straight h2).ste
  | ternary _ _ _ _ h4 ih1 ih2 ih3 =>
    exact ((((ih1.trans (ste_marked _)).trans ih2).trans (ste_marked _)).trans ih3).trans
      ((ste_marked _).trans (visitTernary_ste h4))
  | mk h1 h2 _ ih =>
    obtain ⟨b', rfl, st⟩ := interToRvalue_straight h1.wf h2
    exact ih.trans st.ste
  | nil => exact StE.refl _
  | cons _ _ ih1 ih2 => exact ih1.trans ih2

theorem RvalRun.ste {c : Ctx} {e : Expr} {s s' : WState} {a : Operand} (h : RvalRun c e s a s') : StE s.b s'.b := by
  obtain ⟨i, s1, b', h1, rfl, st⟩ := h.split
  exact h1.ste.trans st.ste

def RvalsS (c : Ctx) (es : List Expr) : Prop :=
  ∀ s s' as, run (walkRvalues c es) s = (some as, s') → StE s.b s'.b

theorem s_rvalues (c : Ctx) : (es : List Expr) → RvalsS c es := fun es s s' as h =>
  (rvalsRun c es s as s' h).induct (motive := fun _ s _ s' => StE s.b s'.b) (fun _ => StE.refl _) fun h1 ih => h1.ste.trans ih

theorem DeclsRun.ste {c : Ctx} {kind : DeclKind} {ds : List Decl} {s s' : WState} (h : DeclsRun c kind ds s s') :
    StE s.b s'.b := by
  induction h with
  | nil => exact StE.refl _
  | init _ h1 _ h2 h3 _ ih => exact (h1.ste.trans ((visitLocalDeclaration_ste h2).trans (visitLocalAssignment_straight h3).ste)).trans ih
  | uninit _ _ _ h2 _ ih => exact (visitLocalDeclaration_ste h2).trans ih

theorem CondsRun.ste {c : Ctx} {left : Operand} {cl : Clauses} {s s' : WState} {conds : List (Operand × Nat)}
    (h : CondsRun c left cl s conds s') : StE s.b s'.b := by
  induction h with
  | nil => exact StE.refl _
  | default _ ih => exact ih
  | case h1 h2 _ ih =>
    -- `ste_marked _` would have to find a state whose builder is the `b'` of the comparison
    exact ((h1.ste.trans (visitBinaryExpression_straight h2).ste).trans (ste_newBlock _)).trans ih

theorem StmtRun.ste {c : Ctx} {bl : Option Nat} {st : Stmt} {s s' : WState} (h : StmtRun c bl st s s') : StE s.b s'.b := by
  induction h using StmtRun.rec
    (motive_2 := fun _ _ s s' _ => StE s.b s'.b) (motive_3 := fun _ _ s _ s' _ => StE s.b s'.b) with
  | expr h1 => exact h1.ste.trans (visitExpressionStatement_ste _ _)
  | block _ ih => exact ih
  | lexical h1 => exact h1.ste
  | if_ h1 _ _ hb iha => exact ((h1.ste.trans (ste_marked _)).trans iha).trans ((ste_marked _).trans (visitIf_ste hb))
  | ifElse h1 _ _ _ hb iha ihn =>
    exact ((((h1.ste.trans (ste_marked _)).trans iha).trans (ste_marked _)).trans ihn).trans
      ((ste_marked _).trans (visitIf_ste hb))
  | switch _ h1 h2 _ _ _ hb ihb =>
    exact ((((h1.ste.trans h2.ste).trans (ste_marked _)).trans (ste_marked _)).trans ihb).trans (visitSwitch_ste hb)
  | break_ => exact closeCurrent_ste _ _
  | return_ h1 => exact h1.ste.trans (closeCurrent_ste _ _)
  | returnVoid => exact closeCurrent_ste _ _
  | stop => exact StE.refl _
  | step _ _ _ ih1 ih2 => exact ih1.trans ih2
  | done => exact StE.refl _
  | body _ _ ih1 ih2 => exact (ih1.trans (ste_marked _)).trans ih2

def StmtsS (c : Ctx) (bl : Option Nat) (ss : List Stmt) : Prop :=
  ∀ s s', run (walkStmts c bl ss) s = (some true, s') → StE s.b s'.b

def BodiesS (c : Ctx) (bl : Option Nat) (cl : List (Option Expr × List Stmt)) : Prop :=
  ∀ s s' bodies, run (walkBodies c bl cl) s = (some bodies, s') → bodies.length = cl.length → StE s.b s'.b

theorem StmtsRun.ste {c : Ctx} {bl : Option Nat} {ss : List Stmt} {s s' : WState} (h : StmtsRun c bl ss s s') : StE s.b s'.b :=
  h.induct (motive := fun _ s s' => StE s.b s'.b) (fun _ => StE.refl _) fun h1 ih => h1.ste.trans ih

theorem s_stmts (c : Ctx) (bl : Option Nat) : (ss : List Stmt) → StmtsS c bl ss := fun _ _ _ h => (StmtsRun.of_run h).ste

theorem s_bodies (c : Ctx) (bl : Option Nat) : (cl : List (Option Expr × List Stmt)) → BodiesS c bl cl := fun cl s s' bodies h hlen =>
  ((bodiesRun c bl cl s bodies s' h).2 hlen).induct (motive := fun _ s _ s' => StE s.b s'.b) (fun _ => StE.refl _)
    fun h1 ih => (h1.ste.trans (ste_marked _)).trans ih

theorem ParamsRun.ste {c : Ctx} {ps : List (String × Option (List String))} {s s' : WState}
    (h : ParamsRun c ps s s') : StE s.b s'.b := by
  induction h with
  | nil => exact StE.refl _
  | param _ _ h1 _ ih => exact (visitFunctionParameter_ste h1).trans ih

theorem s_program (c : Ctx) (callback : Bool) (p : Program) (s s' : WState)
    (h : run (walkProgram c callback p) s = (some (), s')) : StE s.b s'.b := by
  cases programRun h with
  | stmt h1 => exact h1.ste
  | function _ h1 h2 => exact h1.ste.trans h2.ste

/-- no statement of a built body is an observe statement or reads a property of the null constant -/
theorem build_statements_good (ctx : Ctx) (callback : Bool) (p : Program) (code : CodeBody)
    (h : (build ctx callback p).code = some code) : ∀ b ∈ code.blocks, ∀ s ∈ b.statements, GoodSt s := by
  obtain ⟨st, hrun, rfl, _⟩ := build_code h
  have hste := s_program ctx callback p {} st hrun
  obtain ⟨hrel, _⟩ := finalize_rel st.b.code st.b.currentRef
  intro b hb s hs
  obtain ⟨i, hbi⟩ := List.mem_iff_getElem?.1 hb
  obtain ⟨o, ho, rel⟩ := hrel.back hbi
  rw [rel.st] at hs
  have hmem : s ∈ stmtsOf st.b i := by
    unfold stmtsOf
    rw [ho]
    exact hs
  rcases hste i s hmem with h0 | h0
  · rw [stmtsOf_init] at h0; cases h0
  · exact h0

end QV.Proofs.BuilderInv
