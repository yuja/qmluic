/-
  A run of generate-ui is a sequence of jobs, each one compare-then-write of a (path, content): `generateUiLoop_eq` says
  so, `writeIfChanged_cases` says what the trace of one job can be, and `runJobs_trace` lifts a fact about the ops of one
  job to the whole run.  Kill points are handled by splitting `CrashState` along `++` (`crash_append`) down to one op.
-/
import QV.Spec.Fs
import QV.Model.Cli

namespace QV.Proofs.Cli
open QV.Spec.Fs QV.Model.Cli

theorem asciiLower_eq_lowerChar : asciiLower = lowerChar := by
  funext c
  unfold asciiLower lowerChar
  have h : (65 ≤ c.toNat ∧ c.toNat ≤ 90) ↔ ('A' ≤ c ∧ c ≤ 'Z') := by
    simp only [Char.le_def, UInt32.le_iff_toNat_le]
    exact Iff.rfl
  by_cases hc : 65 ≤ c.toNat ∧ c.toNat ≤ 90
  · rw [if_pos hc, if_pos (h.mp hc)]
  · rw [if_neg hc, if_neg (fun x => hc (h.mpr x))]

/-- the model's file names are the documented ones: lower-casing the whole name only changes the stem -/
theorem names_eq_spec (o : Options) (stem : Name) :
    (o.rules.typeNameToUiName stem, o.rules.typeNameToUiSupportCxxHeaderName stem)
      = specNames (!o.noLowercaseFileName) stem := by
  unfold Options.rules FileNameRules.typeNameToUiName FileNameRules.typeNameToUiSupportCxxHeaderName
    FileNameRules.applyCaseChange specNames
  cases o.noLowercaseFileName
  · -- lower-casing distributes over `++`; the constant parts (`.ui`, `uisupport_`, `.h`) have no capitals
    simp only [Bool.not_false, if_true, List.map_append, List.map_cons, asciiLower_eq_lowerChar]
    rfl
  · rfl

theorem rsplitDot_none {l : Name} (h : '.' ∉ l) : rsplitDot l = none := by
  induction l with
  | nil => rfl
  | cons c cs ih =>
    have hc : c ≠ '.' := fun e => h (by simp [e])
    have hcs : '.' ∉ cs := fun e => h (by simp [e])
    simp [rsplitDot, ih hcs, hc]

theorem rsplitDot_append (stem ext : Name) (h : '.' ∉ ext) :
    rsplitDot (stem ++ '.' :: ext) = some (stem, ext) := by
  induction stem with
  | nil => simp [rsplitDot, rsplitDot_none h]
  | cons c cs ih => simp [rsplitDot, ih]

theorem splitFileAtDot_append (stem ext : Name) (hs : stem ≠ []) (h : '.' ∉ ext) (he : ext ≠ []) :
    splitFileAtDot (stem ++ '.' :: ext) = (stem, some ext) := by
  unfold splitFileAtDot
  have hne : stem ++ '.' :: ext ≠ ['.', '.'] := by
    intro e
    cases stem with
    | nil => exact hs rfl
    | cons c cs =>
      cases cs with
      | nil => simp at e; exact he e.2
      | cons d ds => simp at e
  rw [if_neg hne, rsplitDot_append stem ext h]
  simp [hs]

theorem fileName_snoc (dir : Path) (n : Name) : fileName (dir ++ [.normal n]) = some n := by
  simp [fileName]

theorem withFileName_snoc (dir : Path) (n m : Name) :
    withFileName (dir ++ [.normal n]) m = dir ++ [.normal m] := by
  simp [withFileName, fileName_snoc]

@[simp] theorem run_nil (fs : FS) : run fs [] = fs := rfl
@[simp] theorem run_cons (fs : FS) (op : Op) (ops : List Op) : run fs (op :: ops) = run (step fs op) ops := rfl
theorem run_append (fs : FS) (a b : List Op) : run fs (a ++ b) = run (run fs a) b := by
  simp [run, List.foldl_append]

@[simp] theorem set_same (fs : FS) (p : Path) (n : Option Node) : (fs.set p n) p = n := by simp [FS.set]
theorem set_other (fs : FS) {p q : Path} (n : Option Node) (h : q ≠ p) : (fs.set p n) q = fs q := by
  simp [FS.set, h]

theorem crash_nil {fs s : FS} (h : CrashState fs [] s) : s = fs := by
  cases h; rfl

theorem crash_cons {fs s : FS} {op : Op} {rest : List Op} (h : CrashState fs (op :: rest) s) :
    s = fs ∨ (∃ p b n, op = .write p b ∧ s = step fs (.write p (b.take n))) ∨ CrashState (step fs op) rest s := by
  cases h with
  | here => exact .inl rfl
  | partialWrite _ p b rest n => exact .inr (.inl ⟨p, b, n, rfl, rfl⟩)
  | next h => exact .inr (.inr h)

theorem crash_append {a b : List Op} : ∀ {fs s : FS}, CrashState fs (a ++ b) s →
    CrashState fs a s ∨ CrashState (run fs a) b s := by
  induction a with
  | nil => intro fs s h; exact .inr h
  | cons op a ih =>
    intro fs s h
    rcases crash_cons h with rfl | ⟨p, c, n, rfl, rfl⟩ | h'
    · exact .inl (.here _ _)
    · exact .inl (.partialWrite _ _ _ _ _)
    · rcases ih h' with h1 | h2
      · exact .inl (.next h1)
      · exact .inr h2

theorem crash_run (fs : FS) (t : List Op) : CrashState fs t (run fs t) := by
  induction t generalizing fs with
  | nil => exact .here _ _
  | cons op t ih => exact .next (ih _)

theorem crash_mono {a t : List Op} (h : a <+: t) {fs s : FS} (hc : CrashState fs a s) : CrashState fs t s := by
  obtain ⟨b, rfl⟩ := h
  induction hc with
  | here => exact .here _ _
  | partialWrite => exact .partialWrite _ _ _ _ _
  | next _ ih => exact .next ih

theorem step_untouched {fs : FS} {op : Op} {p : Path} (h : p ∉ op.targets) : step fs op p = fs p := by
  cases op with
  | mkdir q => exact set_other _ _ (by simpa [Op.targets] using h)
  | createTemp q => exact set_other _ _ (by simpa [Op.targets] using h)
  | write q b =>
    have hq : p ≠ q := by simpa [Op.targets] using h
    simp only [step]
    cases fs q with
    | none => rfl
    | some n =>
      cases n with
      | dir => rfl
      | file old => exact set_other _ _ hq
  | chmod q => rfl
  | rename s d =>
    have hsd : p ≠ s ∧ p ≠ d := by simpa [Op.targets] using h
    simp only [step]
    split
    · rfl
    · rw [set_other _ _ hsd.1, set_other _ _ hsd.2]

theorem crash_untouched {p : Path} {ops : List Op} {fs s : FS} (h : CrashState fs ops s)
    (hall : ∀ op ∈ ops, p ∉ op.targets) : s p = fs p := by
  induction h with
  | here => rfl
  -- a partial write has the targets of the whole one (`:)`: the op is read off the trace, not off the goal)
  | partialWrite => exact step_untouched (hall (.write _ _) List.mem_cons_self :)
  | next _ ih =>
    rw [ih fun op' h => hall op' (List.mem_cons_of_mem _ h)]
    exact step_untouched (hall _ List.mem_cons_self)

theorem run_untouched {p : Path} {ops : List Op} {fs : FS} (h : ∀ op ∈ ops, p ∉ op.targets) :
    run fs ops p = fs p :=
  crash_untouched (crash_run fs ops) h

/-- `MkOps fs d mk`: the ops of `mk` are `mkdir`s of prefixes of `d` at which `fs` holds nothing -/
def MkOps (fs : FS) (d : Path) (mk : List Op) : Prop := ∀ op ∈ mk, ∃ q ∈ prefixes d, op = .mkdir q ∧ fs q = none

theorem mkdirWalk_spec {fs : FS} : ∀ {qs : List Path} {mk : List Op}, mkdirWalk fs qs = some mk →
    ∀ op ∈ mk, ∃ q ∈ qs, op = .mkdir q ∧ fs q = none := by
  intro qs
  induction qs with
  | nil => intro mk h; cases h; nofun
  | cons q qs ih =>
    intro mk h op hop
    have hrest : ∀ {mk'}, mkdirWalk fs qs = some mk' → op ∈ mk' → ∃ q' ∈ q :: qs, op = .mkdir q' ∧ fs q' = none :=
      fun hw hop' => let ⟨q', hq', e⟩ := ih hw op hop'; ⟨q', List.mem_cons_of_mem _ hq', e⟩
    unfold mkdirWalk at h
    split at h
    · exact hrest h hop
    · split at h
      · cases h
      · rename_i hnone
        obtain ⟨mk', hw, rfl⟩ := Option.map_eq_some_iff.1 h
        rcases List.mem_cons.mp hop with rfl | hop'
        · exact ⟨q, List.mem_cons_self, rfl, hnone⟩
        · exact hrest hw hop'

/-- relation between the state `fs` before a `create_dir_all(d)` and any state during/after it -/
def MkRel (d : Path) (fs s : FS) : Prop :=
  ∀ p, s p = fs p ∨ (fs p = none ∧ s p = some .dir ∧ p ∈ prefixes d)

theorem crash_mkdirs {d : Path} {fs0 : FS} {mk : List Op} (hall : MkOps fs0 d mk) {fs s : FS}
    (hrel : MkRel d fs0 fs) (h : CrashState fs mk s) : MkRel d fs0 s := by
  induction h with
  | here => exact hrel
  | partialWrite =>
    obtain ⟨_, _, e, _⟩ := hall _ List.mem_cons_self
    cases e
  | @next _ op _ _ _ ih =>
    obtain ⟨q, hq, rfl, hnone⟩ := hall op List.mem_cons_self
    refine ih (fun op hop => hall op (List.mem_cons_of_mem _ hop)) fun p => ?_
    by_cases hp : p = q
    · subst hp; exact .inr ⟨hnone, set_same _ _ _, hq⟩
    · rw [step_untouched (by simpa [Op.targets] using hp)]; exact hrel p

/-- `create temp; write; fchmod; rename` of content `b` through the temp path `t` onto `o` -/
def tempOps (t o : Path) (b : Bytes) : List Op := [.createTemp t, .write t b, .chmod t, .rename t o]

theorem tempOps_targets {t o : Path} {b : Bytes} {op : Op} (h : op ∈ tempOps t o b) :
    ∀ p ∈ op.targets, p = o ∨ p = t := by
  simp only [tempOps, List.mem_cons, List.not_mem_nil, or_false] at h
  rcases h with rfl | rfl | rfl | rfl <;> simp [Op.targets]

theorem run_tempOps {s1 : FS} {t o : Path} {b : Bytes} (hto : t ≠ o) : run s1 (tempOps t o b) o = some (.file b) := by
  simp [tempOps, step, FS.set, hto, Ne.symm hto]

/-- states while `tempOps` runs (including a partially executed `write`): only the temp path and — in one
    step, with the complete content — the destination differ -/
theorem crash_tempOps {s1 s : FS} {t o : Path} {b : Bytes} (h : CrashState s1 (tempOps t o b) s) :
    ∀ p, s p = s1 p ∨ p = t ∨ (p = o ∧ s p = some (.file b)) := by
  intro p
  by_cases hp : p = t
  · exact .inr (.inl hp)
  -- up to the rename nothing but `t` is targeted; the rename gives `o` what `t` holds then
  have h3 : ∀ op ∈ [Op.createTemp t, .write t b, .chmod t], p ∉ op.targets := by simp [Op.targets, hp]
  rcases crash_append (a := [.createTemp t, .write t b, .chmod t]) (b := [.rename t o]) h with h | h
  · exact .inl (crash_untouched h h3)
  · rcases crash_cons h with rfl | ⟨_, _, _, e, _⟩ | h'
    · exact .inl (run_untouched h3)
    · cases e
    · rw [crash_nil h']
      by_cases hpo : p = o
      · subst hpo
        exact .inr (.inr ⟨rfl, by simp [step, FS.set, hp, Ne.symm hp]⟩)
      · exact .inl ((step_untouched (by simp [Op.targets, hp, hpo])).trans (run_untouched h3))

theorem parent_eq {o dir : Path} (h : parent o = some dir) : dir = o.dropLast := by
  unfold parent at h
  split at h <;> simp at h <;> exact h.symm

def _root_.QV.Model.Cli.Status.isIo : Status → Bool
  | .invalidFileName | .ioMkdir | .ioTemp | .ioPersist => true
  | _ => false

/-- Every trace of one compare-then-write of `b` to `o` is a prefix of the complete one (`mk`: the directories
    created), and stops before the temp file exists unless the temp name is free.  It is the whole trace, or empty
    with `b` in place already, unless the job fails with an I/O status. -/
theorem writeIfChanged_cases (fs : FS) (nm : Name) (o : Path) (b : Bytes) :
    ∃ mk, MkOps fs o.dropLast mk ∧ (writeIfChanged fs nm o b).1 <+: mk ++ tempOps (o.dropLast ++ [.normal nm]) o b ∧
      ((writeIfChanged fs nm o b).1 <+: mk ∨ fs (o.dropLast ++ [.normal nm]) = none) ∧
      ((writeIfChanged fs nm o b).2 = .ok ∧
          (fs o = some (.file b) ∧ (writeIfChanged fs nm o b).1 = [] ∨
            (writeIfChanged fs nm o b).1 = mk ++ tempOps (o.dropLast ++ [.normal nm]) o b) ∨
        (writeIfChanged fs nm o b).2.isIo = true) := by
  unfold writeIfChanged
  by_cases hsame : fs o = some (.file b)
  · rw [if_pos hsame]
    exact ⟨[], nofun, List.nil_prefix, .inl List.nil_prefix, .inl ⟨rfl, .inl ⟨hsame, rfl⟩⟩⟩
  rw [if_neg hsame]
  unfold withOutputFile
  cases hdir : parent o with
  | none => exact ⟨[], nofun, List.nil_prefix, .inl List.nil_prefix, .inr rfl⟩
  | some dir =>
    cases parent_eq hdir
    dsimp only
    cases hmk : mkdirAll fs o.dropLast with
    | none => exact ⟨[], nofun, List.nil_prefix, .inl List.nil_prefix, .inr rfl⟩
    | some mk =>
      refine ⟨mk, mkdirWalk_spec hmk, ?_⟩
      dsimp only
      by_cases hfree : fs (o.dropLast ++ [.normal nm]) = none
      · rw [if_neg (not_not_intro hfree)]
        by_cases hd : isDir fs o = true
        · -- `persist` fails: all of `tempOps` but the rename
          rw [if_pos hd]
          exact ⟨(List.prefix_append_right_inj _).2 ⟨[_], rfl⟩, .inr hfree, .inr rfl⟩
        · rw [if_neg hd, List.append_assoc]
          exact ⟨List.prefix_refl _, .inr hfree, .inl ⟨rfl, .inr rfl⟩⟩
      · rw [if_pos hfree]
        exact ⟨List.prefix_append _ _, .inl (List.prefix_refl _), .inr rfl⟩

theorem writeIfChanged_skip {fs : FS} {nm : Name} {o : Path} {b : Bytes} (h : fs o = some (.file b)) :
    writeIfChanged fs nm o b = ([], .ok) := by
  simp [writeIfChanged, h]

theorem writeIfChanged_status (fs : FS) (nm : Name) (o : Path) (b : Bytes) :
    (writeIfChanged fs nm o b).2 = .ok ∨ (writeIfChanged fs nm o b).2.isIo = true :=
  let ⟨_, _, _, _, h⟩ := writeIfChanged_cases fs nm o b
  h.imp_left And.left

/-- relation between the state `fs` before one output is (re)written and any state during/after it -/
def JobRel (o : Path) (b : Bytes) (t : Path) (fs s : FS) : Prop :=
  ∀ p, s p = fs p ∨ (fs p = none ∧ s p = some .dir ∧ p ∈ prefixes o.dropLast) ∨ p = t ∨
    (p = o ∧ s p = some (.file b))

theorem writeIfChanged_crash {fs s : FS} {nm : Name} {o : Path} {b : Bytes}
    (h : CrashState fs (writeIfChanged fs nm o b).1 s) : JobRel o b (o.dropLast ++ [.normal nm]) fs s := by
  obtain ⟨mk, hmk, hpre, _⟩ := writeIfChanged_cases fs nm o b
  have hrefl : MkRel o.dropLast fs fs := fun _ => .inl rfl
  intro p
  rcases crash_append (crash_mono hpre h) with h1 | h2
  · rcases crash_mkdirs hmk hrefl h1 p with e | e
    · exact .inl e
    · exact .inr (.inl e)
  · rcases crash_tempOps h2 p with e | e | e
    · rcases crash_mkdirs hmk hrefl (crash_run fs mk) p with e' | e'
      · exact .inl (e.trans e')
      · exact .inr (.inl ⟨e'.1, e.trans e'.2.1, e'.2.2⟩)
    · exact .inr (.inr (.inl e))
    · exact .inr (.inr (.inr e))

theorem writeIfChanged_ok {fs : FS} {nm : Name} {o : Path} {b : Bytes}
    (h : (writeIfChanged fs nm o b).2 = .ok) (hne : o.dropLast ++ [.normal nm] ≠ o) :
    run fs (writeIfChanged fs nm o b).1 o = some (.file b) := by
  obtain ⟨mk, _, _, _, ⟨_, ⟨hs, e⟩ | e⟩ | hio⟩ := writeIfChanged_cases fs nm o b
  · -- skipped: `o` holds `b` already
    rw [e]
    exact hs
  · -- completed: the last op renames the temp file onto `o`
    rw [e, run_append]
    exact run_tempOps hne
  · rw [h] at hio; cases hio

/-- `OpFor o op`: `op` belongs to the (re)writing of output `o`: it creates an ancestor directory of `o`,
    or touches only `o` itself and one sibling (the temp file) -/
def OpFor (o : Path) (op : Op) : Prop :=
  (∃ q ∈ prefixes o.dropLast, op = .mkdir q) ∨ ∃ nm, ∀ p ∈ op.targets, p = o ∨ p = o.dropLast ++ [.normal nm]

theorem writeIfChanged_ops {fs : FS} {nm : Name} {o : Path} {b : Bytes} :
    ∀ op ∈ (writeIfChanged fs nm o b).1, OpFor o op := by
  intro op hop
  obtain ⟨mk, hmk, hpre, _⟩ := writeIfChanged_cases fs nm o b
  rcases List.mem_append.1 (hpre.subset hop) with h | h
  · obtain ⟨q, hq, e, _⟩ := hmk op h
    exact .inl ⟨q, hq, e⟩
  · exact .inr ⟨nm, tempOps_targets h⟩

/-- one compare-then-write of `o` targets `o` and otherwise only paths at which nothing exists: `mkdir` only
    where nothing is, the temp name only if it is free (`O_EXCL`) -/
theorem writeIfChanged_targets (fs : FS) (nm : Name) (o : Path) (b : Bytes) :
    ∀ op ∈ (writeIfChanged fs nm o b).1, ∀ p ∈ op.targets, fs p = none ∨ p = o := by
  obtain ⟨mk, hmk, hpre, hcase, _⟩ := writeIfChanged_cases fs nm o b
  intro op hop p hp
  have hmkop : op ∈ mk → fs p = none ∨ p = o := fun h => by
    obtain ⟨q, _, rfl, hnone⟩ := hmk op h
    cases List.mem_singleton.1 hp
    exact .inl hnone
  rcases hcase with hpm | hfree
  · exact hmkop (hpm.subset hop)
  · rcases List.mem_append.1 (hpre.subset hop) with h | h
    · exact hmkop h
    · exact (tempOps_targets h p hp).symm.imp (fun e => by rw [e]; exact hfree) id

theorem writeIfChanged_avoids {fs : FS} {nm : Name} {o : Path} {b : Bytes} {p : Path} {c : Bytes}
    (hp : fs p = some (.file c)) (hsame : p = o → b = c) : ∀ op ∈ (writeIfChanged fs nm o b).1, p ∉ op.targets := by
  by_cases hpo : p = o
  · cases hpo; cases hsame rfl
    rw [writeIfChanged_skip hp]; nofun
  · intro op hop hmem
    rcases writeIfChanged_targets fs nm o b op hop p hmem with e | e
    · rw [hp] at e; cases e
    · exact hpo e

variable {opts : Options} {tmp : Nat → Name}

/-- the names tempfile gives its files: `.tmp` followed by characters other than `.` (it uses six
    alphanumerics) -/
def IsTempName (n : Name) : Prop := ∃ r, n = ['.', 't', 'm', 'p'] ++ r ∧ '.' ∉ r

/-- every (path, content) a run may write -/
def allOutputs (opts : Options) (srcs : List Source) : List (Path × Bytes) := srcs.flatMap (sourceOutputs opts)

def NoCollision (J : List (Path × Bytes)) : Prop := ∀ o b b', (o, b) ∈ J → (o, b') ∈ J → b = b'

/-- the outputs of the sources a run gets to: a source that ends in diagnostics is skipped, any other
    untranslated source (not loaded, unreadable) ends the run -/
def execOutputs (opts : Options) : List Source → List (Path × Bytes)
  | [] => []
  | s :: rest =>
    match planFile opts s with
    | .ok _ => sourceOutputs opts s ++ execOutputs opts rest
    | .error .diagnostic => execOutputs opts rest
    | .error _ => []

theorem execOutputs_sub {x : Path × Bytes} : ∀ {srcs : List Source},
    x ∈ execOutputs opts srcs → x ∈ allOutputs opts srcs := by
  intro srcs
  induction srcs with
  | nil => nofun
  | cons s rest ih =>
    intro h
    rw [allOutputs, List.flatMap_cons, List.mem_append]
    unfold execOutputs at h
    split at h
    · exact (List.mem_append.1 h).imp_right ih
    · exact .inr (ih h)
    · cases h

/-- the jobs `(path, content)` of `J` one after the other, each a compare-then-write under the next temp name,
    until one fails; with the ops and the status, the next free temp number -/
def runJobs (tmp : Nat → Name) : FS → Nat → List (Path × Bytes) → List Op × Nat × Status
  | _, k, [] => ([], k, .ok)
  | fs, k, x :: rest =>
    let r := writeIfChanged fs (tmp k) x.1 x.2
    if r.2 ≠ .ok then (r.1, k + 1, r.2)
    else
      let r' := runJobs tmp (run fs r.1) (k + 1) rest
      (r.1 ++ r'.1, r'.2)

theorem runJobs_status : ∀ (J : List (Path × Bytes)) (fs : FS) (k : Nat),
    (runJobs tmp fs k J).2.2 = .ok ∨ (runJobs tmp fs k J).2.2.isIo = true := by
  intro J
  induction J with
  | nil => intro _ _; exact .inl rfl
  | cons x rest ih =>
    intro fs k
    simp only [runJobs]
    split
    · rename_i h; exact .inr ((writeIfChanged_status fs (tmp k) x.1 x.2).resolve_left h)
    · exact ih _ _

theorem runJobs_append (b : List (Path × Bytes)) : ∀ (a : List (Path × Bytes)) (fs : FS) (k : Nat),
    runJobs tmp fs k (a ++ b) =
      if (runJobs tmp fs k a).2.2 ≠ .ok then runJobs tmp fs k a
      else ((runJobs tmp fs k a).1 ++ (runJobs tmp (run fs (runJobs tmp fs k a).1) (runJobs tmp fs k a).2.1 b).1,
            (runJobs tmp (run fs (runJobs tmp fs k a).1) (runJobs tmp fs k a).2.1 b).2) := by
  intro a
  induction a with
  | nil => intro fs k; rfl
  | cons x rest ih =>
    intro fs k
    simp only [List.cons_append, runJobs]
    by_cases h : (writeIfChanged fs (tmp k) x.1 x.2).2 ≠ .ok
    · simp only [if_pos h]
    · simp only [if_neg h, ih]
      by_cases h2 : (runJobs tmp (run fs (writeIfChanged fs (tmp k) x.1 x.2).1) (k + 1) rest).2.2 ≠ .ok
      · simp only [if_pos h2]
      · simp only [if_neg h2, run_append, List.append_assoc]

theorem generateUiFile_eq {fs : FS} {k : Nat} {src : Source}
    {uh : (Path × Bytes) × (Path × Bytes)} (h : planFile opts src = .ok uh) :
    generateUiFile opts tmp fs k src = runJobs tmp fs k (sourceOutputs opts src) := by
  simp only [generateUiFile, sourceOutputs, h, runJobs]
  split
  · rfl
  · cases opts.noDynamicBinding
    · simp only [Bool.false_eq_true, if_false, runJobs]
      split
      · rfl
      · rename_i h2; simp [Decidable.not_not.1 h2]
    · simp [runJobs]

/-- how a run ends if no job fails: at the first source that is not loaded, else with the remembered diagnostics -/
def planStatus (opts : Options) : Bool → List Source → Status
  | diag, [] => if diag then .diagnostic else .ok
  | diag, s :: rest =>
    match planFile opts s with
    | .ok _ => planStatus opts diag rest
    | .error st => if st = .diagnostic then planStatus opts true rest else st

theorem execOutputs_cons_ok {src : Source} {rest : List Source} {uh : (Path × Bytes) × (Path × Bytes)}
    (h : planFile opts src = .ok uh) :
    execOutputs opts (src :: rest) = sourceOutputs opts src ++ execOutputs opts rest := by
  simp only [execOutputs, h]

theorem generateUiFile_error {fs : FS} {k : Nat} {src : Source} {st : Status} (h : planFile opts src = .error st) :
    generateUiFile opts tmp fs k src = ([], k, st) := by
  simp only [generateUiFile, h]

theorem execOutputs_cons_error {src : Source} {rest : List Source} {st : Status}
    (h : planFile opts src = .error st) :
    execOutputs opts (src :: rest) = if st = .diagnostic then execOutputs opts rest else [] := by
  cases st <;> simp [execOutputs, h]

theorem planFile_error_ne_ok {src : Source} {st : Status} (h : planFile opts src = .error st) :
    st ≠ .ok := by
  rintro rfl
  unfold planFile at h
  -- by the outcome: unreadable, not loaded, failed, translated (a `.qml` file with a stem, or not)
  split at h
  · cases h
  · cases h
  · split at h <;> cases h
  · split at h
    · split at h <;> cases h
    · cases h

/-- The loop of generate_ui runs the jobs of the sources it gets to, and ends as the first failing job does,
    or as the sources alone decide. -/
theorem generateUiLoop_eq : ∀ (srcs : List Source) (fs : FS) (k : Nat) (diag : Bool),
    generateUiLoop opts tmp fs k diag srcs =
      ((runJobs tmp fs k (execOutputs opts srcs)).1,
        if (runJobs tmp fs k (execOutputs opts srcs)).2.2 = .ok then planStatus opts diag srcs
        else (runJobs tmp fs k (execOutputs opts srcs)).2.2) := by
  intro srcs
  induction srcs with
  | nil => intro _ _ _; rfl
  | cons src rest ih =>
    intro fs k diag
    unfold generateUiLoop planStatus
    cases hp : planFile opts src with
    | error st =>
      have hok := planFile_error_ne_ok hp
      rw [execOutputs_cons_error hp]
      by_cases hd : st = .diagnostic
      · subst hd
        simp [generateUiFile_error hp, ih]
      · simp [generateUiFile_error hp, hd, hok, runJobs]
    | ok uh =>
      simp only [execOutputs_cons_ok hp, generateUiFile_eq hp, runJobs_append, ih]
      rcases runJobs_status (tmp := tmp) (sourceOutputs opts src) fs k with e | e
      · -- the jobs of `src` succeeded: the loop goes on with `diag` unchanged
        simp [e, show (Status.ok == Status.diagnostic) = false from rfl]
      · -- a job of `src` failed with an I/O status: the loop ends with it
        have h1 : (runJobs tmp fs k (sourceOutputs opts src)).2.2 ≠ .ok := by intro e'; rw [e'] at e; cases e
        have h2 : (runJobs tmp fs k (sourceOutputs opts src)).2.2 ≠ .diagnostic := by intro e'; rw [e'] at e; cases e
        simp [h1, h2]

/-- Induction over a run of jobs: what holds of the empty trace, of the trace of each job from every state, and of
    `a ++ b` when it holds of `a` and of `b` from the state after `a`, holds of the trace of the run. -/
theorem runJobs_trace {J : List (Path × Bytes)} {P : FS → List Op → Prop} (hnil : ∀ fs, P fs [])
    (happ : ∀ fs a b, P fs a → P (run fs a) b → P fs (a ++ b))
    (hjob : ∀ fs k, ∀ x ∈ J, P fs (writeIfChanged fs (tmp k) x.1 x.2).1) :
    ∀ (fs : FS) (k : Nat), P fs (runJobs tmp fs k J).1 := by
  induction J with
  | nil => intro fs _; exact hnil fs
  | cons x rest ih =>
    intro fs k
    have hx := hjob fs k x List.mem_cons_self
    simp only [runJobs]
    split
    · exact hx
    · exact happ _ _ _ hx (ih (fun fs k y hy => hjob fs k y (List.mem_cons_of_mem _ hy)) _ _)

theorem runJobs_ops {J : List (Path × Bytes)} (fs : FS) (k : Nat) :
    ∀ op ∈ (runJobs tmp fs k J).1, ∃ x ∈ J, OpFor x.1 op := by
  refine runJobs_trace (P := fun _ ops => ∀ op ∈ ops, ∃ x ∈ J, OpFor x.1 op) (fun _ => nofun) ?_ ?_ fs k
  · intro _ a b ha hb op hop
    exact (List.mem_append.1 hop).elim (ha op) (hb op)
  · intro fs k x hx op hop
    exact ⟨x, hx, writeIfChanged_ops op hop⟩

/-- **Only when needed, and nothing else**: an existing file is the target of no op of the jobs unless one of
    them plans another content for exactly that path. -/
theorem runJobs_avoids {J : List (Path × Bytes)} {p : Path} {c : Bytes}
    (hall : ∀ b, (p, b) ∈ J → b = c) (fs : FS) (k : Nat) (hp : fs p = some (.file c)) :
    ∀ op ∈ (runJobs tmp fs k J).1, p ∉ op.targets := by
  refine runJobs_trace (P := fun fs ops => fs p = some (.file c) → ∀ op ∈ ops, p ∉ op.targets)
    (fun _ _ => nofun) ?_ ?_ fs k hp
  · intro fs a b ha hb hp op hop
    rcases List.mem_append.1 hop with h | h
    · exact ha hp op h
    · exact hb ((run_untouched (ha hp)).trans hp) op h
  · intro fs k x hx hp
    exact writeIfChanged_avoids hp fun e => hall x.2 (e ▸ hx)

/-- `Safe J fs s`: compared with `fs`, state `s` differs at a path only by (1) the *complete* content of a
    job of `J` for that very path, (2) a temp file next to an output, (3) a directory created on the way
    to an output where nothing existed. -/
def Safe (J : List (Path × Bytes)) (fs s : FS) : Prop :=
  ∀ p, s p = fs p
    ∨ (∃ b, (p, b) ∈ J ∧ s p = some (.file b))
    ∨ (∃ o b nm, (o, b) ∈ J ∧ IsTempName nm ∧ p = o.dropLast ++ [.normal nm])
    ∨ (fs p = none ∧ s p = some .dir ∧ ∃ o b, (o, b) ∈ J ∧ p ∈ prefixes o.dropLast)

theorem safe_step {J : List (Path × Bytes)} {fs0 s0 s : FS} {o : Path} {b : Bytes} {nm : Name}
    (h0 : Safe J fs0 s0) (hj : JobRel o b (o.dropLast ++ [.normal nm]) s0 s) (hmem : (o, b) ∈ J)
    (hnm : IsTempName nm) : Safe J fs0 s := by
  intro p
  rcases hj p with e | ⟨e1, e2, e3⟩ | e | ⟨e1, e2⟩
  · rcases h0 p with h | ⟨b', h1, h2⟩ | h | ⟨h1, h2, h3⟩
    · exact .inl (e.trans h)
    · exact .inr (.inl ⟨b', h1, e.trans h2⟩)
    · exact .inr (.inr (.inl h))
    · exact .inr (.inr (.inr ⟨h1, e.trans h2, h3⟩))
  · rcases h0 p with h | ⟨b', _, h2⟩ | h | ⟨_, h2, _⟩
    · exact .inr (.inr (.inr ⟨h ▸ e1, e2, o, b, hmem, e3⟩))
    · rw [e1] at h2; cases h2
    · exact .inr (.inr (.inl h))
    · rw [e1] at h2; cases h2
  · exact .inr (.inr (.inl ⟨o, b, nm, hmem, hnm, e⟩))
  · exact .inr (.inl ⟨b, e1 ▸ hmem, e2⟩)

theorem runJobs_crash (htmp : ∀ k, IsTempName (tmp k)) {J J' : List (Path × Bytes)}
    (hJ : ∀ x ∈ J, x ∈ J') (fs : FS) (k : Nat) :
    ∀ {fs0 s : FS}, Safe J' fs0 fs → CrashState fs (runJobs tmp fs k J).1 s → Safe J' fs0 s := by
  refine runJobs_trace (P := fun fs ops => ∀ {fs0 s : FS}, Safe J' fs0 fs → CrashState fs ops s → Safe J' fs0 s)
    ?_ ?_ ?_ fs k
  · intro fs fs0 s h0 h; rw [crash_nil h]; exact h0
  · intro fs a b ha hb fs0 s h0 h
    rcases crash_append h with h1 | h2
    · exact ha h0 h1
    · exact hb (ha h0 (crash_run fs a)) h2
  · intro fs k x hx fs0 s h0 h
    exact safe_step h0 (writeIfChanged_crash h) (hJ x hx) (htmp k)

/-- after jobs that all succeed every path of `J` holds its content: no later job targets it (`runJobs_avoids`) -/
theorem runJobs_establish : ∀ (J : List (Path × Bytes)) (fs : FS) (k : Nat),
    (runJobs tmp fs k J).2.2 = .ok → NoCollision J → (∀ x ∈ J, ∀ k, x.1.dropLast ++ [.normal (tmp k)] ≠ x.1) →
    ∀ x ∈ J, run fs (runJobs tmp fs k J).1 x.1 = some (.file x.2) := by
  intro J
  induction J with
  | nil => intro _ _ _ _ _; nofun
  | cons y rest ih =>
    intro fs k hok hnc hne x hx
    simp only [runJobs] at hok ⊢
    split at hok
    · rename_i h; exact absurd hok h
    rename_i h
    rw [if_neg h, run_append]
    rcases List.mem_cons.1 hx with rfl | hx
    · have hx := writeIfChanged_ok (Decidable.not_not.1 h) (hne x List.mem_cons_self k)
      rw [run_untouched (runJobs_avoids (fun b hb => hnc x.1 b x.2 (List.mem_cons_of_mem _ hb) List.mem_cons_self) _ _ hx)]
      exact hx
    · exact ih _ _ hok (fun o b b' h1 h2 => hnc o b b' (List.mem_cons_of_mem _ h1) (List.mem_cons_of_mem _ h2))
        (fun z hz => hne z (List.mem_cons_of_mem _ hz)) x hx

theorem runJobs_noop {s : FS} : ∀ (J : List (Path × Bytes)) (k : Nat),
    (∀ x ∈ J, s x.1 = some (.file x.2)) → (runJobs tmp s k J).1 = [] ∧ (runJobs tmp s k J).2.2 = .ok := by
  intro J
  induction J with
  | nil => intro _ _; exact ⟨rfl, rfl⟩
  | cons x rest ih =>
    intro k hold
    simp only [runJobs, writeIfChanged_skip (hold x List.mem_cons_self)]
    exact ih (k + 1) fun y hy => hold y (List.mem_cons_of_mem _ hy)

theorem not_temp_of_dot {a r : Name} (ha : a ≠ []) : ¬ IsTempName (a ++ '.' :: r) := by
  rintro ⟨r', e, hr'⟩
  cases a with
  | nil => exact ha rfl
  | cons c a' =>
    simp only [List.cons_append, List.cons.injEq] at e
    have hmem : '.' ∈ a' ++ '.' :: r := by simp
    rw [e.2] at hmem
    simp at hmem
    exact hr' hmem

theorem not_temp_applyCaseChange (r : FileNameRules) {a : Name} (s : Name) (ha : a ≠ []) :
    ¬ IsTempName (r.applyCaseChange (a ++ '.' :: s)) := by
  unfold FileNameRules.applyCaseChange
  split
  · rw [List.map_append, List.map_cons, show asciiLower '.' = '.' by decide]
    exact not_temp_of_dot (by simpa using ha)
  · exact not_temp_of_dot ha

/-- no type name — not even the empty one, which gives `.ui` — gives a `.ui` name that tempfile could pick -/
theorem not_temp_uiName (r : FileNameRules) (tn : Name) : ¬ IsTempName (r.typeNameToUiName tn) := by
  cases tn with
  | nil =>
    rintro ⟨r', e, _⟩
    have : r.typeNameToUiName [] = ['.', 'u', 'i'] := by
      unfold FileNameRules.typeNameToUiName FileNameRules.applyCaseChange; split <;> rfl
    rw [this] at e
    cases e
  | cons c cs => exact not_temp_applyCaseChange r _ (List.cons_ne_nil c cs)

theorem key_append (a b : Path) : key (a ++ b) = key a ++ key b := by simp [key]
theorem key_snoc (dir : Path) (n : Name) : key (dir ++ [.normal n]) = key dir ++ [.normal n] := by simp [key]
theorem key_norm (p : Path) : key (norm p) = key p := by
  cases p with
  | nil => rfl
  | cons c cs => simp [norm, key, List.filter_cons, List.filter_filter]

theorem withFileName_shape (p : Path) (n : Name) :
    ∃ x, withFileName p n = x ++ [.normal n] ∧ (x = p ∨ x = p.dropLast) := by
  unfold withFileName
  split
  · exact ⟨_, rfl, .inr rfl⟩
  · exact ⟨_, rfl, .inl rfl⟩

theorem key_join_snoc (d x : Path) (n : Name) :
    key (join d (x ++ [.normal n])) = (if hasRoot (x ++ [.normal n]) then key x else key d ++ key x) ++ [.normal n] := by
  unfold join
  split
  · rw [key_snoc]
  · rw [key_norm, key_append, key_snoc, List.append_assoc]

theorem outputPaths_shape (opts : Options) (src : Path) (tn : Name) :
    (∃ b1, key (outputPaths opts src tn).1 = b1 ++ [.normal (opts.rules.typeNameToUiName tn)]) ∧
    (∃ b2, key (outputPaths opts src tn).2 = b2 ++ [.normal (opts.rules.typeNameToUiSupportCxxHeaderName tn)]) := by
  obtain ⟨x1, e1, _⟩ := withFileName_shape src (opts.rules.typeNameToUiName tn)
  obtain ⟨x2, e2, _⟩ := withFileName_shape src (opts.rules.typeNameToUiSupportCxxHeaderName tn)
  unfold outputPaths
  cases opts.outputDirectory with
  | none =>
    simp only [e1, e2]
    exact ⟨⟨_, key_snoc x1 _⟩, ⟨_, key_snoc x2 _⟩⟩
  | some d =>
    simp only [e1, e2]
    exact ⟨⟨_, key_join_snoc d x1 _⟩, ⟨_, key_join_snoc d x2 _⟩⟩

theorem planFile_ok {src : Source} {u h : Path × Bytes} (hp : planFile opts src = .ok (u, h)) :
    ∃ tn, u.1 = key (outputPaths opts src.path tn).1 ∧ h.1 = key (outputPaths opts src.path tn).2 := by
  unfold planFile at hp
  -- only the last outcome, translated, can give `.ok`
  split at hp
  · cases hp
  · cases hp
  · split at hp <;> cases hp
  · split at hp
    · split at hp
      · next tn _ => cases hp; exact ⟨tn, rfl, rfl⟩
      · cases hp
    · cases hp

theorem sourceOutputs_path {src : Source} {x : Path × Bytes} (hx : x ∈ sourceOutputs opts src) :
    ∃ tn, x.1 = key (outputPaths opts src.path tn).1 ∨ x.1 = key (outputPaths opts src.path tn).2 := by
  unfold sourceOutputs at hx
  split at hx
  · rename_i u h hp
    obtain ⟨tn, eu, eh⟩ := planFile_ok hp
    refine ⟨tn, ?_⟩
    rcases List.mem_cons.1 hx with rfl | hx
    · exact .inl eu
    · split at hx
      · cases hx
      · cases List.mem_singleton.1 hx; exact .inr eh
  · cases hx

theorem output_last {srcs : List Source} {x : Path × Bytes} (hx : x ∈ allOutputs opts srcs) :
    ∃ base n, x.1 = base ++ [.normal n] ∧ ¬ IsTempName n := by
  obtain ⟨src, _, hx⟩ := List.mem_flatMap.1 hx
  obtain ⟨tn, e⟩ := sourceOutputs_path hx
  obtain ⟨⟨b1, e1⟩, ⟨b2, e2⟩⟩ := outputPaths_shape opts src.path tn
  rcases e with e | e
  · exact ⟨b1, _, e.trans e1, not_temp_uiName _ _⟩
  · exact ⟨b2, _, e.trans e2, not_temp_applyCaseChange _ _ (by simp)⟩

theorem output_temp_ne {srcs : List Source} {x : Path × Bytes} (hx : x ∈ allOutputs opts srcs)
    {nm : Name} (hnm : IsTempName nm) (d : Path) : d ++ [.normal nm] ≠ x.1 := by
  obtain ⟨base, n, e, hn⟩ := output_last hx
  rw [e]
  intro e'
  cases List.append_inj_right' e' rfl
  exact hn hnm

theorem generateUi_trace (opts : Options) (tmp : Nat → Name) (fs : FS) (srcs : List Source) :
    (generateUi opts tmp fs srcs).1 = [] ∨
      (refuses opts (srcs.map (·.path)) = false ∧
        (generateUi opts tmp fs srcs).1 = (runJobs tmp fs 0 (execOutputs opts srcs)).1) := by
  unfold generateUi
  split
  · exact .inl rfl
  · rename_i href
    split
    · exact .inl rfl
    · exact .inr ⟨by simpa using href, by rw [generateUiLoop_eq]⟩

theorem generateUi_crash (htmp : ∀ k, IsTempName (tmp k))
    {fs s : FS} {srcs : List Source} (h : CrashState fs (generateUi opts tmp fs srcs).1 s) :
    Safe (allOutputs opts srcs) fs s := by
  have hrefl : Safe (allOutputs opts srcs) fs fs := fun _ => .inl rfl
  rcases generateUi_trace opts tmp fs srcs with e | ⟨_, e⟩ <;> rw [e] at h
  · rw [crash_nil h]; exact hrefl
  · exact runJobs_crash htmp (fun _ => execOutputs_sub) fs 0 hrefl h

theorem generateUi_ops {fs : FS} {srcs : List Source} :
    ∀ op ∈ (generateUi opts tmp fs srcs).1, refuses opts (srcs.map (·.path)) = false ∧
      ∃ x ∈ allOutputs opts srcs, OpFor x.1 op := by
  intro op hop
  rcases generateUi_trace opts tmp fs srcs with e | ⟨href, e⟩ <;> rw [e] at hop
  · cases hop
  · obtain ⟨x, hx, h⟩ := runJobs_ops fs 0 op hop
    exact ⟨href, x, execOutputs_sub hx, h⟩

theorem generateUi_avoids {fs : FS} {srcs : List Source} {p : Path} {c : Bytes}
    (hp : fs p = some (.file c)) (hall : ∀ b, (p, b) ∈ execOutputs opts srcs → b = c) :
    ∀ op ∈ (generateUi opts tmp fs srcs).1, p ∉ op.targets := by
  rcases generateUi_trace opts tmp fs srcs with e | ⟨_, e⟩ <;> rw [e]
  · nofun
  · exact runJobs_avoids hall fs 0 hp

theorem loop_jobs_ok {fs : FS} {k : Nat} {diag : Bool} {srcs : List Source}
    (hio : (generateUiLoop opts tmp fs k diag srcs).2.isIo = false) :
    (runJobs tmp fs k (execOutputs opts srcs)).2.2 = .ok := by
  rcases runJobs_status (tmp := tmp) (execOutputs opts srcs) fs k with e | e
  · exact e
  · have hne : (runJobs tmp fs k (execOutputs opts srcs)).2.2 ≠ .ok := by intro e'; rw [e'] at e; cases e
    rw [generateUiLoop_eq, if_neg hne, e] at hio
    cases hio

theorem loop_establish (htmp : ∀ k, IsTempName (tmp k)) {fs : FS} {k : Nat}
    {diag : Bool} {srcs : List Source} (hio : (generateUiLoop opts tmp fs k diag srcs).2.isIo = false)
    (hnc : NoCollision (execOutputs opts srcs)) :
    ∀ x ∈ execOutputs opts srcs, run fs (generateUiLoop opts tmp fs k diag srcs).1 x.1 = some (.file x.2) := by
  rw [generateUiLoop_eq]
  exact runJobs_establish _ fs k (loop_jobs_ok hio) hnc fun x hx k => output_temp_ne (execOutputs_sub hx) (htmp k) _

theorem generateUi_rerun {tmp tmp' : Nat → Name} (htmp : ∀ k, IsTempName (tmp k)) {fs : FS}
    {srcs : List Source} (hio : (generateUi opts tmp fs srcs).2.isIo = false)
    (hnc : NoCollision (execOutputs opts srcs)) :
    generateUi opts tmp' (run fs (generateUi opts tmp fs srcs).1) srcs = ([], (generateUi opts tmp fs srcs).2) := by
  unfold generateUi at hio ⊢
  by_cases h1 : refuses opts (srcs.map (·.path)) = true
  · simp only [if_pos h1]
  by_cases h2 : (srcs.any fun s => isUnreadable s.outcome) = true
  · simp only [if_neg h1, if_pos h2]
  simp only [if_neg h1, if_neg h2] at hio ⊢
  -- the second loop finds every output in place: its jobs are all skipped, and both loops end as the sources decide
  obtain ⟨n1, n2⟩ := runJobs_noop (tmp := tmp') (execOutputs opts srcs) 0 (loop_establish htmp hio hnc)
  rw [generateUiLoop_eq, n1, n2, generateUiLoop_eq (tmp := tmp), loop_jobs_ok hio]

def AllNormal (l : Path) : Prop := ∀ c ∈ l, ∃ n, c = .normal n

theorem key_accepted {x : Path} (h : x.all acceptedComponent = true) : AllNormal (key x) := by
  intro c hc
  simp only [key, List.mem_filter] at hc
  have := List.all_eq_true.mp h c hc.1
  cases c with
  | normal n => exact ⟨n, rfl⟩
  | curDir => simp at hc
  | rootDir => simp [acceptedComponent] at this
  | parentDir => simp [acceptedComponent] at this

theorem hasRoot_snoc_accepted {x : Path} (n : Name) (h : x.all acceptedComponent = true) :
    hasRoot (x ++ [.normal n]) = false := by
  cases x with
  | nil => simp [hasRoot]
  | cons c cs =>
    have := List.all_eq_true.mp h c List.mem_cons_self
    cases c <;> simp [hasRoot, acceptedComponent] at this ⊢

theorem all_dropLast {x : Path} (h : x.all acceptedComponent = true) : x.dropLast.all acceptedComponent = true := by
  apply List.all_eq_true.mpr
  intro c hc
  exact List.all_eq_true.mp h c (List.dropLast_subset x hc)

theorem place_inside (d dir : Path) (n : Name) (h : dir.all acceptedComponent = true) :
    key (join d (dir ++ [.normal n])) = key d ++ key dir ++ [.normal n] := by
  rw [key_join_snoc, hasRoot_snoc_accepted n h, if_neg Bool.false_ne_true]

theorem join_inside (d src : Path) (n : Name) (h : src.all acceptedComponent = true) :
    ∃ r, key (join d (withFileName src n)) = key d ++ r ∧ AllNormal r ∧ r ≠ [] := by
  obtain ⟨x, e, hx⟩ := withFileName_shape src n
  have hxa : x.all acceptedComponent = true := by
    rcases hx with rfl | rfl
    · exact h
    · exact all_dropLast h
  rw [e, place_inside d x n hxa, List.append_assoc]
  refine ⟨_, rfl, fun c hc => ?_, by simp⟩
  rcases List.mem_append.mp hc with hc | hc
  · exact key_accepted hxa c hc
  · exact ⟨n, List.mem_singleton.1 hc⟩

theorem plan_inside {d : Path} (hd : opts.outputDirectory = some d) {src : Source}
    (hacc : src.path.all acceptedComponent = true) :
    ∀ x ∈ sourceOutputs opts src, ∃ r, x.1 = key d ++ r ∧ AllNormal r ∧ r ≠ [] := by
  intro x hx
  obtain ⟨tn, e⟩ := sourceOutputs_path hx
  simp only [outputPaths, hd] at e
  rcases e with e | e <;> rw [e] <;> exact join_inside d _ _ hacc

theorem refuses_false {d : Path} (hd : opts.outputDirectory = some d) {ps : List Path} :
    refuses opts ps = false ↔ ∀ p ∈ ps, p.all acceptedComponent = true := by
  simp [refuses, hd]

theorem allNormal_sub {a b : Path} (h : AllNormal b) (hs : ∀ c ∈ a, c ∈ b) : AllNormal a := fun c hc => h c (hs c hc)

theorem opFor_inside {D r : Path} (hr : AllNormal r) (hne : r ≠ []) {op : Op} (h : OpFor (D ++ r) op) :
    ∀ p ∈ op.targets,
      (∃ rest, p = D ++ rest ∧ AllNormal rest ∧ rest ≠ []) ∨ ((∃ q, op = .mkdir q) ∧ p <+: D) := by
  have hdl : (D ++ r).dropLast = D ++ r.dropLast := List.dropLast_append_of_ne_nil hne
  have hrd : AllNormal r.dropLast := allNormal_sub hr (fun c hc => List.dropLast_subset r hc)
  intro p hp
  rcases h with ⟨q, hq, rfl⟩ | ⟨nm, h⟩
  · cases List.mem_singleton.1 hp
    rw [hdl] at hq
    obtain ⟨i, _, rfl⟩ := List.mem_map.1 hq
    -- a prefix of `D ++ r.dropLast` is a prefix of `D`, or `D` followed by a prefix of `r.dropLast`
    have hq := List.take_prefix (i + 1) (D ++ r.dropLast)
    rcases List.prefix_or_prefix_of_prefix hq (List.prefix_append D _) with h | ⟨t, ht⟩
    · exact .inr ⟨⟨_, rfl⟩, h⟩
    · rw [← ht] at hq ⊢
      by_cases hnil : t = []
      · rw [hnil, List.append_nil]
        exact .inr ⟨⟨_, rfl⟩, List.prefix_refl _⟩
      · exact .inl ⟨t, rfl, allNormal_sub hrd ((List.prefix_append_right_inj D).1 hq).subset, hnil⟩
  · left
    rcases h p hp with rfl | rfl
    · exact ⟨r, rfl, hr, hne⟩
    · rw [hdl, List.append_assoc]
      refine ⟨_, rfl, ?_, by simp⟩
      intro c hc
      rcases List.mem_append.mp hc with hc | hc
      · exact hrd c hc
      · simp at hc; exact ⟨nm, hc⟩

theorem splitSlash_ne_nil (s : List Char) : splitSlash s ≠ [] := by
  induction s with
  | nil => simp [splitSlash]
  | cons c cs ih =>
    unfold splitSlash
    split
    · simp
    · split <;> simp

theorem compOf_accepted (seg : Name) :
    (compOf seg).toList.all acceptedComponent = !(['.', '.'] == seg) := by
  unfold compOf
  by_cases h1 : seg = []
  · subst h1; rfl
  by_cases h2 : seg = ['.']
  · subst h2; rfl
  by_cases h3 : seg = ['.', '.']
  · subst h3; rfl
  · simp [h1, h2, h3, Ne.symm h3, acceptedComponent]

theorem filterMap_compOf_accepted (l : List Name) :
    (l.filterMap compOf).all acceptedComponent = !l.contains ['.', '.'] := by
  induction l with
  | nil => rfl
  | cons seg rest ih =>
    rw [List.contains_cons, Bool.not_or, ← ih, ← compOf_accepted seg]
    cases hc : compOf seg with
    | none => rw [List.filterMap_cons_none hc]; simp
    | some c => rw [List.filterMap_cons_some hc]; simp

theorem parse_accepted (s : List Char) : (parsePath s).all acceptedComponent = !specRefused s := by
  unfold parsePath specRefused
  by_cases h : s.head? = some '/'
  · simp [h, acceptedComponent]
  · have hb : (s.head? == some '/') = false := by simpa using h
    rw [if_neg h, hb, Bool.false_or]
    cases hsp : splitSlash s with
    | nil => exact absurd hsp (splitSlash_ne_nil s)
    | cons first rest =>
      simp only []   -- reduces the `match` on `first :: rest`
      rw [List.all_append, filterMap_compOf_accepted, List.contains_cons, Bool.not_or]
      congr 1
      by_cases hf : first = ['.']
      · subst hf; rfl
      · rw [if_neg hf]; exact compOf_accepted first

theorem planFile_qml (opts : Options) (dir : Path) (stem ext : Name) (hs : stem ≠ []) (hdot : '.' ∉ ext)
    (hq : ext.map asciiLower = ['q', 'm', 'l']) (ui header : Bytes) :
    planFile opts ⟨dir ++ [.normal (stem ++ '.' :: ext)], .ok ui header⟩ =
      .ok ((key (outputPaths opts (dir ++ [.normal (stem ++ '.' :: ext)]) stem).1, ui),
           (key (outputPaths opts (dir ++ [.normal (stem ++ '.' :: ext)]) stem).2, header)) := by
  have he : ext ≠ [] := by intro e; subst e; simp at hq
  have hsplit := splitFileAtDot_append stem ext hs hdot he
  have hstem : fileStem (dir ++ [.normal (stem ++ '.' :: ext)]) = some stem := by
    simp [fileStem, fileName_snoc, hsplit]
  have hext : extension (dir ++ [.normal (stem ++ '.' :: ext)]) = some ext := by
    simp [extension, fileName_snoc, hsplit]
  have hqml : isQmlFile (dir ++ [.normal (stem ++ '.' :: ext)]) = true := by
    simp [isQmlFile, hext, hq]
  simp only [planFile, hqml, hstem, if_true]

end QV.Proofs.Cli
