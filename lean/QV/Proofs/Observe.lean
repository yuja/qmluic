/-
  The abstract world of QV.Model.Observe.  An evaluation is read as a derivation (`StepS` for a statement, `Exec` for a
  block's statements, `Run` for the walk over the blocks); by induction on it: the trace of an evaluation (which observer
  statements ran, each at most once), coverage of its reads from the static checker, the frame lemma (an evaluation
  depends only on the values it read).  With the fold of the observer snippet over the trace they establish the
  invariant `Inv`.  At the end `live` as a count (for `stepFn`) and the loop invariant `Best` of `find_notify_signal`.
-/
import QV.Model.Observe

namespace QV.Proofs.Observe
open QV.Model QV.Model.Observe

theorem nodup_flatMap_parts {α β γ : Type} (f : α → List β) (g : β → γ) (l : List α)
    (h : ((l.flatMap f).map g).Nodup) :
      (∀ (i : Nat) a, l[i]? = some a → ((f a).map g).Nodup) ∧
      (∀ (i j : Nat) a b, i ≠ j → l[i]? = some a → l[j]? = some b → ∀ x ∈ f a, ∀ y ∈ f b, g x ≠ g y) := by
  -- `Nodup` is `Pairwise (· ≠ ·)`
  rw [List.Nodup, List.pairwise_map, List.pairwise_flatMap] at h
  obtain ⟨h1, h2⟩ := h
  refine ⟨fun i a ha => List.pairwise_map.mpr (h1 a (List.mem_of_getElem? ha)), ?_⟩
  intro i j a b hij ha hb x hx y hy
  rw [List.pairwise_iff_getElem] at h2
  obtain ⟨hi, rfl⟩ := List.getElem?_eq_some_iff.mp ha
  obtain ⟨hj, rfl⟩ := List.getElem?_eq_some_iff.mp hb
  rcases Nat.lt_or_gt_of_ne hij with hlt | hgt
  · exact h2 i j hi hj hlt x hx y hy
  · exact fun e => h2 j i hj hi hgt y hy x hx e.symm

theorem nodup_map_fst_unique {α β : Type} (l : List (α × β)) : (l.map (·.1)).Nodup →
    ∀ a b b', (a, b) ∈ l → (a, b') ∈ l → b = b' := by
  induction l with
  | nil => exact fun _ _ _ _ h => absurd h List.not_mem_nil
  | cons x t ih =>
    intro hn a b b' h1 h2
    rw [List.map_cons, List.nodup_cons] at hn
    rcases List.mem_cons.mp h1 with e1 | m1 <;> rcases List.mem_cons.mp h2 with e2 | m2
    · rw [← e1] at e2
      exact (Prod.mk.inj e2).2.symm
    · exact absurd (List.mem_map_of_mem (f := (·.1)) m2) (by rw [← e1] at hn; exact hn.1)
    · exact absurd (List.mem_map_of_mem (f := (·.1)) m1) (by rw [← e2] at hn; exact hn.1)
    · exact ih hn.2 a b b' m1 m2

theorem getD_set_ne {α : Type} (l : List α) (i j : Nat) (v d : α) (h : j ≠ i) : (l.set i v).getD j d = l.getD j d := by
  simp [List.getD_eq_getElem?_getD, h.symm]

theorem getD_set_self {α : Type} (l : List (Option α)) (i : Nat) (v : Option α) (n : α)
    (h : (l.set i v).getD i none = some n) : v = some n := by
  simp only [List.getD_eq_getElem?_getD, List.getElem?_set] at h
  by_cases hi : i < l.length
  · simpa [hi] using h
  · simp [hi] at h

/-- the (handle, signal) of each observer statement in a trace -/
def evObs : List Ev → List (Nat × MethodInfo)
  | [] => []
  | .observe h _ sig :: r => (h, sig) :: evObs r
  | .read .. :: r => evObs r

theorem evObs_append (a b : List Ev) : evObs (a ++ b) = evObs a ++ evObs b := by
  induction a with
  | nil => rfl
  | cons e t ih => cases e <;> simp [evObs, ih]

theorem mem_evObs {h : Nat} {sig : MethodInfo} : ∀ {e : List Ev}, (h, sig) ∈ evObs e ↔ ∃ a, Ev.observe h a sig ∈ e
  | [] => by simp [evObs]
  | ev :: t => by
    cases ev with
    | read o p => simp [evObs, mem_evObs (e := t)]
    | observe h' a' sig' =>
      simp only [evObs, List.mem_cons, mem_evObs (e := t), Prod.mk.injEq, Ev.observe.injEq, exists_or]
      refine or_congr ⟨fun ⟨e1, e2⟩ => ⟨a', e1, rfl, e2⟩, fun ⟨_, e1, _, e2⟩ => ⟨e1, e2⟩⟩ Iff.rfl

/-- an evaluation reads nothing and does not depend on the store, unless it is a property read through a pointer -/
theorem evalR_events {S : Sem} {s : Store} {L : Locals} {r : Rvalue} {v : Val} {e : List Ev}
    (h : evalR S s L r = some (v, e)) :
    (e = [] ∧ ∀ s', evalR S s' L r = some (v, e)) ∨ ∃ a p o, r = .readProperty a p ∧ a.typeDesc.isPointer = true ∧
      opVal S L a = some (.ptr (some o)) ∧ v = s o p ∧ e = [Ev.read o p] := by
  have pure {x : Option Val} (hx : x.map (fun v => (v, [])) = some (v, e)) : e = [] := by
    obtain ⟨_, _, hx⟩ := Option.map_eq_some_iff.mp hx
    cases hx
    rfl
  cases r with
  | readProperty a p =>
    by_cases hp : a.typeDesc.isPointer = true
    · rw [evalR, if_pos hp] at h
      split at h
      · rename_i o ho
        cases h
        exact Or.inr ⟨a, p, o, rfl, hp, ho, rfl, rfl⟩
      · cases h
    · simp only [evalR, if_neg hp] at h ⊢
      exact Or.inl ⟨pure h, fun _ => h⟩
  | writeProperty | writeSubscript => cases h
  | _ => exact Or.inl ⟨pure h, fun _ => h⟩

theorem evalR_evObs {S : Sem} {s : Store} {L : Locals} {r : Rvalue} {v : Val} {e : List Ev}
    (h : evalR S s L r = some (v, e)) : evObs e = [] := by
  rcases evalR_events h with ⟨h, _⟩ | ⟨_, _, _, _, _, _, _, h⟩ <;> subst h <;> rfl

/-- what one statement does: the locals after it and what it reads or observes -/
inductive StepS (S : Sem) (s : Store) : Statement → Locals → Locals → List Ev → Prop
  | assign {l r L v e} (h : evalR S s L r = some (v, e)) : StepS S s (.assign l r) L (upd L l v) e
  | exec {r L v e} (h : evalR S s L r = some (v, e)) : StepS S s (.exec r) L L e
  | observe {hh l sig L a} (h : L l = some (.ptr a)) : StepS S s (.observeProperty hh l sig) L L [.observe hh a sig]

/-- `execStmts` as a relation -/
inductive Exec (S : Sem) (s : Store) : List Statement → Locals → Locals → List Ev → Prop
  | nil {L} : Exec S s [] L L []
  | cons {st rest L L1 L' e1 e2} (h1 : StepS S s st L L1 e1) (h2 : Exec S s rest L1 L' e2) :
      Exec S s (st :: rest) L L' (e1 ++ e2)

theorem execStmts_iff {S : Sem} {s : Store} {stmts : List Statement} : ∀ {L L' : Locals} {e : List Ev},
    execStmts S s stmts L = some (L', e) ↔ Exec S s stmts L L' e := by
  induction stmts with
  | nil =>
    intro L L' e
    constructor
    · intro h; cases h; exact .nil
    · intro h; cases h; rfl
  | cons st rest ih =>
    intro L L' e
    constructor
    · intro h
      cases st with
      | assign l r | exec r =>
        rw [execStmts] at h
        split at h
        · cases h
        · split at h
          · cases h
          · cases h
            exact .cons (by constructor; assumption) (ih.mp ‹_›)
      | observeProperty hh l sig =>
        rw [execStmts] at h
        split at h
        · split at h
          · cases h
          · cases h
            exact .cons (.observe ‹_›) (ih.mp ‹_›)
        · cases h
    · intro h
      cases h with
      | cons h1 h2 =>
        have hr := ih.mpr h2
        cases h1 with
        | assign h1 | exec h1 | observe h1 => simp only [execStmts, h1, hr, List.singleton_append]

theorem StepS.evObs {S : Sem} {s : Store} {st : Statement} {L L1 : Locals} {e : List Ev} (h : StepS S s st L L1 e) :
    evObs e = stmtObs st := by
  cases h with
  | assign h | exec h => exact evalR_evObs h
  | observe => rfl

theorem Exec.evObs {S : Sem} {s : Store} {stmts : List Statement} {L L' : Locals} {e : List Ev}
    (h : Exec S s stmts L L' e) : evObs e = stmts.flatMap stmtObs := by
  induction h with
  | nil => rfl
  | cons h1 _ ih => rw [evObs_append, h1.evObs, ih, List.flatMap_cons]

/-- where a block's terminator sends an evaluation: out with a value, or on to a block -/
def exit (S : Sem) (L : Locals) : Option Terminator → Option (Val ⊕ Nat)
  | some (.ret a) => (opVal S L a).map .inl
  | some (.br j) => some (.inr j)
  | some (.brCond cnd t f) =>
    match opVal S L cnd with
    | some (.bool true) => some (.inr t)
    | some (.bool false) => some (.inr f)
    | _ => none
  | _ => none

theorem runFrom_step (S : Sem) (c : CodeBody) (s : Store) (fuel i : Nat) (visited : List Nat) (L : Locals) :
    runFrom S c s (fuel + 1) i visited L =
      if i ∈ visited then none else
        c.blocks[i]?.bind fun b => (execStmts S s b.statements L).bind fun r =>
          (exit S r.1 b.terminator).bind fun
            | .inl v => some (v, r.2)
            | .inr j => (runFrom S c s fuel j (i :: visited) r.1).map fun q => (q.1, r.2 ++ q.2) := by
  rw [runFrom]
  split
  · rfl
  cases c.blocks[i]? with
  | none => rfl
  | some b =>
    dsimp only [Option.bind_some]
    cases execStmts S s b.statements L with
    | none => rfl
    | some r =>
      dsimp only [Option.bind_some]
      unfold exit
      rcases b.terminator with _ | j | ⟨cnd, t, f⟩ | a | _
      · rfl
      · rfl
      · dsimp only
        -- `none`, then `Val`'s constructors in order (`bool` second, split in two)
        rcases opVal S r.1 cnd with _ | _ | (_ | _) | _ | _ | _ <;> rfl
      · dsimp only
        cases opVal S r.1 a <;> rfl
      · rfl

/-- `runFrom` as a relation: the evaluation leaves from block `i`, or goes on to a block not yet visited.  The fuel stays
    an index, so that a derivation in another store is again a value of `runFrom` (`Run.frame`, used in `step_inv`). -/
inductive Run (S : Sem) (c : CodeBody) (s : Store) : Nat → Nat → List Nat → Locals → Val → List Ev → Prop
  | ret {fuel i visited b L L' v e} (hv : i ∉ visited) (hb : c.blocks[i]? = some b)
      (he : Exec S s b.statements L L' e) (hx : exit S L' b.terminator = some (.inl v)) :
      Run S c s (fuel + 1) i visited L v e
  | jump {fuel i visited b L L' j v e1 e2} (hv : i ∉ visited) (hb : c.blocks[i]? = some b)
      (he : Exec S s b.statements L L' e1) (hx : exit S L' b.terminator = some (.inr j))
      (hr : Run S c s fuel j (i :: visited) L' v e2) : Run S c s (fuel + 1) i visited L v (e1 ++ e2)

theorem runFrom_iff {S : Sem} {c : CodeBody} {s : Store} {fuel : Nat} : ∀ {i : Nat} {visited : List Nat} {L : Locals}
    {v : Val} {e : List Ev}, runFrom S c s fuel i visited L = some (v, e) ↔ Run S c s fuel i visited L v e := by
  induction fuel with
  | zero =>
    intro i visited L v e
    constructor
    · intro h; cases h
    · intro h; cases h
  | succ fuel ih =>
    intro i visited L v e
    rw [runFrom_step]
    constructor
    · intro h
      split at h
      · cases h
      rename_i hv
      obtain ⟨b, hb, h⟩ := Option.bind_eq_some_iff.mp h
      obtain ⟨⟨L', e1⟩, he, h⟩ := Option.bind_eq_some_iff.mp h
      obtain ⟨x, hx, h⟩ := Option.bind_eq_some_iff.mp h
      cases x with
      | inl v' => cases h; exact .ret hv hb (execStmts_iff.mp he) hx
      | inr j =>
        obtain ⟨⟨v2, e2⟩, hr, h⟩ := Option.map_eq_some_iff.mp h
        cases h
        exact .jump hv hb (execStmts_iff.mp he) hx (ih.mp hr)
    · intro h
      cases h with
      | ret hv hb he hx => simp only [if_neg hv, hb, Option.bind_some, execStmts_iff.mpr he, hx]
      | jump hv hb he hx hr =>
        simp only [if_neg hv, hb, Option.bind_some, execStmts_iff.mpr he, hx, ih.mpr hr, Option.map_some]

theorem Run.evObs_nodup {S : Sem} {c : CodeBody} {s : Store} (hn : ((allObs c).map (·.1)).Nodup)
    {fuel i : Nat} {visited : List Nat} {L : Locals} {v : Val} {e : List Ev} (h : Run S c s fuel i visited L v e) :
      ((evObs e).map (·.1)).Nodup ∧
        ∀ x ∈ evObs e, ∃ j b, j ∉ visited ∧ c.blocks[j]? = some b ∧ x ∈ blockObs b := by
  obtain ⟨p1, p2⟩ := nodup_flatMap_parts blockObs (·.1) c.blocks hn
  induction h with
  | ret hv hb he _ =>
    rw [he.evObs]
    exact ⟨p1 _ _ hb, fun x hx => ⟨_, _, hv, hb, hx⟩⟩
  | @jump _ i _ b _ _ _ _ _ _ hv hb he _ _ ih =>
    obtain ⟨q1, q2⟩ := ih
    rw [evObs_append, List.map_append, List.nodup_append, he.evObs]
    refine ⟨⟨p1 i b hb, q1, ?_⟩, ?_⟩
    · intro a ha a' ha'
      obtain ⟨x, hx, rfl⟩ := List.mem_map.mp ha
      obtain ⟨y, hy, rfl⟩ := List.mem_map.mp ha'
      obtain ⟨k, bk, hk, hbk, hyk⟩ := q2 y hy
      have hik : i ≠ k := fun e => hk (by rw [e]; exact List.mem_cons_self)
      exact p2 i k b bk hik hb hbk x hx y hyk
    · intro x hx
      rcases List.mem_append.mp hx with hx | hx
      · exact ⟨i, b, hv, hb, hx⟩
      · obtain ⟨k, bk, hk, hbk, hyk⟩ := q2 x hx
        exact ⟨k, bk, fun m => hk (List.mem_cons_of_mem _ m), hbk, hyk⟩

/-- observer state is consistent: a live connection is on the remembered object and on the signal of *the*
    observer statement with that handle -/
def ObsWf (c : CodeBody) (obs : Nat → Observer) : Prop :=
  ∀ h x s, (obs h).conn = some (x, s) → (obs h).object = some x ∧ (h, s) ∈ allObs c

theorem applyEvs_untouched (evs : List Ev) : ∀ (obs : Nat → Observer) (h : Nat),
    h ∉ (evObs evs).map (·.1) → applyEvs obs evs h = obs h := by
  induction evs with
  | nil => exact fun _ _ _ => rfl
  | cons ev t ih =>
    intro obs h hn
    cases ev with
    | read o p => exact ih obs h hn
    | observe h' a sig =>
      rw [evObs, List.map_cons, List.mem_cons, not_or] at hn
      exact (ih _ h hn.2).trans (if_neg hn.1)

theorem obsWf_attach {c : CodeBody} {obs : Nat → Observer} {h' : Nat} {sig' : MethodInfo} (hw : ObsWf c obs)
    (hmem : (h', sig') ∈ allObs c) (a : Option Nat) : ObsWf c (applyEv obs (.observe h' a sig')) := by
  intro h x s hc
  by_cases hh : h = h'
  · subst hh
    simp only [applyEv, if_pos] at hc ⊢
    unfold attach at hc ⊢
    by_cases hcond : ((obs h).conn.isNone || (obs h).object != a) = true
    · rw [if_pos hcond] at hc ⊢
      obtain ⟨y, hy, hc⟩ := Option.map_eq_some_iff.mp hc
      cases hc
      exact ⟨hy, hmem⟩
    · rw [if_neg hcond] at hc ⊢
      exact hw h x s hc
  · simp only [applyEv, if_neg hh] at hc ⊢
    exact hw h x s hc

theorem attach_conn {c : CodeBody} (hu : ((allObs c).map (·.1)).Nodup) {obs : Nat → Observer} {h' : Nat}
    {sig' : MethodInfo} (hw : ObsWf c obs) (hmem : (h', sig') ∈ allObs c) (o : Nat) :
    (applyEv obs (.observe h' (some o) sig') h').conn = some (o, sig') := by
  simp only [applyEv, if_pos]
  unfold attach
  split
  · rfl
  · -- the connection is kept: it is on the observed object (`ObsWf`) and on the signal of the one statement with this handle
    rename_i hc
    simp only [Bool.or_eq_true, Option.isNone_iff_eq_none, bne_iff_ne, ne_eq, not_or, Decidable.not_not] at hc
    cases hcn : (obs h').conn with
    | none => exact absurd hcn hc.1
    | some xs =>
      obtain ⟨x, s⟩ := xs
      obtain ⟨w1, w2⟩ := hw h' x s hcn
      rw [hc.2] at w1
      cases w1
      rw [nodup_map_fst_unique _ hu h' s sig' w2 hmem]

theorem applyEvs_sound {c : CodeBody} (hu : ((allObs c).map (·.1)).Nodup) (evs : List Ev) :
    ∀ (obs : Nat → Observer), ObsWf c obs → ((evObs evs).map (·.1)).Nodup →
      (∀ x ∈ evObs evs, x ∈ allObs c) →
      ObsWf c (applyEvs obs evs) ∧
        ∀ h o sig, Ev.observe h (some o) sig ∈ evs → (applyEvs obs evs h).conn = some (o, sig) := by
  induction evs with
  | nil => exact fun obs hw _ _ => ⟨hw, fun _ _ _ h => absurd h List.not_mem_nil⟩
  | cons ev t ih =>
    intro obs hw hn hm
    cases ev with
    | read o p =>
      obtain ⟨r1, r2⟩ := ih obs hw hn hm
      exact ⟨r1, fun h o' sig hmem => r2 h o' sig ((List.mem_cons.mp hmem).resolve_left (fun e => by cases e))⟩
    | observe h' a sig' =>
      rw [evObs, List.map_cons, List.nodup_cons] at hn
      have hmem' : (h', sig') ∈ allObs c := hm _ List.mem_cons_self
      obtain ⟨r1, r2⟩ := ih _ (obsWf_attach hw hmem' a) hn.2 (fun x hx => hm x (List.mem_cons_of_mem _ hx))
      refine ⟨r1, fun h o sig hmem => ?_⟩
      rcases List.mem_cons.mp hmem with e | m
      · cases e
        exact (congrArg Observer.conn (applyEvs_untouched t _ _ hn.1)).trans (attach_conn hu hw hmem' o)
      · exact r2 h o sig m

/-- the read `(o, p)` has a subscription according to the trace `E` -/
def Cov (S : Sem) (c : CodeBody) (o : Nat) (p : PropInfo) (E : List Ev) : Prop :=
  p.constant = true ∨ ∃ sig, p.notify = some (some sig) ∧
    ((o, sig) ∈ staticConns S c ∨ ∃ h, Ev.observe h (some o) sig ∈ E)

theorem Cov.mono {S : Sem} {c : CodeBody} {o : Nat} {p : PropInfo} {E E' : List Ev}
    (h : Cov S c o p E) (hs : ∀ x ∈ E, x ∈ E') : Cov S c o p E' := by
  rcases h with h | ⟨sig, h1, h2 | ⟨hh, h2⟩⟩
  · exact Or.inl h
  · exact Or.inr ⟨sig, h1, Or.inl h2⟩
  · exact Or.inr ⟨sig, h1, Or.inr ⟨hh, hs _ h2⟩⟩

/-- the checker's `known` table is true of the locals -/
def KnownOk (S : Sem) (known : List (Option String)) (L : Locals) : Prop :=
  ∀ x n, known.getD x none = some n → L x = some (.ptr (some (S.named n)))

/-- each `(local, signal)` of the checker's `obsd` was observed in `pre`, on the object the local still holds -/
def ObsdOk (obsd : List (Nat × MethodInfo)) (L : Locals) (pre : List Ev) : Prop :=
  ∀ x sig, (x, sig) ∈ obsd → ∃ h a, L x = some (.ptr a) ∧ Ev.observe h a sig ∈ pre

theorem evalR_cov {S : Sem} {c : CodeBody} {s : Store} {L : Locals} {r : Rvalue} {v : Val} {e : List Ev}
    {known : List (Option String)} {obsd : List (Nat × MethodInfo)} {pre : List Ev}
    (hk : KnownOk S known L) (ho : ObsdOk obsd L pre) (hr : readOk c.staticDeps known obsd r = true)
    (h : evalR S s L r = some (v, e)) : ∀ o p, Ev.read o p ∈ e → Cov S c o p pre := by
  intro o p hm
  rcases evalR_events h with ⟨rfl, _⟩ | ⟨a, p', o', rfl, hp, hv, _, rfl⟩
  · exact absurd hm List.not_mem_nil
  · cases List.mem_singleton.mp hm
    simp only [readOk, hp, Bool.true_and] at hr
    cases hc : p.constant with
    | true => exact Or.inl hc
    | false =>
      simp only [hc, Bool.not_false, if_true] at hr
      split at hr
      · rename_i sig hsig
        refine Or.inr ⟨sig, hsig, ?_⟩
        split at hr
        · rename_i x cls
          cases hv
          exact Or.inl (List.mem_map.mpr ⟨(x, sig), of_decide_eq_true hr, rfl⟩)
        · rename_i x ty
          change L x = _ at hv
          simp only [Bool.or_eq_true] at hr
          rcases hr with hr | hr
          · split at hr
            · rename_i n hn
              cases hv.symm.trans (hk x n hn)
              exact Or.inl (List.mem_map.mpr ⟨(n, sig), of_decide_eq_true hr, rfl⟩)
            · exact absurd hr (by simp)
          · obtain ⟨h, a', ha, hin⟩ := ho x sig (of_decide_eq_true hr)
            cases hv.symm.trans ha
            exact Or.inr ⟨h, hin⟩
        · exact absurd hr (by simp)
      · exact absurd hr (by simp)

theorem knownOk_assign {S : Sem} {s : Store} {L : Locals} {known : List (Option String)} {l : Nat} {r : Rvalue}
    {v : Val} {e : List Ev} (hk : KnownOk S known L) (h : evalR S s L r = some (v, e)) :
    KnownOk S (known.set l (trackCopy known r)) (upd L l v) := by
  intro x n hx
  by_cases hxl : x = l
  · subst hxl
    have ht := getD_set_self _ _ _ _ hx
    simp only [upd, if_pos]
    unfold trackCopy at ht
    split at ht
    · rename_i y ty
      have := hk y n ht
      simp only [evalR, opVal, this, Option.map_some] at h
      cases h
      rfl
    · rename_i y cls
      cases ht
      simp only [evalR, opVal, Option.map_some] at h
      cases h
      rfl
    · exact absurd ht (by simp)
  · rw [getD_set_ne _ _ _ _ _ hxl] at hx
    simp only [upd, if_neg hxl]
    exact hk x n hx

theorem ObsdOk.append {obsd : List (Nat × MethodInfo)} {L : Locals} {pre : List Ev} (ho : ObsdOk obsd L pre)
    (e : List Ev) : ObsdOk obsd L (pre ++ e) := fun x sig hx =>
  let ⟨h, a, ha, hin⟩ := ho x sig hx
  ⟨h, a, ha, List.mem_append_left _ hin⟩

/-- One statement against the checker: its reads are covered by what was observed before it, and the checker's tables
    after it (`coveredStmts` on the rest) are again true of the locals. -/
theorem StepS.cov {S : Sem} {c : CodeBody} {s : Store} {st : Statement} {rest : List Statement} {L L1 : Locals}
    {e1 pre : List Ev} {known : List (Option String)} {obsd : List (Nat × MethodInfo)} (hk : KnownOk S known L)
    (ho : ObsdOk obsd L pre) (hc : coveredStmts c.staticDeps known obsd (st :: rest) = true)
    (h : StepS S s st L L1 e1) :
    (∀ o p, Ev.read o p ∈ e1 → Cov S c o p pre) ∧
      ∃ known' obsd', KnownOk S known' L1 ∧ ObsdOk obsd' L1 (pre ++ e1) ∧
        coveredStmts c.staticDeps known' obsd' rest = true := by
  cases h with
  | assign h1 =>
    simp only [coveredStmts, Bool.and_eq_true] at hc
    refine ⟨evalR_cov hk ho hc.1 h1, _, _, knownOk_assign hk h1, ?_, hc.2⟩
    intro x sig hx
    simp only [List.mem_filter, bne_iff_ne, ne_eq] at hx
    obtain ⟨hh, a, ha, hin⟩ := ho x sig hx.1
    exact ⟨hh, a, by simp only [upd, if_neg hx.2]; exact ha, List.mem_append_left _ hin⟩
  | exec h1 =>
    simp only [coveredStmts, Bool.and_eq_true] at hc
    exact ⟨evalR_cov hk ho hc.1 h1, _, _, hk, ho.append _, hc.2⟩
  | @observe hh _ _ _ a ha =>
    rw [coveredStmts] at hc
    refine ⟨fun o p hm => by simp at hm, _, _, hk, ?_, hc⟩
    intro x sg hx
    rcases List.mem_cons.mp hx with e | hx
    · cases e
      exact ⟨hh, a, ha, by simp⟩
    · exact ho.append _ x sg hx

theorem Exec.cov {S : Sem} {c : CodeBody} {s : Store} {stmts : List Statement} {L L' : Locals} {e : List Ev}
    (h : Exec S s stmts L L' e) : ∀ {known : List (Option String)} {obsd : List (Nat × MethodInfo)} {pre : List Ev},
      KnownOk S known L → ObsdOk obsd L pre → coveredStmts c.staticDeps known obsd stmts = true →
      ∀ o p, Ev.read o p ∈ e → Cov S c o p (pre ++ e) := by
  induction h with
  | nil => intro _ _ _ _ _ _ o p hm; cases hm
  | cons h1 _ ih =>
    intro known obsd pre hk ho hc o p hm
    obtain ⟨hcov, known', obsd', hk', ho', hc'⟩ := h1.cov hk ho hc
    rcases List.mem_append.mp hm with hm | hm
    · exact (hcov o p hm).mono fun x hx => List.mem_append_left _ hx
    · rw [← List.append_assoc]
      exact ih hk' ho' hc' o p hm

theorem knownOk_init (S : Sem) (n : Nat) (L : Locals) : KnownOk S (List.replicate n none) L := by
  intro x m hx
  simp [List.getD_eq_getElem?_getD, List.getElem?_replicate] at hx
  split at hx <;> simp at hx

theorem Run.cov {S : Sem} {c : CodeBody} {s : Store}
    (hc : ∀ b ∈ c.blocks, coveredStmts c.staticDeps (List.replicate c.locals.length none) [] b.statements = true)
    {fuel i : Nat} {visited : List Nat} {L : Locals} {v : Val} {e : List Ev} (h : Run S c s fuel i visited L v e) :
    ∀ o p, Ev.read o p ∈ e → Cov S c o p e := by
  have block {j : Nat} {b : BasicBlock} {L L' : Locals} {e : List Ev} (hb : c.blocks[j]? = some b)
      (he : Exec S s b.statements L L' e) : ∀ o p, Ev.read o p ∈ e → Cov S c o p e := by
    have := he.cov (c := c) (pre := []) (knownOk_init S _ L) (fun x sig hx => by simp at hx)
      (hc b (List.mem_of_getElem? hb))
    simpa only [List.nil_append] using this
  induction h with
  | ret _ hb he _ => exact block hb he
  | jump _ hb he _ _ ih =>
    intro o p hm
    rcases List.mem_append.mp hm with hm | hm
    · exact (block hb he o p hm).mono fun x hx => List.mem_append_left _ hx
    · exact (ih o p hm).mono fun x hx => List.mem_append_right _ hx

theorem evalR_frame {S : Sem} {s : Store} {L : Locals} {r : Rvalue} {v : Val} {e : List Ev} {o : Nat} {p : PropInfo}
    (x : Val) (h : evalR S s L r = some (v, e)) (hn : Ev.read o p ∉ e) : evalR S (s.set o p x) L r = some (v, e) := by
  rcases evalR_events h with ⟨_, h0⟩ | ⟨a, p', o', rfl, hp, ho', rfl, rfl⟩
  · exact h0 _
  · have hne : ¬ (o' = o ∧ p' = p) := fun ⟨e1, e2⟩ => hn (by rw [e1, e2]; exact .head _)
    simp only [evalR, if_pos hp, ho', Store.set, if_neg hne]

theorem StepS.frame {S : Sem} {s : Store} {o : Nat} {p : PropInfo} (x : Val) {st : Statement} {L L1 : Locals}
    {e : List Ev} (h : StepS S s st L L1 e) (hn : Ev.read o p ∉ e) : StepS S (s.set o p x) st L L1 e := by
  cases h with
  | assign h => exact .assign (evalR_frame x h hn)
  | exec h => exact .exec (evalR_frame x h hn)
  | observe h => exact .observe h

theorem Exec.frame {S : Sem} {s : Store} {o : Nat} {p : PropInfo} (x : Val) {stmts : List Statement} {L L' : Locals}
    {e : List Ev} (h : Exec S s stmts L L' e) (hn : Ev.read o p ∉ e) : Exec S (s.set o p x) stmts L L' e := by
  induction h with
  | nil => exact .nil
  | cons h1 _ ih =>
    rw [List.mem_append, not_or] at hn
    exact .cons (h1.frame x hn.1) (ih hn.2)

theorem Run.frame {S : Sem} {c : CodeBody} {s : Store} {o : Nat} {p : PropInfo} (x : Val) {fuel i : Nat}
    {visited : List Nat} {L : Locals} {v : Val} {e : List Ev} (h : Run S c s fuel i visited L v e)
    (hn : Ev.read o p ∉ e) : Run S c (s.set o p x) fuel i visited L v e := by
  induction h with
  | ret hv hb he hx => exact .ret hv hb (he.frame x hn) hx
  | jump hv hb he hx _ ih =>
    rw [List.mem_append, not_or] at hn
    exact .jump hv hb (he.frame x hn.1) hx (ih hn.2)

/-- target current ∧ every (object, property) read by the last evaluation has a live connection to `update` -/
def Inv (S : Sem) (c : CodeBody) (W : World) : Prop :=
  ObsWf c W.obs ∧ ∃ v e, run S c W.store = some (v, e) ∧ W.target = some v ∧
    ∀ o p, Ev.read o p ∈ e → p.constant = true ∨ ∃ sig, p.notify = some (some sig) ∧ live S c W (o, sig) = true

theorem update_establishes {S : Sem} {c : CodeBody} (hc : covered c = true) {W W' : World}
    (hw : ObsWf c W.obs) (h : update S c W = some W') : Inv S c W' := by
  simp only [covered, Bool.and_eq_true, List.all_eq_true, decide_eq_true_eq] at hc
  obtain ⟨⟨c1, c2⟩, c3⟩ := hc
  unfold update at h
  split at h
  · exact absurd h (by simp)
  · rename_i v e hr
    injection h with h
    subst h
    obtain ⟨n1, n2⟩ := (runFrom_iff.mp hr).evObs_nodup c2
    have hm : ∀ x ∈ evObs e, x ∈ allObs c := by
      intro x hx
      obtain ⟨j, b, _, hb, hxb⟩ := n2 x hx
      exact List.mem_flatMap.mpr ⟨b, List.mem_of_getElem? hb, hxb⟩
    obtain ⟨r1, r2⟩ := applyEvs_sound c2 e W.obs hw n1 hm
    refine ⟨r1, v, e, hr, rfl, ?_⟩
    intro o p hp
    rcases (runFrom_iff.mp hr).cov c1 o p hp with hk | ⟨sig, hs, hst | ⟨hh, hob⟩⟩
    · exact Or.inl hk
    · exact Or.inr ⟨sig, hs, by simp [live, hst]⟩
    · refine Or.inr ⟨sig, hs, ?_⟩
      have hlt : hh < c.observerCount := c3 (hh, sig) (hm _ (mem_evObs.mpr ⟨_, hob⟩))
      simp only [live, Bool.or_eq_true, List.any_eq_true, List.mem_range, decide_eq_true_eq]
      exact Or.inr ⟨hh, hlt, r2 hh o sig hob⟩

theorem delivered_inv {S : Sem} {c : CodeBody} (hc : covered c = true) {W W' : World}
    (hd : Delivered S c W W') : ObsWf c W.obs → Inv S c W' := by
  induction hd with
  | one h => exact fun hw => update_establishes hc hw h
  | more h _ ih => exact fun hw => ih (update_establishes hc hw h).1

theorem step_inv {S : Sem} {c : CodeBody} (hc : covered c = true) {W W' : World} {ch : Change}
    (hi : Inv S c W) (hs : Step S c W ch W') : Inv S c W' := by
  cases hs with
  | quiet hk hq =>
    obtain ⟨hw, v, e, hr, ht, hcov⟩ := hi
    have hn : Ev.read ch.obj ch.prop ∉ e := by
      intro hm
      rcases hcov _ _ hm with h | ⟨sig, h1, h2⟩
      · rw [hk] at h
        exact absurd h (by simp)
      · have := hq sig h1
        simp only [live] at this h2
        rw [this] at h2
        exact absurd h2 (by simp)
    -- `live` does not look at the store, which is all that `W.write ch` changes
    exact ⟨hw, v, e, runFrom_iff.mpr ((runFrom_iff.mp hr).frame _ hn), ht, hcov⟩
  | notify hk hn hl hd => exact delivered_inv hc hd hi.1

theorem steps_inv {S : Sem} {c : CodeBody} (hc : covered c = true) {W W' : World} {hist : List Change}
    (hs : Steps S c W hist W') : Inv S c W → Inv S c W' := by
  induction hs with
  | nil => exact id
  | cons h _ ih => exact fun hi => ih (step_inv hc hi h)

theorem obsWf_init (c : CodeBody) : ObsWf c (fun _ => ({} : Observer)) := by
  intro h x s hc
  simp at hc

theorem delivered_snoc {S : Sem} {c : CodeBody} {W W1 : World} (d : Delivered S c W W1) :
    ∀ {W'}, update S c W1 = some W' → Delivered S c W W' := by
  induction d with
  | one h1 => exact fun h => .more h1 (.one h)
  | more h1 _ ih => exact fun h => .more h1 (ih h)

theorem fold_delivered {S : Sem} {c : CodeBody} : ∀ (n : Nat) (W W' : World),
    (n + 1).fold (fun _ _ acc => acc.bind (update S c)) (some W) = some W' → Delivered S c W W'
  | 0, W, W', h => by
    simp [Nat.fold] at h
    exact .one h
  | n + 1, W, W', h => by
    rw [Nat.fold_succ] at h
    cases hx : (n + 1).fold (fun _ _ acc => acc.bind (update S c)) (some W) with
    | none => rw [hx] at h; simp at h
    | some W1 =>
      rw [hx] at h
      have d1 := fold_delivered n W W1 hx
      have h : update S c W1 = some W' := by simpa using h
      exact delivered_snoc d1 h

theorem live_iff_count (S : Sem) (c : CodeBody) (W : World) (e : Nat × MethodInfo) : live S c W e = true ↔
    0 < ((staticConns S c).eraseDups.filter (· = e)).length +
      ((List.range c.observerCount).filter fun h => decide ((W.obs h).conn = some e)).length := by
  simp [live, Nat.add_pos_iff_pos_or_pos, List.length_filter_pos_iff]

/-- the loop invariant of `find_notify_signal`: `best` after the signals `pre` -/
abbrev Best (ty : TypeKind) (pre : List MethodInfo) : Option MethodInfo → Prop
  | none => ∀ m ∈ pre, notifyEligible ty m = false
  | some r => r ∈ pre ∧ notifyEligible ty r = true ∧
      ∀ m ∈ pre, notifyEligible ty m = true → m.args.length ≤ r.args.length

theorem best_step {ty : TypeKind} {pre : List MethodInfo} {best : Option MethodInfo} (m : MethodInfo)
    (h : Best ty pre best) : Best ty (pre ++ [m]) (findNotifyStep ty best m) := by
  unfold findNotifyStep
  cases best with
  | none =>
    rw [if_neg Bool.false_ne_true]
    split
    · rename_i he
      exact ⟨List.mem_append_right _ (List.mem_singleton_self m), he, List.forall_mem_append.mpr
        ⟨fun x hx hxe => absurd (h x hx ▸ hxe) Bool.false_ne_true,
          List.forall_mem_singleton.mpr fun _ => Nat.le_refl _⟩⟩
    · rename_i he
      exact List.forall_mem_append.mpr ⟨h, List.forall_mem_singleton.mpr (Bool.eq_false_iff.mpr he)⟩
  | some r =>
    obtain ⟨h1, h2, h3⟩ := h
    simp only [decide_eq_true_eq]
    split
    · rename_i hle
      exact ⟨List.mem_append_left _ h1, h2,
        List.forall_mem_append.mpr ⟨h3, List.forall_mem_singleton.mpr fun _ => hle⟩⟩
    · rename_i hlt
      split
      · rename_i he
        exact ⟨List.mem_append_right _ (List.mem_singleton_self m), he, List.forall_mem_append.mpr
          ⟨fun x hx hxe => Nat.le_trans (h3 x hx hxe) (Nat.le_of_not_le hlt),
            List.forall_mem_singleton.mpr fun _ => Nat.le_refl _⟩⟩
      · rename_i he
        exact ⟨List.mem_append_left _ h1, h2,
          List.forall_mem_append.mpr ⟨h3, List.forall_mem_singleton.mpr fun hm => absurd hm he⟩⟩

theorem best_fold (ty : TypeKind) (ms : List MethodInfo) : ∀ (pre : List MethodInfo) (best : Option MethodInfo),
    Best ty pre best → Best ty (pre ++ ms) (ms.foldl (findNotifyStep ty) best) := by
  induction ms with
  | nil => intro pre best h; rwa [List.append_nil]
  | cons m ms ih =>
    intro pre best h
    have := ih _ _ (best_step m h)
    rwa [List.append_assoc] at this

end QV.Proofs.Observe
