/-
  C05 (b), the induction: every expression the walk accepts is typed by the specification with the same type.
-/
import QV.Proofs.TypingSound
import QV.Model.TypeCheck

namespace QV.Proofs.TypingSound
open QV.Model QV.Spec.Typing QV.Proofs.TypingRules QV.Proofs.TypingConst QV.Proofs.BuilderInv

@[simp] theorem worldOf_env (c : Ctx) : (worldOf c).env = c.env := rfl
@[simp] theorem worldOf_thisObj (c : Ctx) : (worldOf c).thisObj = c.thisObj := rfl

theorem item_rel {L : List TypeKind} {a : Operand} {t : Ty} (h : a.typeDesc = t) : Rel L (.item a) (.val t) := by
  rw [← h]; exact Rel.item a

theorem resolve_member_value {w : World} {sc : Scope} {o : Expr} {n : String} {r0 : Res} {t : Ty}
    (hr0 : resolve w sc o = .ok r0) (hv : valueOf r0 = .ok t) :
    resolve w sc (.member o n) = valueMember w.env t (isLoc r0) n := by
  rw [resolve, hr0]
  cases r0 with
  | loc k d =>
    cases hv
    rfl
  | val _ | prop _ _ | elem _ _ _ => simp only [hv, isLoc]
  | _ => cases hv

/-- the walk's kind of a value taken from an intermediate is the specification's `isLoc` -/
theorem isLoc_valueKind {L : List TypeKind} {x : Inter} {r : Res} (h : Rel L x r) :
    isLoc r = decide (valueKind x = .lvalue) := by
  cases h <;> rfl

/-- `Rel` is read in the FINAL table of locals: the walk may have added temporaries -/
def ExprClaim (c : Ctx) (e : Expr) (s : WState) (i : Inter) (s' : WState) : Prop :=
  ∀ sc, Inv s sc → Ext s s' ∧ ∃ r, resolve (worldOf c) sc e = .ok r ∧ Rel s'.b.code.locals i r

def RvalClaim (c : Ctx) (e : Expr) (s : WState) (a : Operand) (s' : WState) : Prop :=
  ∀ sc, Inv s sc → Ext s s' ∧ typeOf (worldOf c) sc e = .ok a.typeDesc

def RvalsClaim (c : Ctx) (es : List Expr) (s : WState) (as : List Operand) (s' : WState) : Prop :=
  ∀ sc, Inv s sc → Ext s s' ∧ typeOfList (worldOf c) sc es = .ok (as.map (·.typeDesc))

theorem rval_claim {c : Ctx} {e : Expr} {s s1 s' : WState} {i : Inter} {a : Operand} (h1 : ExprClaim c e s i s1)
    (h2 : BuilderInv.run (interToRvalue i) s1 = (some a, s')) : RvalClaim c e s a s' := by
  intro sc hinv
  obtain ⟨hx, r, hr, hrel⟩ := h1 sc hinv
  obtain ⟨hx2, hv⟩ := interToRvalue_ok hrel h2
  exact ⟨hx.trans hx2, by simp only [typeOf, hr, valueOfR, hv]⟩

theorem rvals_nil (c : Ctx) (s : WState) : RvalsClaim c [] s [] s := fun sc _ => ⟨Ext.refl _, by simp [typeOfList]⟩

theorem rvals_cons {c : Ctx} {e : Expr} {es : List Expr} {s s1 s' : WState} {a : Operand} {as : List Operand}
    (h1 : RvalClaim c e s a s1) (h2 : RvalsClaim c es s1 as s') : RvalsClaim c (e :: es) s (a :: as) s' := by
  intro sc hinv
  obtain ⟨hx1, ht1⟩ := h1 sc hinv
  obtain ⟨hx2, ht2⟩ := h2 sc (hinv.ext hx1)
  exact ⟨hx1.trans hx2, by simp only [typeOfList, valueOfR_resolve, ht1, ht2, List.map_cons]⟩

/-- an accepted expression is typed by the specification.  `valueOfR_resolve` folds `valueOfR (resolve …)` back into
    `typeOf`, so that the facts about sub-expressions rewrite. -/
theorem _root_.QV.Proofs.BuilderInv.ExprRun.sound {c : Ctx} {e : Expr} {s s' : WState} {i : Inter} (h : ExprRun c e s i s') :
    ExprClaim c e s i s' := by
  induction h using ExprRun.rec (motive_2 := fun e s a s' _ => RvalClaim c e s a s')
    (motive_3 := fun es s as s' _ => RvalsClaim c es s as s') with
  | ident h =>
    intro sc hinv
    obtain ⟨rfl, r, hr, hrel⟩ := processIdentifier_ok hinv _ _ h
    exact ⟨Ext.refl _, r, by simp only [resolve]; exact hr, hrel⟩
  | this ht =>
    exact fun sc _ => ⟨Ext.refl _, _, by simp only [resolve, worldOf_thisObj, ht]; rfl, Rel.item _⟩
  | integer h =>
    intro sc _
    obtain ⟨rfl, ht, hv⟩ := visitInteger_ok h
    exact ⟨Ext.refl _, _, by simp only [resolve, hv, if_true], item_rel ht⟩
  | float | string | bool | null => exact fun sc _ => ⟨Ext.refl _, _, by simp only [resolve]; rfl, Rel.item _⟩
  | array _ hv ih =>
    intro sc hinv
    obtain ⟨hx, hts⟩ := ih sc hinv
    obtain ⟨hat, hg⟩ := visitArray_ok hv
    refine ⟨hx.item hg, _, ?_, Rel.item _⟩
    simp only [resolve, hts, worldOf_env]
    rw [hat]
    rfl
  | member _ h2 h3 ih =>
    intro sc hinv
    obtain ⟨hx1, r0, hr0, hrel⟩ := ih sc hinv
    obtain ⟨hx2, hv⟩ := interToRvalue_ok hrel h2
    obtain ⟨rfl, r, hr, hR⟩ := processItemProperty_ok h3
    exact ⟨hx1.trans hx2, r, (resolve_member_value hr0 hv).trans (isLoc_valueKind hrel ▸ hr), hR _⟩
  | memberNamespace _ h2 ih =>
    intro sc hinv
    obtain ⟨hx1, r0, hr0, hrel⟩ := ih sc hinv
    obtain ⟨rfl, r, hr, hR⟩ := processNamespaceName_ok h2
    cases hrel <;> exact ⟨hx1, r, by simp only [resolve, hr0]; exact hr, hR _⟩
  | memberType _ h2 ih =>
    intro sc hinv
    obtain ⟨hx1, r0, hr0, hrel⟩ := ih sc hinv
    obtain ⟨rfl, r, hr, hR⟩ := processTypeMember_ok h2
    cases hrel
    exact ⟨hx1, r, by simp only [resolve, hr0, worldOf_env]; exact hr, hR _⟩
  | subscript _ h2 _ ih1 ih3 =>
    intro sc hinv
    obtain ⟨hx1, r0, hr0, hrel⟩ := ih1 sc hinv
    obtain ⟨hx2, hv0⟩ := interToRvalue_ok hrel h2
    have hx := hx1.trans hx2
    obtain ⟨hx3, ht3⟩ := ih3 sc (hinv.ext hx)
    refine ⟨hx.trans hx3, _, ?_, Rel.elem _ _ _⟩
    simp only [resolve, valueOfR_resolve, hr0, hv0, ht3, isLoc_valueKind hrel]
  | callMethod _ _ hv ih1 ih2 =>
    intro sc hinv
    obtain ⟨hx1, hts⟩ := ih1 sc hinv
    obtain ⟨hx2, r0, hr0, hrel⟩ := ih2 sc (hinv.ext hx1)
    obtain ⟨hcm, hg⟩ := visitObjectMethodCall_ok hv
    cases hrel with
    | methods _ _ sigs hs =>
      exact ⟨(hx1.trans hx2).item hg, .val _, by simp only [resolve, hts, hr0, hs, worldOf_env, hcm, Except.map], Rel.item _⟩
  | callBuiltin _ _ hv ih1 ih2 =>
    intro sc hinv
    obtain ⟨hx1, hts⟩ := ih1 sc hinv
    obtain ⟨hx2, r0, hr0, hrel⟩ := ih2 sc (hinv.ext hx1)
    obtain ⟨hcm, hg⟩ := visitBuiltinCall_ok hv
    cases hrel
    exact ⟨(hx1.trans hx2).item hg, .val _, by simp only [resolve, hts, hr0, worldOf_env, hcm, Except.map], Rel.item _⟩
  | assignLocal _ _ hv ih1 ih2 =>
    -- the left-hand reference is walked first, then the value (typedexpr.rs as of /repo 5ccd31a)
    intro sc hinv
    obtain ⟨hx1, r0, hr0, hrel0⟩ := ih1 sc hinv
    obtain ⟨hx2, ht1⟩ := ih2 sc (hinv.ext hx1)
    cases hrel0 with
    | loc _ _ t hl =>
      obtain ⟨has, hav, hg⟩ := visitLocalAssignment_ok (hx2.grows.get hl) hv
      exact ⟨(hx1.trans hx2).item hg, .val .void, by simp only [resolve, valueOfR_resolve, ht1, hr0, worldOf_env, has, if_true],
        item_rel hav⟩
  | assignProperty _ _ hrk hv ih1 ih2 =>
    intro sc hinv
    obtain ⟨hx1, r0, hr0, hrel0⟩ := ih1 sc hinv
    obtain ⟨hx2, ht1⟩ := ih2 sc (hinv.ext hx1)
    cases hrel0
    obtain ⟨hw, has, hav, hg⟩ := visitObjectPropertyAssignment_ok hv
    refine ⟨(hx1.trans hx2).item hg, .val .void, ?_, item_rel hav⟩
    simp only [resolve, valueOfR_resolve, ht1, hr0, worldOf_env, hrk, decide_false, hw, has]
    simp
  | assignSubscript _ _ hv ih1 ih2 =>
    intro sc hinv
    obtain ⟨hx1, r0, hr0, hrel0⟩ := ih1 sc hinv
    obtain ⟨hx2, ht1⟩ := ih2 sc (hinv.ext hx1)
    cases hrel0
    obtain ⟨t, het, has, hav, hg⟩ := visitObjectSubscriptAssignment_ok hv
    refine ⟨(hx1.trans hx2).item hg, .val .void, ?_, item_rel hav⟩
    simp only [resolve, valueOfR_resolve, ht1, hr0, worldOf_env, decide_true, het, has]
    simp
  | unary _ hop hv ih =>
    intro sc hinv
    obtain ⟨hx, ht1⟩ := ih sc hinv
    obtain ⟨hu, hg⟩ := visitUnaryExpression_ok hv
    exact ⟨hx.item hg, _, by simp only [resolve, valueOfR_resolve, ht1, unaryOf_eq, hop, hu], Rel.item _⟩
  | binary _ _ hop hlog hv ih1 ih2 =>
    intro sc hinv
    obtain ⟨hx1, ht1⟩ := ih1 sc hinv
    obtain ⟨hx2, ht2⟩ := ih2 sc (hinv.ext hx1)
    obtain ⟨hb, hg⟩ := visitBinaryExpression_ok hlog hv
    refine ⟨(hx1.trans hx2).item hg, _, ?_, Rel.item _⟩
    simp only [resolve, valueOfR_resolve, binaryOf_eq, hop, ht1, ht2]
    rename_i op _ _
    cases op <;> first | exact absurd rfl (hlog _) | simp only [worldOf_env, hb]
  | logical _ _ hop hbl hbr hV ih1 ih2 =>
    intro sc hinv
    obtain ⟨hx1, ht1⟩ := ih1 sc hinv
    have hx2 := hx1.trans (Ext.marked _)
    obtain ⟨hx3, ht3⟩ := ih2 sc (hinv.ext hx2)
    have hx4 := (hx2.trans hx3).trans (Ext.marked _)
    obtain ⟨hv1, hv2⟩ := visitBinaryLogicalExpression_ok hV
    refine ⟨hx4.item hv2, .val .bool, ?_, item_rel hv1⟩
    simp only [resolve, valueOfR_resolve, binaryOf_eq, hop, ht1, ht3, hbl, hbr]
    simp
  | as_ _ hk hv ih =>
    intro sc hinv
    obtain ⟨hx, ht1⟩ := ih sc hinv
    obtain ⟨hc, hxt, hg⟩ := visitAsExpression_ok hv
    exact ⟨hx.item hg, .val (.concrete _),
      by simp only [resolve, valueOfR_resolve, ht1, worldOf_env, annotated_of_annotatedType hk, hc, if_true], item_rel hxt⟩
  | ternary _ _ _ hcb hv ih1 ih2 ih3 =>
    intro sc hinv
    obtain ⟨hx1, ht1⟩ := ih1 sc hinv
    have hx2 := hx1.trans (Ext.marked _)
    obtain ⟨hx3, ht3⟩ := ih2 sc (hinv.ext hx2)
    have hx4 := (hx2.trans hx3).trans (Ext.marked _)
    obtain ⟨hx5, ht5⟩ := ih3 sc (hinv.ext hx4)
    have hx6 := (hx4.trans hx5).trans (Ext.marked _)
    obtain ⟨k, hk, hxt, hg⟩ := visitTernaryExpression_ok hv
    refine ⟨hx6.item hg, .val (.concrete k), ?_, item_rel hxt⟩
    simp only [resolve, valueOfR_resolve, ht1, ht3, ht5, hcb, worldOf_env, hk]
    simp
  | mk _ h2 _ ih => exact rval_claim ih h2
  | nil => exact rvals_nil _ _
  | cons _ _ ih1 ih2 => exact rvals_cons ih1 ih2

theorem _root_.QV.Proofs.BuilderInv.RvalRun.sound {c : Ctx} {e : Expr} {s s' : WState} {a : Operand} (h : RvalRun c e s a s') :
    RvalClaim c e s a s' := by
  cases h with
  | mk h1 h2 _ => exact rval_claim h1.sound h2

theorem _root_.QV.Proofs.BuilderInv.RvalsRun.sound {c : Ctx} {es : List Expr} {s s' : WState} {as : List Operand}
    (h : RvalsRun c es s as s') : RvalsClaim c es s as s' :=
  h.induct (motive := RvalsClaim c) (rvals_nil c) fun h1 ih => rvals_cons h1.sound ih

theorem inv_init : Inv {} [] := by
  intro n
  simp [Locals.get?, Scope.find]

/-- `tir::build` / `build_callback` produce code only from an accepted walk of the program -/
theorem run_of_build {c : Ctx} {callback : Bool} {p : Program} (h : (build c callback p).code.isSome = true) :
    ∃ st, BuilderInv.run (walkProgram c callback p) {} = (some (), st) := by
  unfold build at h
  generalize hrun : (walkProgram c callback p).run {} = res at h
  rcases res with ⟨_ | u, st⟩
  · cases h
  · exact ⟨st, hrun⟩

/-- a binding or callback that is ONE expression: if `tir::build` / `build_callback` produce code for it, the
    specification types the expression (in the empty scope), whatever diagnostics were pushed -/
theorem build_expr_sound (c : Ctx) (callback : Bool) (e : Expr)
    (h : (build c callback (.stmt (.expr e))).code.isSome = true) :
    ∃ t, typeOf (worldOf c) [] e = .ok t := by
  obtain ⟨st, hrun⟩ := run_of_build h
  cases BuilderInv.programRun hrun with
  | stmt hs => cases hs with | expr hr => exact ⟨_, (hr.sound [] inv_init).2⟩

end QV.Proofs.TypingSound
