/- C11: flattening a forest and rebuilding it by indices is direct recursion on it. -/
import QV.Model.FormTree
import QV.Spec.FormTree

namespace QV.Proofs.FormTree
open QV.Model.FormTree QV.Spec.FormTree

theorem populate_prefix (F : Forest) : ∀ ns, ∃ added, (populate F ns).1 = ns ++ added := by
  induction F with
  | nil => intro ns; exact ⟨[], by simp [populate]⟩
  | cons info ch rest ihc ihr =>
    intro ns
    simp only [populate]
    split
    · obtain ⟨a1, h1⟩ := ihc ns
      obtain ⟨a3, h3⟩ := ihr ((populate ch ns).1 ++ [{ info, childIndices := (populate ch ns).2 }])
      refine ⟨a1 ++ [{ info, childIndices := (populate ch ns).2 }] ++ a3, ?_⟩
      rw [h3, h1]
      simp [List.append_assoc]
    · exact ihr ns

theorem populate_isEmpty (F : Forest) : ∀ ns, (populate F ns).2.isEmpty = !hasResolving F := by
  induction F with
  | nil => intro ns; simp [populate, hasResolving]
  | cons info ch rest _ ihr =>
    intro ns
    simp only [populate, hasResolving]
    split
    · rename_i h; simp [h]
    · rename_i h; simp [h, ihr]

theorem assemble_some (mode : Mode) (info : Info) (hc : Bool) (kids : Mode → List (Built × Nat)) :
    ∃ b, assemble mode info hc (fun m => some (kids m)) = some b := by
  apply Option.isSome_iff_exists.mp
  cases mode <;>
    simp only [assemble, apply_ite Option.isSome, Option.map_some, Option.isSome_some, ite_self]

/-- **Flatten, then rebuild by indices = direct recursion on the tree**, for every forest of siblings, every
    vector it is appended to, every later extension of that vector, and any sufficient fuel. -/
theorem build_populate (F : Forest) :
    ∀ (ns E : List NodeData) (fuel : Nat) (m : Mode), depth F ≤ fuel →
      mapOpt (build ((populate F ns).1 ++ E) fuel m) (populate F ns).2 = some (specForest m F) := by
  induction F with
  | nil => intro ns E fuel m _; simp [populate, mapOpt, specForest]
  | cons info ch rest ihc ihr =>
    intro ns E fuel m hd
    obtain ⟨hdc, hdr⟩ := Nat.max_le.mp hd
    simp only [populate, specForest]
    by_cases hres : info.resolves = true
    · simp only [hres, if_true]
      generalize hr1 : populate ch ns = r1 at *
      let nd : NodeData := { info, childIndices := r1.2 }
      obtain ⟨A, hA⟩ := populate_prefix rest (r1.1 ++ [nd])
      have hpos : 0 < fuel := Nat.lt_of_lt_of_le (Nat.succ_pos _) hdc
      obtain ⟨fuel', rfl⟩ := Nat.exists_eq_add_one_of_ne_zero (Nat.ne_of_gt hpos)
      -- the vector: what the children wrote, this node, everything later
      have hnodes : (populate rest (r1.1 ++ [nd])).1 ++ E = r1.1 ++ ([nd] ++ A ++ E) := by
        rw [hA]
        simp only [List.append_assoc]
      have hget : ((populate rest (r1.1 ++ [nd])).1 ++ E)[r1.1.length]? = some nd := by
        rw [hnodes, List.getElem?_append_right (Nat.le_refl _), Nat.sub_self]; rfl
      have hkids : ∀ m', mapOpt (build ((populate rest (r1.1 ++ [nd])).1 ++ E) fuel' m') r1.2
          = some (specForest m' ch) := fun m' =>
        hnodes ▸ hr1 ▸ ihc ns ([nd] ++ A ++ E) fuel' m' (Nat.le_of_succ_le_succ hdc)
      have hemp : (!nd.childIndices.isEmpty) = hasResolving ch := by
        rw [show nd.childIndices = (populate ch ns).2 from hr1 ▸ rfl, populate_isEmpty, Bool.not_not]
      have hself : build ((populate rest (r1.1 ++ [nd])).1 ++ E) (fuel' + 1) m r1.1.length
          = assemble m info (hasResolving ch) (fun m' => some (specForest m' ch)) := by
        simp only [build, hget, hemp]
        exact congrArg _ (funext hkids)
      obtain ⟨b, hb⟩ := assemble_some m info (hasResolving ch) (fun m' => specForest m' ch)
      -- fold the spelled-out node back to `nd`
      simp only [mapOpt, show ({ info := info, childIndices := r1.2 } : NodeData) = nd from rfl, hself,
        ihr (r1.1 ++ [nd]) E (fuel' + 1) m hdr, hb]
    · simp only [hres, Bool.false_eq_true, if_false]
      exact ihr ns E fuel m hdr

end QV.Proofs.FormTree
