import Lean

/-- The rules by which `simp only [walkX, wps]` passes `QV.Proofs.BuilderInv.Ok` through a `do` block of the walk monad
    (QV.Proofs.WalkRun): one rule for each kind of step, oriented from the block towards what is left of it.  The rule for
    an arbitrary `m >>= f`, `ok_bind`, is tagged `low`, so that the rule of the step `m` itself is tried first. -/
register_simp_attr wps
