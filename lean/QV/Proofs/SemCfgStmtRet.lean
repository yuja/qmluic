/-
  QV.Props.C01 — `if` branches that `return` (early return) in the CFG-level induction over statement lists.
  A branch that returns does not reach the join block, so the conclusion is put on the RESULT of the run (`ROk`): over any
  final code that covers the builder and has `return operand` at the exit block (`RetAt`), execution from the entry
  position returns the value the reference semantics gives to the statement list — through the final expression /
  `return`, or through a returning branch.  `SOk` (reach the exit position) implies `ROk`.
  `ROk` is `GOk` at the `Tail` `rTail`; a branch that ends in `return e` is a `BranchOk` branch (`branch_of_sOk`), so the
  `if` statements with returning branches are instances of `g_if_else` / `g_if1`.
  Suffixes: `_r` "on the result of the run" (`walk_r` concludes `ROk`, `ir_of_finish_r` starts from `RetAt`),
  `walk_g` the same induction with the conclusion in `GOk` form.
-/
import QV.Proofs.SemCfgStmtIf

namespace QV.Proofs.SemCfgStmtRet
open QV.Model QV.Model.IrSem QV.Proofs.SemIr QV.Proofs.SemVisit QV.Proofs.SemWalk QV.Proofs.SemStraight
open QV.Proofs.SemCfg QV.Proofs.SemCfgWalk QV.Proofs.SemCfgCtl QV.Proofs.SemCfgBlock QV.Proofs.SemCfgStmt QV.Proofs.SemCfgStmtIf
open QV.Spec.Sem (Val World Host Ev Ty STy coerceTo binop unop staticTy)

/-- the value a statement list hands to the binding: the `return` value, else the completion value -/
def outVal : QV.Spec.Sem.Outcome → Option Val
  | .ret v => some v
  | .normal (some v) => some v
  | _ => none

theorem outVal_outOf (isRet : Bool) (v : Val) : outVal (outOf isRet v) = some v := by cases isRet <;> rfl

theorem outVal_afterVal (u : Val) (o : QV.Spec.Sem.Outcome) (v : Val) (h : outVal o = some v) :
    outVal (afterVal u o) = some v := by
  cases o with
  | ret w => exact h
  | brk w => cases h
  | normal w =>
    cases w with
    | none => cases h
    | some x => exact h

/-- the final code has `return operand` at the builder's exit block, and — `statements.length ≤ curLen b`, against
    `Covers.exit`'s prefix — has appended nothing to that block: the run that reaches the exit position returns at once -/
def RetAt (C : CodeBody) (b : Builder) (op : Operand) : Prop :=
  ∃ bE, C.blocks[b.currentRef]? = some bE ∧ bE.statements.length ≤ curLen b ∧
    bE.terminator = some (.ret (ensureConcreteString op))

/-- the induction hypothesis / conclusion on the RESULT of the run -/
def ROk (wc : Ctx) (sc : QV.Spec.Sem.Ctx) (ic : ICtx) (isRet : Bool) (wl : QV.Model.Locals)
    (vars : List QV.Spec.Sem.Var) (stmts : List Stmt) : Prop :=
  ∀ s s', (walkStmts wc none stmts).run s = (some true, s') → s.locals = wl → VarRel s.b.code.locals wl vars →
    VarInj wl → (∃ blk, OpenAt s.b blk) →
    ∃ (s1 : WState) (op : Operand), s'.b = finish isRet s1.b op ∧ Walked s.b s1.b ∧ OperandOk s1.b.code.locals.length op ∧
      ∀ C, Covers C s1.b s.b.currentRef → RetAt C s1.b op →
      ∀ (st : State) (sst : QV.Spec.Sem.St) (out : QV.Spec.Sem.Outcome) (sst' : QV.Spec.Sem.St),
        shapeOf sst.vars = shapeOf vars → sst.w = st.w → (∀ x q u, st.w.prop x q = some u → isCint u = false) →
        ValRel wl sst.vars st.L →
        QV.Spec.Sem.execStmts sc stmts sst = some (out, sst') →
        ∃ v, outVal out = some v ∧ ∃ d res, d ≤ s1.b.currentRef - s.b.currentRef ∧
          ∀ fuel, runAt ic C (fuel + d) s.b.currentRef (curLen s.b) st = some (v, res)

theorem rOk_of_sOk {wc : Ctx} {sc : QV.Spec.Sem.Ctx} {ic : ICtx} {isRet : Bool} {wl : QV.Model.Locals}
    {vars : List QV.Spec.Sem.Var} {stmts : List Stmt} (h : SOk wc sc ic isRet wl vars stmts) :
    ROk wc sc ic isRet wl vars stmts := by
  intro s s' hr hl hvr hinj ho
  obtain ⟨s1, op, hfin, w, hok, hsim⟩ := h s s' hr hl hvr hinj ho
  refine ⟨s1, op, hfin, w, hok, ?_⟩
  intro C hC ⟨bE, hbE, hlen, hterm⟩ st sst out sst' hvars hw hnc hval hsp
  obtain ⟨v, hout, d, st', hd, hrun, hv⟩ := hsim C hC st sst out sst' hvars hw hnc hval hsp
  refine ⟨v, by rw [hout, outVal_outOf], d, st', hd, ?_⟩
  intro fuel
  rw [hrun fuel, runAt_ret ic C _ _ _ bE _ st' hbE hlen hterm, evalOperand_ensure, hv]
  rfl

/-- the `Tail` of `ROk`: if the final code returns the operand at the exit position, the run returns the value of the
    statement list -/
def rTail : Tail := fun C b1 op out n run =>
  RetAt C b1 op → ∃ v, outVal out = some v ∧ ∃ d res, d ≤ n ∧ ∀ fuel, run (fuel + d) = some (v, res)

theorem rTail_ok : TailOk rTail where
  step := by
    intro C b1 op out n n' d run run' hrun hle h hret
    obtain ⟨v, hout, d', res, hd', hr'⟩ := h hret
    exact ⟨v, hout, d' + d, res, by omega, fun fuel => by rw [← Nat.add_assoc, hrun, hr']⟩
  after := by
    intro C b1 op out n run u h hret
    obtain ⟨v, hout, rest⟩ := h hret
    exact ⟨v, outVal_afterVal u out v hout, rest⟩

theorem rTail_ret : RetTail rTail := by
  intro C b1 op n run v d res hd hrun _
  exact ⟨v, rfl, d, res, hd, hrun⟩

theorem rOk_iff_gOk {wc : Ctx} {sc : QV.Spec.Sem.Ctx} {ic : ICtx} {isRet : Bool} {wl : QV.Model.Locals}
    {vars : List QV.Spec.Sem.Var} {stmts : List Stmt} :
    ROk wc sc ic isRet wl vars stmts ↔ GOk rTail wc sc ic isRet wl vars stmts := by
  constructor
  · intro h s s' hr hl hvr hinj ho
    obtain ⟨s1, op, hfin, w, hok, hsim⟩ := h s s' hr hl hvr hinj ho
    exact ⟨s1, op, hfin, w, hok, fun C hC st sst out sst' hrel hsp hret =>
      hsim C hC hret st sst out sst' hrel.shape hrel.world hrel.nc hrel.vals hsp⟩
  · intro h s s' hr hl hvr hinj ho
    obtain ⟨s1, op, hfin, w, hok, hsim⟩ := h s s' hr hl hvr hinj ho
    exact ⟨s1, op, hfin, w, hok, fun C hC hret st sst out sst' hvars hw hnc hval hsp =>
      hsim C hC st sst out sst' ⟨hvars, hw, hnc, hval⟩ hsp hret⟩

/-- `visit_return_statement` on an open block: the block gets `return operand`, a new empty block is current -/
theorem visitReturn_piece (b : Builder) (blk : BasicBlock) (op : Operand) (ho : OpenAt b blk) :
    Piece 0 b (visitReturnStatement b op) [] (some (.ret (ensureConcreteString op))) ∧
    (visitReturnStatement b op).currentRef = b.currentRef + 1 ∧ OpenAt (visitReturnStatement b op) {} := by
  -- terminating the current block and pushing a block commute: the visitor patches one block of `b.newBlock.2`
  have hP : Patched b.newBlock.2 (visitReturnStatement b op) []
      [(b.currentRef, blk, [], .ret (ensureConcreteString op))] := by
    refine Patched.of_eq (tys := []) ?_ (List.pairwise_singleton _ _)
      (List.forall_mem_singleton.mpr (newBlock_keeps ho))
    simp only [visitReturnStatement, finalizeAt_open b _ blk _ ho.1 ho.2, Builder.newBlock, setAll, List.foldl,
      BlockPatch.block, List.append_nil]
    rw [List.set_append_left _ _ (lt_length_of_getElem? ho.1)]
  have k := Piece.newBlock 0 ho
  have hcur := (currentRef_of_length hP.len).trans (newBlock_cur ho)
  refine ⟨k.patch ho hP (List.mem_singleton_self _) fun i _ hi => List.forall_mem_singleton.mpr (Nat.ne_of_gt hi),
    hcur, ?_, rfl⟩
  rw [hcur, ← newBlock_cur ho, hP.other _ (List.forall_mem_singleton.mpr (Nat.ne_of_lt k.lt))]
  exact (newBlock_open ho).1

/-- a branch `{ …; return e }`: the walk up to the operand of `e` reaches the exit position (`SOk`), where
    `visit_return_statement` puts `return operand` -/
theorem branch_of_sOk {wc : Ctx} {sc : QV.Spec.Sem.Ctx} {ic : ICtx} {wl : QV.Model.Locals}
    {vars : List QV.Spec.Sem.Var} {R : List Stmt} (hR : SOk wc sc ic true wl vars R) :
    BranchOk true wc sc ic wl vars R := by
  intro s s2 h hl hvr hinj ho
  cases h with | @block _ _ _ sR hss =>
  obtain ⟨sr1, opR, hfinR, wR, hokR, simR⟩ := hR s sR hss.run_eq hl hvr hinj ho
  obtain ⟨blkR, hoR⟩ := wR.exitOpen
  obtain ⟨pR, hcurR, hopenR⟩ := visitReturn_piece sr1.b blkR opR hoR
  have hs2b : ({ sR with locals := s.locals } : WState).b = visitReturnStatement sr1.b opR := hfinR
  rw [← hs2b] at pR hcurR hopenR
  -- `nofun`: a `ret` is no `br`; no block lies between the returning block and the new current one
  have wv := pR.walked wR nofun ⟨_, hopenR⟩
    (fun i h1 h2 => absurd h2 (by rw [hcurR]; exact Nat.not_lt.mpr h1))
  refine ⟨wv, fun C hC st sst o sst' hrel hsp => Or.inr ⟨rfl, ?_⟩⟩
  obtain ⟨v, ho1, d, st2, hd, hrun, hv⟩ := simR C (pR.covers hC (Nat.zero_le _) wR.cur_le) st sst o sst'
    hrel.shape hrel.world hrel.nc hrel.vals hsp
  refine ⟨v, ho1, d, st2, Nat.le_trans hd (Nat.sub_le_sub_right (Nat.le_of_lt pR.lt) _), fun fuel => ?_⟩
  rw [hrun, pR.run_ret hC wR.cur_le ic st2 fuel, evalOperand_ensure, hv]
  rfl

/-- a run from the head of block 0 that returns after `d ≤ n` transitions, `n` less than the number of blocks, is a run of
    the whole code: `IrSem.run` provides `blocks.length` -/
theorem run_of_runAt (ic : ICtx) (C : CodeBody) (w : World) (P : Val → Prop) (n : Nat) (hlen : n < C.blocks.length)
    (h : ∃ val d res, P val ∧ d ≤ n ∧
      ∀ fuel, runAt ic C (fuel + d) 0 0 { w := w, L := fun _ => none, trace := [] } = some (val, res)) :
    ∃ val st', P val ∧ IrSem.run ic C w [] = some (val, st') := by
  obtain ⟨val, d, res, hP, hd, hrun⟩ := h
  have hinit : initLocals C [] = fun _ => none := by funext n; simp [initLocals]
  refine ⟨val, res, hP, ?_⟩
  simp only [IrSem.run, hinit]
  rw [runFrom_eq_runAt]
  have h2 := hrun (C.blocks.length - d)
  rw [Nat.sub_add_cancel (by omega)] at h2
  exact h2

/-- from the exit position of a walk that started in the initial builder to the value of the binding.  The program ends
    in an expression statement (`isRet = false`): the operand becomes the completion value of the exit block,
    `finalize_completion_values` turns it into `return operand`, nothing else changes.  It ends in `return e`
    (`isRet = true`): the exit block is terminated by `return operand`, an empty block is pushed, which
    `finalize_completion_values` marks unreachable; nothing else changes -/
theorem ir_of_finish_r (isRet : Bool) (ic : ICtx) (s1 : WState) (op : Operand) (w : World) (P : Val → Prop)
    (hwalked : Walked ({} : WState).b s1.b)
    (hsim : ∀ C, Covers C s1.b 0 → RetAt C s1.b op → ∃ val d res, P val ∧ d ≤ s1.b.currentRef ∧
      ∀ fuel, runAt ic C (fuel + d) 0 0 { w := w, L := fun _ => none, trace := [] } = some (val, res)) :
    ∃ val st', P val ∧ IrSem.run ic (finalizeCompletionValues (finish isRet s1.b op).code
      (finish isRet s1.b op).currentRef).1 w [] = some (val, st') := by
  cases isRet with
  | false =>
    show ∃ val st', P val ∧ IrSem.run ic (finalizeCompletionValues (visitExpressionStatement s1.b op).code
      (visitExpressionStatement s1.b op).currentRef).1 w [] = some (val, st')
    obtain ⟨blkE, hoE⟩ := hwalked.exitOpen
    have hlenE := open_len hoE
    have hves : (visitExpressionStatement s1.b op).code.blocks =
        s1.b.code.blocks.set s1.b.currentRef { blkE with completionValue := some (ensureConcreteString op) } ∧
        (visitExpressionStatement s1.b op).code.locals = s1.b.code.locals ∧
        (visitExpressionStatement s1.b op).currentRef = s1.b.currentRef := by
      rw [visitExpressionStatement, setCompletion_eq s1.b blkE _ hoE]
      exact ⟨rfl, rfl, by simp [Builder.currentRef]⟩
    obtain ⟨hvb, hvl, hvc⟩ := hves
    have hfin := QV.Proofs.SemFold.return_of_completion (visitExpressionStatement s1.b op).code s1.b.currentRef
      { blkE with completionValue := some (ensureConcreteString op) } (ensureConcreteString op)
      (by rw [hvb]; exact getElem?_set_self' _ _ _ _ hoE.1) hoE.2 rfl
    rw [hvc, hfin]
    simp only
    have key : ∀ Cfin : CodeBody,
        Cfin.blocks = s1.b.code.blocks.set s1.b.currentRef
          { statements := blkE.statements, terminator := some (.ret (ensureConcreteString op)) } →
        Cfin.locals = s1.b.code.locals → ∃ val st', P val ∧ IrSem.run ic Cfin w [] = some (val, st') := by
      intro Cfin hCb hCl
      have hCE : Cfin.blocks[s1.b.currentRef]? =
          some { statements := blkE.statements, terminator := some (.ret (ensureConcreteString op)) } := by
        rw [hCb]; exact getElem?_set_self' _ _ _ _ hoE.1
      exact run_of_runAt ic Cfin w P s1.b.currentRef (by rw [hCb, List.length_set, ← hlenE]; exact Nat.lt_succ_self _)
        (hsim Cfin
          ⟨by rw [hCl]; exact List.prefix_refl _, fun i _ hi => by rw [hCb, List.getElem?_set_ne (by omega)],
            blkE, _, hoE.1, hCE, List.prefix_refl _⟩
          ⟨_, hCE, by simp [curLen_of_open hoE], rfl⟩)
    exact key _ (by simp only [hvb, List.set_set]) hvl
  | true =>
    show ∃ val st', P val ∧ IrSem.run ic (finalizeCompletionValues (visitReturnStatement s1.b op).code
      (visitReturnStatement s1.b op).currentRef).1 w [] = some (val, st')
    obtain ⟨blkE, hoE⟩ := hwalked.exitOpen
    obtain ⟨pV, hcur, hopenV⟩ := visitReturn_piece s1.b blkE op hoE
    have hgetE := pV.exit_eq hoE
    rw [List.append_nil] at hgetE
    have hgetS : (visitReturnStatement s1.b op).code.blocks[s1.b.currentRef + 1]? = some ({} : BasicBlock) := by
      rw [← hcur]; exact hopenV.1
    have hlenV : (visitReturnStatement s1.b op).code.blocks.length = s1.b.currentRef + 2 := by
      have := open_len hopenV; omega
    -- no block branches unconditionally to the empty block behind the `return`: below the exit block by `Walked.brs`, the
    -- exit block returns, the empty block has no terminator, and there is no block beyond
    obtain ⟨term, hfin⟩ := finalize_after_return (visitReturnStatement s1.b op).code (s1.b.currentRef + 1) hgetS (by
      intro i bi hbi hbr
      rcases Nat.lt_or_ge i s1.b.currentRef with hlt | hge
      · rw [pV.below i (Nat.zero_le _) hlt] at hbi
        have := hwalked.brs i (Nat.zero_le _) hlt bi _ hbi hbr
        omega
      · rcases Nat.eq_or_lt_of_le hge with heq | hgt
        · subst heq
          rw [hgetE] at hbi
          injection hbi with hbi
          subst hbi
          simp at hbr
        · rcases Nat.eq_or_lt_of_le (Nat.succ_le_of_lt hgt) with heq2 | hgt2
          · rw [← heq2] at hbi
            rw [hgetS] at hbi
            injection hbi with hbi
            subst hbi
            simp at hbr
          · rw [List.getElem?_eq_none (by omega)] at hbi
            cases hbi)
    rw [hcur, hfin]
    have hCE : (setBlock (visitReturnStatement s1.b op).code.blocks (s1.b.currentRef + 1) { terminator := some term })[
        s1.b.currentRef]? = some { blkE with terminator := some (.ret (ensureConcreteString op)) } := by
      rw [setBlock, List.getElem?_set_ne (by omega)]; exact hgetE
    exact run_of_runAt ic _ w P s1.b.currentRef
      (by show _ < (setBlock _ _ _).length; rw [setBlock, List.length_set, hlenV]; omega)
      (hsim _
        ⟨pV.locals.elim fun tys h => ⟨tys, h.symm⟩, fun i _ hi => by
            show (setBlock _ _ _)[i]? = _
            rw [setBlock, List.getElem?_set_ne (by omega)]; exact pV.below i (Nat.zero_le _) hi,
          blkE, _, hoE.1, hCE, List.prefix_refl _⟩
        ⟨_, hCE, by simp [curLen_of_open hoE], rfl⟩)

/-- statement lists
      S ::= e | return e | let x = e; S | const x = e; S | x = e; S | if (e) { A } else { A }; S | if (e) { A }; S
          | if (e) { T }; S | if (e) { T } else { A }; S | if (e) { A } else { T }; S | if (e) { T } else { T }; S
                                                              (early returns; after two returning branches S is dead)
      T ::= S that ends in `return e` and has no early return itself (`IFrag wc true`)
      A ::= ε | x = e; A -/
inductive RFrag (wc : Ctx) : Bool → List String → List Stmt → Prop
  | expr (scope : List String) (e : Expr) : CfgFrag wc scope e → RFrag wc false scope [.expr e]
  | ret (scope : List String) (e : Expr) : CfgFrag wc scope e → RFrag wc true scope [.return_ (some e)]
  | decl (isRet : Bool) (scope : List String) (kind : DeclKind) (x : String) (e : Expr) (rest : List Stmt) :
      CfgFrag wc scope e → RFrag wc isRet (x :: scope) rest →
      RFrag wc isRet scope (.lexical kind [{ name := x, ty := none, value := some e }] :: rest)
  | assign (isRet : Bool) (scope : List String) (x : String) (e : Expr) (rest : List Stmt) :
      x ∈ scope → CfgFrag wc scope e → RFrag wc isRet scope rest →
      RFrag wc isRet scope (.expr (.assign (.ident x) e) :: rest)
  | ifElse (isRet : Bool) (scope : List String) (cnd : Expr) (A B rest : List Stmt) :
      CfgFrag wc scope cnd → BodyFrag wc scope A → BodyFrag wc scope B → RFrag wc isRet scope rest →
      RFrag wc isRet scope (.if_ cnd (.block A) (some (.block B)) :: rest)
  | if1 (isRet : Bool) (scope : List String) (cnd : Expr) (A rest : List Stmt) :
      CfgFrag wc scope cnd → BodyFrag wc scope A → RFrag wc isRet scope rest →
      RFrag wc isRet scope (.if_ cnd (.block A) none :: rest)
  | ifRet (isRet : Bool) (scope : List String) (cnd : Expr) (T rest : List Stmt) :
      CfgFrag wc scope cnd → IFrag wc true scope T → RFrag wc isRet scope rest →
      RFrag wc isRet scope (.if_ cnd (.block T) none :: rest)
  | ifRetElse (isRet : Bool) (scope : List String) (cnd : Expr) (T B rest : List Stmt) :
      CfgFrag wc scope cnd → IFrag wc true scope T → BodyFrag wc scope B → RFrag wc isRet scope rest →
      RFrag wc isRet scope (.if_ cnd (.block T) (some (.block B)) :: rest)
  | ifElseRet (isRet : Bool) (scope : List String) (cnd : Expr) (A T rest : List Stmt) :
      CfgFrag wc scope cnd → BodyFrag wc scope A → IFrag wc true scope T → RFrag wc isRet scope rest →
      RFrag wc isRet scope (.if_ cnd (.block A) (some (.block T)) :: rest)
  | ifRetRet (isRet : Bool) (scope : List String) (cnd : Expr) (T1 T2 rest : List Stmt) :
      CfgFrag wc scope cnd → IFrag wc true scope T1 → IFrag wc true scope T2 → RFrag wc isRet scope rest →
      RFrag wc isRet scope (.if_ cnd (.block T1) (some (.block T2)) :: rest)

theorem iFrag_rFrag {wc : Ctx} {isRet : Bool} {scope : List String} {stmts : List Stmt}
    (h : IFrag wc isRet scope stmts) : RFrag wc isRet scope stmts := by
  induction h with
  | expr scope e he => exact .expr scope e he
  | ret scope e he => exact .ret scope e he
  | decl isRet scope kind x e rest he _ ih => exact .decl isRet scope kind x e rest he ih
  | assign isRet scope x e rest hx he _ ih => exact .assign isRet scope x e rest hx he ih
  | ifElse isRet scope cnd A B rest hc hA hB _ ih => exact .ifElse isRet scope cnd A B rest hc hA hB ih
  | if1 isRet scope cnd A rest hc hA _ ih => exact .if1 isRet scope cnd A rest hc hA ih

theorem walk_g (wc : Ctx) (sc : QV.Spec.Sem.Ctx) (ic : ICtx) (hag : Agree wc sc ic) (isRet : Bool)
    (scope : List String) (stmts : List Stmt) (hf : RFrag wc isRet scope stmts) :
    ∀ (wl : QV.Model.Locals) (vars : List QV.Spec.Sem.Var), ScopeOf scope wl →
      GOk rTail wc sc ic isRet wl vars stmts := by
  induction hf with
  | expr scope e he =>
    intro wl vars hsc
    exact rOk_iff_gOk.mp (rOk_of_sOk (walk_i wc sc ic hag false scope _ (.expr scope e he) wl vars hsc))
  | ret scope e he =>
    intro wl vars hsc
    exact rOk_iff_gOk.mp (rOk_of_sOk (walk_i wc sc ic hag true scope _ (.ret scope e he) wl vars hsc))
  | decl isRet scope kind x e rest he _ ih =>
    intro wl vars hsc
    exact g_decl rTail_ok wc sc ic isRet wl vars kind x e rest (walk_cfg wc sc ic hag scope wl vars hsc e he)
      (fun vars' h => sty_shape wc sc scope vars vars' h e he)
      (fun n sty => ih _ _ (scopeOf_insert hsc x (n, kind)))
  | assign isRet scope x e rest hx he _ ih =>
    intro wl vars hsc
    obtain ⟨n, k, hg⟩ := scopeOf_get hsc hx
    exact g_assign rTail_ok wc sc ic isRet wl vars x n k e rest hg
      (walk_cfg wc sc ic hag scope wl vars hsc e he) (ih wl vars hsc)
  | ifElse isRet scope cnd A B rest hc hA hB _ ih =>
    intro wl vars hsc
    exact g_if_else rTail_ok false false nofun wc sc ic isRet wl vars cnd A B rest
      (walk_cfg wc sc ic hag scope wl vars hsc cnd hc) (branch_of_body (walk_body wc sc ic hag scope wl vars hsc A hA))
      (branch_of_body (walk_body wc sc ic hag scope wl vars hsc B hB)) (ih wl vars hsc)
  | if1 isRet scope cnd A rest hc hA _ ih =>
    intro wl vars hsc
    exact g_if1 rTail_ok false nofun wc sc ic isRet wl vars cnd A rest
      (walk_cfg wc sc ic hag scope wl vars hsc cnd hc) (branch_of_body (walk_body wc sc ic hag scope wl vars hsc A hA))
      (ih wl vars hsc)
  | ifRet isRet scope cnd T rest hc hT _ ih =>
    intro wl vars hsc
    exact g_if1 rTail_ok true (fun _ => rTail_ret) wc sc ic isRet wl vars cnd T rest
      (walk_cfg wc sc ic hag scope wl vars hsc cnd hc) (branch_of_sOk (walk_i wc sc ic hag true scope T hT wl vars hsc))
      (ih wl vars hsc)
  | ifRetElse isRet scope cnd T B rest hc hT hB _ ih =>
    intro wl vars hsc
    exact g_if_else rTail_ok true false (fun _ => rTail_ret) wc sc ic isRet wl vars cnd T B rest
      (walk_cfg wc sc ic hag scope wl vars hsc cnd hc) (branch_of_sOk (walk_i wc sc ic hag true scope T hT wl vars hsc))
      (branch_of_body (walk_body wc sc ic hag scope wl vars hsc B hB)) (ih wl vars hsc)
  | ifElseRet isRet scope cnd A T rest hc hA hT _ ih =>
    intro wl vars hsc
    exact g_if_else rTail_ok false true (fun _ => rTail_ret) wc sc ic isRet wl vars cnd A T rest
      (walk_cfg wc sc ic hag scope wl vars hsc cnd hc) (branch_of_body (walk_body wc sc ic hag scope wl vars hsc A hA))
      (branch_of_sOk (walk_i wc sc ic hag true scope T hT wl vars hsc)) (ih wl vars hsc)
  | ifRetRet isRet scope cnd T1 T2 rest hc hT1 hT2 _ ih =>
    intro wl vars hsc
    exact g_if_else rTail_ok true true (fun _ => rTail_ret) wc sc ic isRet wl vars cnd T1 T2 rest
      (walk_cfg wc sc ic hag scope wl vars hsc cnd hc) (branch_of_sOk (walk_i wc sc ic hag true scope T1 hT1 wl vars hsc))
      (branch_of_sOk (walk_i wc sc ic hag true scope T2 hT2 wl vars hsc)) (ih wl vars hsc)

theorem walk_r (wc : Ctx) (sc : QV.Spec.Sem.Ctx) (ic : ICtx) (hag : Agree wc sc ic) (isRet : Bool)
    (scope : List String) (stmts : List Stmt) (hf : RFrag wc isRet scope stmts)
    (wl : QV.Model.Locals) (vars : List QV.Spec.Sem.Var) (hsc : ScopeOf scope wl) : ROk wc sc ic isRet wl vars stmts :=
  rOk_iff_gOk.mpr (walk_g wc sc ic hag isRet scope stmts hf wl vars hsc)

end QV.Proofs.SemCfgStmtRet
