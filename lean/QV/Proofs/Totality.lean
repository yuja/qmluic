/-
  C07: the shape relation between evaluated values and static types, its preservation by `deduce_type`/`is_assignable`,
  the shape invariant of the interpreter (`LocalsOk`, kept by `stmts_ok` and `run_ok`), and the order of the callback
  parameters' ranges.
-/
import QV.Model.Totality

namespace QV.Proofs.Totality
open QV.Model.Totality

/-- which evaluated values the interpreter can produce for an operand of a given static type.
    int/uint/untyped integer → `Integer`; double → `Float`; bool → `Bool`; QString/untyped string → `String`;
    enum → `EnumSet`; pointer to class → `ObjectRef` (a constant `null` evaluates to *no value*, so nothing has
    the shape of `nullptr_t`); list of strings → `StringList`; list of pointers → `ObjectRefList`; the empty array
    `[]` evaluates to `EmptyList`, which is also the shape of any concrete list type it is assigned to. -/
def hasShape : EvaluatedValue → TypeDesc → Bool
  | .bool _, .concrete (.prim .bool) => true
  | .integer _, .constInteger => true
  | .integer _, .concrete (.prim .int) => true
  | .integer _, .concrete (.prim .uint) => true
  | .float _, .concrete (.prim .double) => true
  | .string _ _, .constString => true
  | .string _ _, .concrete (.prim .qstring) => true
  | .enumSet _, .concrete (.enum _) => true
  | .objectRef _, .concrete (.ptr _) => true
  | .stringList _, .concrete (.list (.prim .qstring)) => true
  | .objectRefList _, .concrete (.list (.ptr _)) => true
  | .emptyList, .emptyList => true
  | .emptyList, .concrete (.list _) => true
  | _, _ => false

/-- `hasShape` as a relation, so that `cases` reads off the form of the value from the type, or the types from the value -/
inductive Shape : EvaluatedValue → TypeDesc → Prop
  | bool (b) : Shape (.bool b) (.concrete (.prim .bool))
  | cint (i) : Shape (.integer i) .constInteger
  | int (i) : Shape (.integer i) (.concrete (.prim .int))
  | uint (i) : Shape (.integer i) (.concrete (.prim .uint))
  | float (x) : Shape (.float x) (.concrete (.prim .double))
  | cstring (s k) : Shape (.string s k) .constString
  | qstring (s k) : Shape (.string s k) (.concrete (.prim .qstring))
  | enum (es e) : Shape (.enumSet es) (.concrete (.enum e))
  | ptr (s c) : Shape (.objectRef s) (.concrete (.ptr c))
  | strings (xs) : Shape (.stringList xs) (.concrete (.list (.prim .qstring)))
  | refs (xs c) : Shape (.objectRefList xs) (.concrete (.list (.ptr c)))
  | empty : Shape .emptyList .emptyList
  | emptyOf (t) : Shape .emptyList (.concrete (.list t))

theorem Shape.of {v : EvaluatedValue} {t : TypeDesc} (h : hasShape v t = true) : Shape v t := by
  unfold hasShape at h
  split at h <;> first | constructor | cases h

theorem Shape.has {v : EvaluatedValue} {t : TypeDesc} (h : Shape v t) : hasShape v t = true := by
  cases h <;> rfl

/-- `Widens t R`: `R` is `t` itself or a type that `is_assignable`/`deduce_type` put in the place of `t`: an untyped
    constant takes the concrete type, enums and class pointers are taken for one another. Shapes are kept
    (`Widens.shape`); `null` may go anywhere, as no value has its shape. -/
inductive Widens : TypeDesc → TypeDesc → Prop
  | refl (t) : Widens t t
  | int : Widens .constInteger (.concrete (.prim .int))
  | uint : Widens .constInteger (.concrete (.prim .uint))
  | string : Widens .constString (.concrete (.prim .qstring))
  | null (R) : Widens .nullPointer R
  | list (e) : Widens .emptyList (.concrete (.list e))
  | enum (a b) : Widens (.concrete (.enum a)) (.concrete (.enum b))
  | ptr (a b) : Widens (.concrete (.ptr a)) (.concrete (.ptr b))

theorem Widens.shape {t R : TypeDesc} {v : EvaluatedValue} (h : Widens t R) (hs : hasShape v t = true) :
    hasShape v R = true := by
  cases h with
  | refl => exact hs
  | _ => cases Shape.of hs <;> rfl

theorem ite_ne {α : Type} {c : Prop} [Decidable c] {a b z : α} (ha : c → a ≠ z) (hb : b ≠ z) :
    (if c then a else b) ≠ z := by
  intro h
  split at h
  · exact ha ‹_› h
  · exact hb h

theorem fallbackCast_ne (e a : TypeKind) {k : CastKind} (h1 : .static ≠ k) (h2 : .variant ≠ k) (h3 : .invalid ≠ k) :
    fallbackCast e a ≠ k :=
  ite_ne (fun _ => h1) (ite_ne (fun _ => h1) (ite_ne (fun _ => h1) (ite_ne (fun _ => h2) h3)))

/-- when a concrete type is assignable: same type, compatible enums, or pointer to a derived class -/
theorem concrete_assignable (env : Env) {e a : TypeKind}
    (h : pickConcreteTypeCast env e a = .noop ∨ pickConcreteTypeCast env e a = .implicit) :
    Widens (.concrete a) (.concrete e) := by
  unfold pickConcreteTypeCast at h
  by_cases heq : e = a
  · exact heq ▸ .refl _
  · simp only [heq, if_false] at h
    split at h
    · exact .enum _ _
    · exact .ptr _ _
    · exact (h.elim (fallbackCast_ne e a (by decide) (by decide) (by decide))
        (fallbackCast_ne e a (by decide) (by decide) (by decide))).elim

theorem isAssignable_iff (env : Env) (e : TypeKind) (a : TypeDesc) :
    isAssignable env e a = true ↔ (pickTypeCast env e a = .noop ∨ pickTypeCast env e a = .implicit) := by
  unfold isAssignable
  cases pickTypeCast env e a <;> simp

theorem assignable_widens (env : Env) {expected : TypeKind} {actual : TypeDesc}
    (ha : isAssignable env expected actual = true) : Widens actual (.concrete expected) := by
  cases actual with
  | nullPointer => exact .null _
  | concrete t =>
    have hc : pickTypeCast env expected (.concrete t) = pickConcreteTypeCast env expected t := by
      cases expected <;> rfl
    rw [isAssignable_iff, hc] at ha
    exact concrete_assignable env ha
  | constInteger =>
    cases expected with
    | prim p => cases p <;> first | exact .int | exact .uint | cases ha
    | _ => cases ha
  | constString =>
    cases expected with
    | prim p => cases p <;> first | exact .string | cases ha
    | _ => cases ha
  | emptyList =>
    cases expected with
    | prim p => cases p <;> cases ha
    | list t => exact .list t
    | _ => cases ha

/-- behind a passed `verify_code_return_type`, a value of the shape of the return type has the shape of the expected type -/
theorem verify_shape (env : Env) {e : TypeKind} {ret : Option TypeDesc} {v : EvaluatedValue}
    (hs : ∀ rt, ret = some rt → hasShape v rt = true) (h : verifyCodeReturnType env e ret = true) :
    hasShape v (.concrete e) = true := by
  cases ret with
  | none => cases h
  | some rt => exact (assignable_widens env h).shape (hs rt rfl)

theorem map_ne {α β : Type} {x : Except Site α} {f : α → β} {s : Site} (hx : x ≠ .error s) :
    x.map f ≠ .error s := by
  cases x <;> simp_all [Except.map]

/-! each `unwrap_*` / `extract_*` accepts the values of the type its guard admits -/

theorem unwrapObjectRef_ne {v c} (h : hasShape v (.concrete (.ptr c)) = true) (s : Site) :
    unwrapObjectRef v ≠ .error s := by
  cases Shape.of h
  exact fun e => nomatch e

theorem unwrapEnumSet_ne {v e} (h : hasShape v (.concrete (.enum e)) = true) (s : Site) :
    unwrapEnumSet v ≠ .error s := by
  cases Shape.of h
  exact fun e => nomatch e

theorem unwrapIntoSimpleValue_ne {v p} (h : hasShape v (.concrete (.prim p)) = true) (s : Site) :
    unwrapIntoSimpleValue v ≠ .error s := by
  cases Shape.of h <;> exact fun e => nomatch e

theorem extractStaticString_ne {v} (h : hasShape v (.concrete (.prim .qstring)) = true) (s : Site) :
    extractStaticString v ≠ .error s := by
  cases Shape.of h with
  | qstring x k => cases k <;> exact fun e => nomatch e

theorem unwrapStringList_ne {v} (h : hasShape v (.concrete (.list (.prim .qstring))) = true)
    (s : Site) : unwrapStringList v ≠ .error s := by
  cases Shape.of h <;> exact fun e => nomatch e

theorem extractStringList_ne {v} (h : hasShape v (.concrete (.list (.prim .qstring))) = true)
    (s : Site) : extractStringList v ≠ .error s := by
  cases Shape.of h
  · exact ite_ne (fun _ => nofun) nofun
  · exact fun e => nomatch e

theorem deduce_widens (env : Env) {l r R : TypeDesc} (hd : deduceType env l r = some R) : Widens l R ∧ Widens r R := by
  unfold deduceType at hd
  by_cases heq : l = r
  · rw [if_pos heq] at hd
    cases hd; cases heq
    exact ⟨.refl _, .refl _⟩
  · rw [if_neg heq] at hd
    split at hd
    case h_7 =>     -- enum, enum: compatible or no type
      split at hd
      · cases hd; exact ⟨.refl _, .enum _ _⟩
      · cases hd
    case h_14 => cases hd     -- no common type
    -- the other arms return `l` or `r`: one side is `Widens.refl`, the other the one constructor that fits
    all_goals (cases hd; exact ⟨by constructor, by constructor⟩)

/-- the interpreter's invariant: a slot per local, and a value in a slot has the shape of the local's type -/
def LocalsOk (code : Code) (locals : Locals) : Prop :=
  locals.length = code.locals.length ∧
  ∀ (i : Nat) (v : EvaluatedValue), locals[i]? = some (some v) → ∃ t, code.locals[i]? = some t ∧ hasShape v (.concrete t) = true

theorem localsOk_init (code : Code) : LocalsOk code (List.replicate code.locals.length none) := by
  refine ⟨by simp, ?_⟩
  intro i v h
  rw [List.getElem?_replicate] at h
  split at h <;> simp at h

theorem localsOk_set {code : Code} {locals : Locals} {l : Nat} {lty : TypeKind} {v : Option EvaluatedValue}
    (hl : LocalsOk code locals) (hty : code.locals[l]? = some lty)
    (hv : ∀ x, v = some x → hasShape x (.concrete lty) = true) : LocalsOk code (locals.set l v) := by
  refine ⟨by simp [hl.1], ?_⟩
  intro i x h
  rw [List.getElem?_set] at h
  split at h
  · rename_i hli
    subst hli
    split at h
    · simp at h; exact ⟨lty, hty, hv x h⟩
    · simp at h
  · exact hl.2 i x h

theorem toEvaluated_const (locals : Locals) (c : ConstantValue) (k : Bool) :
    ∃ o, toEvaluatedValue locals (.const c) k = .ok o ∧ ∀ v, o = some v → hasShape v (Operand.const c).typeDesc = true := by
  cases c <;> exact ⟨_, rfl, fun _ e => by cases e <;> rfl⟩

theorem toEvaluated_ok {code : Code} {locals : Locals} {a : Operand} {k : Bool}
    (hl : LocalsOk code locals) (ha : operandOk code a = true) :
    ∃ o, toEvaluatedValue locals a k = .ok o ∧ ∀ v, o = some v → hasShape v a.typeDesc = true := by
  cases a with
  | const c => exact toEvaluated_const locals c k
  | enumVariant | namedObject => exact ⟨_, rfl, fun _ e => by cases e; rfl⟩
  | void => exact ⟨_, rfl, fun _ e => nomatch e⟩
  | local_ i ty =>
    simp only [operandOk, decide_eq_true_eq] at ha
    have hi : i < locals.length := by
      rw [hl.1]
      exact (List.getElem?_eq_some_iff.mp ha).1
    refine ⟨locals[i], by simp only [toEvaluatedValue, List.getElem?_eq_getElem hi], fun v hv => ?_⟩
    obtain ⟨t, ht, hs⟩ := hl.2 i v (by rw [List.getElem?_eq_getElem hi, hv])
    rw [ha] at ht
    cases ht
    exact hs

theorem evalAll_ok {code : Code} {locals : Locals} (hl : LocalsOk code locals) :
    ∀ (args : List Operand), args.all (operandOk code) = true →
      ∃ vs, evalAll locals args = .ok vs ∧
        ∀ a o, (a, o) ∈ args.zip vs → ∀ v, o = some v → hasShape v a.typeDesc = true
  | [], _ => ⟨[], rfl, fun _ _ h => nomatch h⟩
  | a :: rest, h => by
    simp only [List.all_cons, Bool.and_eq_true] at h
    obtain ⟨vs, hvs, hsh⟩ := evalAll_ok hl rest h.2
    obtain ⟨v, hta, hv⟩ := toEvaluated_ok (k := false) hl h.1
    refine ⟨v :: vs, by simp only [evalAll, hta, hvs], fun a' o hm => ?_⟩
    rcases List.mem_cons.1 hm with e | hm
    · cases e
      exact hv
    · exact hsh a' o hm

theorem allStrings_some_head {vs : List (Option EvaluatedValue)} {xs} (h : allStrings vs = some xs) (hne : vs ≠ []) :
    ∃ s k rest, vs = some (.string s k) :: rest := by
  cases vs with
  | nil => exact absurd rfl hne
  | cons x rest =>
    cases x with
    | none => simp [allStrings] at h
    | some y => cases y <;> simp [allStrings] at h ⊢

theorem rvalue_ok (env : Env) {code : Code} {locals : Locals} {lty : TypeKind} {r : Rvalue}
    (hl : LocalsOk code locals) (hr : rvalueOk env code lty r = true) :
    ∃ o, evalRvalue locals r = .ok o ∧ ∀ v, o = some (some v) → hasShape v (.concrete lty) = true := by
  cases r with
  | other => exact ⟨_, rfl, fun _ e => nomatch e⟩
  | copy a =>
    simp only [rvalueOk, Bool.and_eq_true] at hr
    obtain ⟨o, hta, ho⟩ := toEvaluated_ok (k := false) hl hr.1
    refine ⟨some o, by rw [evalRvalue, hta]; rfl, fun x hx => ?_⟩
    cases hx
    exact (assignable_widens env hr.2).shape (ho x rfl)
  | tr args =>
    simp only [rvalueOk, Bool.and_eq_true, decide_eq_true_eq] at hr
    obtain ⟨hargs, rfl⟩ := hr
    split at hargs
    · exact ⟨_, rfl, fun _ e => by cases e; rfl⟩
    · cases hargs
  | callMethod obj flag =>
    simp only [rvalueOk, Bool.and_eq_true] at hr
    cases obj <;> cases flag
    case namedObject.true =>
      -- `menuAction()` on a named object: the local has a pointer type
      refine ⟨_, rfl, fun v h => ?_⟩
      cases h
      have h2 := hr.2
      cases lty <;> first | rfl | cases h2
    all_goals exact ⟨_, rfl, fun _ e => nomatch e⟩
  | bitOr l r =>
    simp only [rvalueOk, Bool.and_eq_true] at hr
    obtain ⟨⟨hol, hor⟩, hd⟩ := hr
    obtain ⟨lo, htl, hlo⟩ := toEvaluated_ok (k := false) hl hol
    obtain ⟨ro, htr, _⟩ := toEvaluated_ok (k := false) hl hor
    simp only [evalRvalue, toEvaluatedEnumSet, htl, htr]
    cases lo with
    | none => exact ⟨_, rfl, fun _ e => nomatch e⟩
    | some lv =>
      cases ro with
      | none => exact ⟨_, rfl, fun _ e => nomatch e⟩
      | some rv =>
        simp only
        split
        · -- both operands have enum types; so has the result
          rename_i ls rs
          refine ⟨_, rfl, fun v h => ?_⟩
          cases h
          cases hdt : deduceType env l.typeDesc r.typeDesc with
          | none => simp [hdt] at hd
          | some t =>
            simp only [hdt] at hd
            cases Shape.of ((deduce_widens env hdt).1.shape (hlo _ rfl))
            simp only [toConcrete, Option.some.injEq, decide_eq_true_eq] at hd
            subst hd
            rfl
        · exact ⟨_, rfl, fun _ e => nomatch e⟩
  | makeList ty args =>
    simp only [rvalueOk, Bool.and_eq_true, decide_eq_true_eq] at hr
    obtain ⟨⟨rfl, hops⟩, hlist⟩ := hr
    obtain ⟨vs, hvs, hsh⟩ := evalAll_ok hl args hops
    simp only [evalRvalue, toEvaluatedList, hvs]
    split at hlist     -- only a list type passes `hlist`
    case h_2 => cases hlist
    rename_i elem
    cases args with
    | nil => cases hlist
    | cons a0 rest =>
      simp only [List.all_cons, Bool.and_eq_true, decide_eq_true_eq] at hlist
      -- the evaluated value of the first element decides the kind of list; its shape is that of `elem`
      have hw := (deduce_widens env hlist.2.1).2
      split
      · -- strings
        rename_i s k tl
        cases Shape.of (hw.shape (hsh a0 _ (List.mem_cons_self ..) _ rfl))
        refine ⟨_, rfl, fun v h => ?_⟩
        cases hx : allStrings (some (.string s k) :: tl) <;> rw [hx] at h <;> cases h
        rfl
      · -- object references
        rename_i s tl
        cases Shape.of (hw.shape (hsh a0 _ (List.mem_cons_self ..) _ rfl))
        refine ⟨_, rfl, fun v h => ?_⟩
        cases hx : allObjectRefs (some (.objectRef s) :: tl) <;> rw [hx] at h <;> cases h
        rfl
      · exact ⟨_, rfl, fun _ e => nomatch e⟩

theorem stmts_ok (env : Env) {code : Code} :
    ∀ (stmts : List Statement) (locals : Locals), LocalsOk code locals → stmts.all (stmtOk env code) = true →
      ∃ o, evalStmts locals stmts = .ok o ∧ ∀ locals', o = some locals' → LocalsOk code locals'
  | [], locals, hl, _ => ⟨_, rfl, fun _ e => by cases e; exact hl⟩
  | .exec :: rest, locals, hl, h | .observe :: rest, locals, hl, h => by
    simp only [List.all_cons, Bool.and_eq_true] at h
    exact stmts_ok env rest locals hl h.2
  | .assign l r :: rest, locals, hl, h => by
    simp only [List.all_cons, Bool.and_eq_true, stmtOk] at h
    obtain ⟨hs, hrest⟩ := h
    cases hty : code.locals[l]? with
    | none => simp [hty] at hs
    | some lty =>
      simp only [hty] at hs
      obtain ⟨ov, hev, hov⟩ := rvalue_ok env hl hs
      have hlt : l < locals.length := by rw [hl.1]; exact (List.getElem?_eq_some_iff.mp hty).1
      simp only [evalStmts, hev]
      cases ov with
      | none => exact ⟨_, rfl, fun _ e => nomatch e⟩
      | some v =>
        simp only [hlt, if_true]
        apply stmts_ok env rest _ _ hrest
        apply localsOk_set hl hty
        intro x hx; subst hx
        exact hov x rfl

theorem wf_block {env : Env} {code : Code} (hw : wfCode env code = true) {idx : Nat} {b : Block}
    (hb : code.blocks[idx]? = some b) : b.stmts.all (stmtOk env code) = true ∧ termOk code b.term = true := by
  simp only [wfCode, Bool.and_eq_true, List.all_eq_true] at hw
  have := hw.2 b (List.mem_of_getElem? hb)
  exact ⟨List.all_eq_true.mpr this.1, this.2⟩

theorem ret_mem {code : Code} {idx : Nat} {b : Block} {a : Operand} (hb : code.blocks[idx]? = some b)
    (ht : b.term = some (.ret a)) : a ∈ returnOperands code := by
  simp only [returnOperands, List.mem_filterMap]
  exact ⟨b, List.mem_of_getElem? hb, by simp [ht]⟩

/-- the main loop: on builder-well-formed code the only panic is `unreachable!()`, and a value has the shape
    of the operand of some `return` -/
theorem run_ok (env : Env) (code : Code) (hw : wfCode env code = true) :
    ∀ (n : Nat) (unvisited : List Nat), unvisited.length = n → ∀ (idx : Nat) (locals : Locals),
      idx < code.blocks.length → LocalsOk code locals →
      (∀ s, runFrom code unvisited idx locals = .error s →
        s = .interpUnreachable ∧ ∃ b, b ∈ code.blocks ∧ b.term = some .unreachable) ∧
      (∀ v, runFrom code unvisited idx locals = .ok (some v) →
        ∃ a, a ∈ returnOperands code ∧ hasShape v a.typeDesc = true) := by
  intro n
  induction n using Nat.strongRecOn with
  | _ n ih =>
    intro unvisited hn idx locals hidx hl
    have hb : code.blocks[idx]? = some code.blocks[idx] := List.getElem?_eq_getElem hidx
    rw [runFrom]
    simp only [hb]
    by_cases hmem : idx ∈ unvisited
    · simp only [hmem, dite_true]
      obtain ⟨hso, hto⟩ := wf_block hw hb
      obtain ⟨ol, hev, hol⟩ := stmts_ok env _ locals hl hso
      rw [hev]
      cases ol with
      | none => simp
      | some locals' =>
        have hl' := hol locals' rfl
        cases hterm : code.blocks[idx].term with
        | none => simp [hterm, termOk] at hto
        | some t =>
          cases t with
          | brCond => simp
          | unreachable =>
            simp only
            exact ⟨fun s h => by
              cases h
              exact ⟨rfl, _, List.mem_of_getElem? hb, hterm⟩, fun v h => by cases h⟩
          | ret a =>
            simp only [hterm, termOk] at hto
            obtain ⟨o, hta, ho⟩ := toEvaluated_ok (k := false) hl' hto
            simp only [hta]
            exact ⟨fun _ => nofun, fun v h => ⟨a, ret_mem hb hterm, ho v (Except.ok.inj h)⟩⟩
          | br r =>
            simp only [hterm, termOk, decide_eq_true_eq] at hto
            simp only
            have hlen : (unvisited.erase idx).length < n := by
              rw [List.length_erase_of_mem hmem, ← hn]
              have : 0 < unvisited.length := List.length_pos_of_mem hmem
              omega
            exact ih _ hlen (unvisited.erase idx) rfl r locals' hto hl'
    · simp [hmem]

/-- but for the fast path `return <constant>` of the first block, `evaluate_code` is the main loop from block 0 -/
theorem evaluateCode_run {code : Code} {b0 : Block} {rest : List Block} {t : Terminator}
    (hbl : code.blocks = b0 :: rest) (hterm : b0.term = some t) (hc : ∀ c, t ≠ .ret (.const c)) :
    evaluateCode code = runFrom code (List.range code.blocks.length) 0 (List.replicate code.locals.length none) := by
  unfold evaluateCode
  rw [hbl]
  simp only [hterm]
  cases t with
  | ret a =>
    cases a with
    | const c => exact absurd rfl (hc c)
    | _ => rfl
  | _ => rfl

/-- `evaluate_code` on builder-well-formed code: as `run_ok`, the fast path included -/
theorem evaluate_ok (env : Env) (code : Code) (hw : wfCode env code = true) :
    (∀ s, evaluateCode code = .error s →
      s = .interpUnreachable ∧ ∃ b, b ∈ code.blocks ∧ b.term = some .unreachable) ∧
    (∀ v, evaluateCode code = .ok (some v) → ∃ a, a ∈ returnOperands code ∧ hasShape v a.typeDesc = true) := by
  cases hbl : code.blocks with
  | nil => rw [wfCode, hbl] at hw; cases hw
  | cons b0 rest =>
    have h0 : 0 < code.blocks.length := by rw [hbl]; exact Nat.zero_lt_succ _
    have hb0 : code.blocks[0]? = some b0 := by rw [hbl]; rfl
    obtain ⟨_, hto⟩ := wf_block hw hb0
    cases hterm : b0.term with
    | none => rw [hterm] at hto; cases hto
    | some t =>
      by_cases hc : ∃ c, t = .ret (.const c)
      · obtain ⟨c, rfl⟩ := hc
        have he : evaluateCode code = toEvaluatedValue [] (.const c) false := by
          unfold evaluateCode
          rw [hbl]
          simp only [hterm]
        obtain ⟨o, hta, ho⟩ := toEvaluated_const ([] : Locals) c false
        rw [he, hta]
        exact ⟨fun _ => nofun, fun v h => ⟨_, ret_mem hb0 hterm, ho v (Except.ok.inj h)⟩⟩
      · rw [evaluateCode_run hbl hterm (fun c e => hc ⟨c, e⟩), ← hbl]
        exact run_ok env code hw _ (List.range code.blocks.length) rfl 0
          (List.replicate code.locals.length none) h0 (localsOk_init code)

theorem foldDeduce_shape (env : Env) {v : EvaluatedValue} :
    ∀ (ts : List TypeDesc) (known R : TypeDesc), foldDeduce env known ts = some R →
      ∀ t, t ∈ known :: ts → hasShape v t = true → hasShape v R = true
  | [], known, R, h, t, ht, hs => by
    cases h
    cases List.mem_singleton.1 ht
    exact hs
  | t :: rest, known, R, h, t', ht', hs => by
    simp only [foldDeduce] at h
    cases hd : deduceType env known t with
    | none => simp [hd] at h
    | some k =>
      simp only [hd] at h
      have ih := foldDeduce_shape env (v := v) rest k R h
      have hw := deduce_widens env hd
      rcases List.mem_cons.1 ht' with rfl | ht'
      · exact ih k (List.mem_cons_self ..) (hw.1.shape hs)
      · rcases List.mem_cons.1 ht' with rfl | hm
        · exact ih k (List.mem_cons_self ..) (hw.2.shape hs)
        · exact ih t' (List.mem_cons_of_mem _ hm) hs

theorem resolve_shape (env : Env) {code : Code} {R : TypeDesc} {v : EvaluatedValue} {a : Operand}
    (hr : resolveReturnType env code = some R) (ha : a ∈ returnOperands code) (hs : hasShape v a.typeDesc = true) :
    hasShape v R = true := by
  unfold resolveReturnType at hr
  have hmem : a.typeDesc ∈ (returnOperands code).map Operand.typeDesc := List.mem_map_of_mem ha
  cases hl : (returnOperands code).map Operand.typeDesc with
  | nil => rw [hl] at hmem; simp at hmem
  | cons t rest =>
    rw [hl] at hr hmem
    exact foldDeduce_shape env rest t R hr _ hmem hs

/-- ranges in source order: each ends before every later one starts -/
theorem ordered_pairwise : ∀ (l : List Rng), ordered l → (∀ r, r ∈ l → r.start ≤ r.stop) →
    l.Pairwise fun a b => a.stop ≤ b.start
  | [], _, _ => .nil
  | [_], _, _ => List.pairwise_singleton _ _
  | x :: y :: rest, ho, hv => by
    have ih := ordered_pairwise (y :: rest) ho.2 fun r hr => hv r (List.mem_cons_of_mem _ hr)
    refine List.pairwise_cons.2 ⟨fun b hb => ?_, ih⟩
    rcases List.mem_cons.1 hb with rfl | hb
    · exact ho.1
    · -- `x` ends before `y` starts, `y` before it ends, and that is before the later `b` starts
      exact Nat.le_trans ho.1 (Nat.le_trans (hv y (List.mem_cons_of_mem _ (List.mem_cons_self ..)))
        ((List.pairwise_cons.1 ih).1 b hb))

theorem ordered_le {l : List Rng} (ho : ordered l) (hv : ∀ r, r ∈ l → r.start ≤ r.stop) {i j : Nat}
    (hi : i < l.length) (hj : j < l.length) (hij : i ≤ j) : l[i].start ≤ l[j].stop := by
  rcases Nat.lt_or_eq_of_le hij with h | rfl
  · exact Nat.le_trans (hv _ (List.getElem_mem hi))
      (Nat.le_trans (List.pairwise_iff_getElem.1 (ordered_pairwise l ho hv) i j hi hj h) (hv _ (List.getElem_mem hj)))
  · exact hv _ (List.getElem_mem hi)

end QV.Proofs.Totality
