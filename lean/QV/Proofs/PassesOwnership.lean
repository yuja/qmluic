/-
  Lemmas for QV.Props.C04: the names the consumers treat specially, the fate of each scalar binding in the constant
  pass and in the C++ pass, its transport to the placed objects of `run`, and what `generateUiFile` writes.
-/
import QV.Proofs.Passes

namespace QV.Proofs.Passes
open QV.Model.Passes

theorem tagOf_other (n : Str) (h1 : n ≠ "actions".toList) (h2 : n ≠ "model".toList) (h3 : n ≠ "separator".toList)
   (h4 : n ≠ "flow".toList) (h5 : n ≠ "columns".toList) (h6 : n ≠ "rows".toList) (h7 : n ≠ "horizontalHeader".toList)
   (h8 : n ≠ "verticalHeader".toList) (h9 : n ≠ "header".toList) : tagOf n = .other := by
  unfold tagOf
  rw [if_neg h1, if_neg h2, if_neg h3, if_neg h4, if_neg h5, if_neg h6, if_neg h7, if_neg h8, if_neg h9]

/-- the name `tagOf` recognises a tag by -/
def tagName? : Tag → Option Str
  | .actions => some "actions".toList
  | .model => some "model".toList
  | .separator => some "separator".toList
  | .flow => some "flow".toList
  | .columns => some "columns".toList
  | .rows => some "rows".toList
  | .hHeader => some "horizontalHeader".toList
  | .vHeader => some "verticalHeader".toList
  | .header => some "header".toList
  | .other => none

theorem tagOf_range (n : Str) : tagOf n = .other ∨ ∃ t s, tagName? t = some s ∧ n = s := by
  by_cases h1 : n = "actions".toList
  · exact .inr ⟨.actions, _, rfl, h1⟩
  by_cases h2 : n = "model".toList
  · exact .inr ⟨.model, _, rfl, h2⟩
  by_cases h3 : n = "separator".toList
  · exact .inr ⟨.separator, _, rfl, h3⟩
  by_cases h4 : n = "flow".toList
  · exact .inr ⟨.flow, _, rfl, h4⟩
  by_cases h5 : n = "columns".toList
  · exact .inr ⟨.columns, _, rfl, h5⟩
  by_cases h6 : n = "rows".toList
  · exact .inr ⟨.rows, _, rfl, h6⟩
  by_cases h7 : n = "horizontalHeader".toList
  · exact .inr ⟨.hHeader, _, rfl, h7⟩
  by_cases h8 : n = "verticalHeader".toList
  · exact .inr ⟨.vHeader, _, rfl, h8⟩
  by_cases h9 : n = "header".toList
  · exact .inr ⟨.header, _, rfl, h9⟩
  exact .inl (tagOf_other n h1 h2 h3 h4 h5 h6 h7 h8 h9)

/-- The nine names are pairwise distinct.  They are compared as strings: `split`, `cases` on an equation between
    names or `decide` would unfold `"…".toList` and decode the literals. -/
theorem tagOf_name {t : Tag} {s : Str} (h : tagName? t = some s) : tagOf s = t := by
  cases t
  case other => cases h
  all_goals
    obtain rfl := Option.some.inj h
    simp only [tagOf, String.toList_inj, String.reduceEq, if_false, if_true]

theorem tagOf_eq_iff {n s : Str} {t : Tag} (h : tagName? t = some s) : tagOf n = t ↔ n = s := by
  refine ⟨fun ht => ?_, fun hn => hn ▸ tagOf_name h⟩
  rcases tagOf_range n with ho | ⟨t', s', hs', rfl⟩
  · rw [ho] at ht
    subst ht
    cases h
  · rw [tagOf_name hs'] at ht
    subst ht
    exact Option.some.inj (hs'.symm.trans h)

/-- The ways a scalar binding with record `o` is accounted for: the run panics on it, its value is in the form, or
    `T`, whatever else the layer in question accepts (a diagnostic, update code, a later pass).  One shape from the
    record of a leaf up to C04's statements, which unfold to it. -/
def Accounted (o : LeafOut) (T : Prop) : Prop := o.panic = true ∨ o.emb.isSome = true ∨ T

theorem Accounted.imp {o : LeafOut} {T T' : Prop} (h : Accounted o T) (hT : T → T') : Accounted o T' :=
  h.imp_right (Or.imp_right hT)

theorem Accounted.of_no_panic {o : LeafOut} {T : Prop} (h : Accounted o T) (hp : o.panic = false) :
    o.emb.isSome = true ∨ T :=
  h.resolve_left fun h => Bool.noConfusion (hp.symm.trans h)

/-- a record is accounted for by itself, by a diagnostic of its own, by `Drop`, or is not an evaluated constant -/
theorem Rec.accounted {b : Bool} {D : Prop} {i : Nat} {c : Option Conv} {o : LeafOut} (h : Rec b D i c o) :
    Accounted o (o.diags ≠ [] ∨ D ∨ (o.evaluated && c.isSome) = false) := by
  cases h with
  | blank h => exact .inr (.inr (.inr (.inr (by rcases h with rfl | rfl <;> simp))))
  | panics => exact .inl rfl
  | diagnosed => exact .inr (.inr (.inl (by simp)))
  | embedded => exact .inr (.inl rfl)
  | dropped hd => exact .inr (.inr (.inr (.inl hd)))

/-- refusing a group withholds the values of its members; the group's diagnostic then accounts for them -/
theorem Rec.dropEmb {b : Bool} {D : Prop} {i : Nat} {c : Option Conv} {o : LeafOut} (hD : D) (h : Rec b D i c o) :
    Rec b D i c (dropEmb o) := by
  cases h with
  | blank h => exact .blank h
  | panics hb hc => exact .panics hb hc
  | diagnosed ev k ks => exact .diagnosed ev k ks
  | embedded hb v hc => exact .dropped hD hb v hc
  | dropped hd hb v hc => exact .dropped hd hb v hc

/-- the size-policy post-processing of a member: a value that cannot be used is dropped with a diagnostic -/
def spPost (c : Bool) (k : DK) (o : LeafOut) : LeafOut :=
  if o.emb.isSome && c then { dropEmb o with diags := o.diags ++ [k] } else o

theorem Rec.spPost {b : Bool} {D : Prop} {i : Nat} {c : Option Conv} {o : LeafOut} (h : Rec b D i c o) (c' : Bool)
    (k : DK) : Rec b D i c (spPost c' k o) := by
  unfold Passes.spPost
  split
  · -- only an embedded value is there to be dropped
    rename_i hc
    cases h with
    | embedded => exact .diagnosed _ k []
    | _ => cases hc
  · exact h

theorem sizePolicyMember_eq (hOk vOk : Bool) (l : Leaf) :
    sizePolicyMember hOk vOk l =
      if l.name = "horizontalPolicy".toList ∨ l.name = "verticalPolicy".toList then
        spPost (!(hOk && vOk)) .spBoth (constLeaf .simple { l with rangeOk := true })
      else if l.name = "horizontalStretch".toList ∨ l.name = "verticalStretch".toList then
        spPost (!(hOk && vOk)) .spStretch (constLeaf .value l)
      else { id := l.id, evaluated := false, emb := none, diags := [.spUnknown], panic := false } := by
  unfold sizePolicyMember spPost
  cases hb : (hOk && vOk) <;>
    simp only [Bool.or_eq_true, decide_eq_true_eq, Bool.not_true, Bool.not_false, Bool.and_true, Bool.and_false,
      Bool.false_eq_true, if_false, if_true]

/-- `gadgetMembers k ms` is `ms.map (gadgetFn k ms)`, by `rfl` for each `k` -/
def gadgetFn (k : GKind) (ms : List Leaf) : Leaf → LeafOut :=
  match k with
  | .generic | .palette | .colorGroup => constLeaf .value
  | .brush => fun l => if l.name = "style".toList then constLeaf .simple { l with rangeOk := true } else constLeaf .value l
  | .icon => fun l => if l.name = "name".toList then constLeaf .simple { l with rangeOk := true } else constLeaf .value l
  | .sizePolicy => sizePolicyMember (policyOk "horizontalPolicy".toList ms) (policyOk "verticalPolicy".toList ms)
  | .unsupported | .object => constLeaf .untouched

/-- only the consumers of `separator` and `actions` drop a value silently -/
theorem constLeaf_rec_plain (D : Prop) {r : Route} (hr : r ≠ .separator ∧ r ≠ .refList) (l : Leaf) :
    Rec (r != .untouched) D l.id l.const (constLeaf r l) :=
  (constLeaf_rec r l).mono fun h => (h.elim (fun h => hr.1 h.1) (fun h => hr.2 h.1)).elim

/-- the members of a gadget are evaluated all or none, and none is dropped silently -/
theorem gadgetFn_rec (k : GKind) (ms : List Leaf) : ∃ b, ∀ D l, Rec b D l.id l.const (gadgetFn k ms l) := by
  have plain (r : Route) (hr : r ≠ .separator ∧ r ≠ .refList) (D : Prop) := constLeaf_rec_plain D hr
  have noRange (D : Prop) (l : Leaf) : Rec true D l.id l.const (constLeaf .simple { l with rangeOk := true }) :=
    plain .simple (by decide) D { l with rangeOk := true }
  cases k <;> simp only [gadgetFn]
  case generic | palette | colorGroup => exact ⟨true, plain .value (by decide)⟩
  case brush | icon =>
    refine ⟨true, fun D l => ?_⟩
    split
    · exact noRange D l
    · exact plain .value (by decide) D l
  case sizePolicy =>
    refine ⟨true, fun D l => ?_⟩
    rw [sizePolicyMember_eq]
    split
    · exact (noRange D l).spPost _ _
    · split
      · exact (plain .value (by decide) D l).spPost _ _
      · exact .diagnosed false .spUnknown []
  case unsupported | object => exact ⟨false, plain .untouched (by decide)⟩

/-- the members of a group's record go through one function `f`, all evaluated or none (`b`); a member whose value is
    withheld is accounted for by the group's own diagnostics -/
def Uniform (g : Group) (o : GroupOut) : Prop :=
  ∃ f b, o.members = g.members.map f ∧ ∀ l, Rec b (o.diags ≠ []) l.id l.const (f l)

/-- `SerializableValue::build` proper (the local `built` of `constGroup`): a gadget with a .ui representation goes member
    by member, the other two kinds are refused untouched; no value is withheld -/
theorem constGroup_value (g : Group) :
    ∃ f b, (constGroup .value g).members = g.members.map f ∧ ∀ D l, Rec b D l.id l.const (f l) := by
  obtain ⟨id, name, kind, enters, writable, readable, ms⟩ := g
  have gadget := gadgetFn_rec kind ms
  cases kind
  all_goals exact gadget.elim fun b hb => ⟨_, b, rfl, hb⟩

theorem Uniform.built (g : Group) : Uniform g (constGroup .value g) :=
  (constGroup_value g).imp fun _ h => h.imp fun _ h => ⟨h.1, h.2 _⟩

/-- the caller refuses what was built: the values are withheld, and the diagnostic added accounts for them -/
theorem Uniform.refused (g : Group) (k : DK) :
    Uniform g { constGroup .value g with
      members := (constGroup .value g).members.map dropEmb, diags := (constGroup .value g).diags ++ [k] } := by
  obtain ⟨f, b, hf, hb⟩ := constGroup_value g
  exact ⟨dropEmb ∘ f, b, by rw [hf, List.map_map], fun l => (hb _ l).dropEmb (by simp)⟩

theorem constGroup_rec (gr : GRoute) (g : Group) : Uniform g (constGroup gr g) := by
  have untouched (D : Prop) : ∀ l : Leaf, Rec false D l.id l.const (constLeaf .untouched l) :=
    constLeaf_rec_plain D (r := .untouched) (by decide)
  cases gr
  case untouched | notRefList | notItemModel => exact ⟨_, _, rfl, untouched _⟩
  case value => exact .built g
  case header =>
    cases hk : g.kind
    case object => exact ⟨_, true, by simp only [constGroup, hk], constLeaf_rec_plain _ (r := .ser) (by decide)⟩
    all_goals exact ⟨_, _, by simp only [constGroup, hk], untouched _⟩
  -- `.simple` and `.ser`: what `.value` builds, refused or not
  all_goals
    show Uniform g (if _ then _ else _)
    split
    · exact .refused g _
    · exact .built g

theorem snd_of_mem_zip_map {α β : Type} (f : α → β) (ms : List α) (x : α × β) (h : x ∈ ms.zip (ms.map f)) :
    x.2 = f x.1 := by
  rw [← List.map_id ms, List.map_map, List.zip_map' (f := id)] at h
  obtain ⟨a, _, rfl⟩ := List.mem_map.1 h
  rfl

/-- a scalar `x` of a group's record is a member with the record `constGroup_rec` describes -/
theorem group_member (gr : GRoute) (g : Group) :
    ∃ b, ∀ x ∈ (EntryOut.group g (constGroup gr g)).leafOuts,
      x.2 ∈ (constGroup gr g).members ∧ Rec b ((constGroup gr g).diags ≠ []) x.1.id x.1.const x.2 := by
  obtain ⟨f, b, hf, hrec⟩ := constGroup_rec gr g
  refine ⟨b, fun x hx => ?_⟩
  have hx2 := (List.of_mem_zip hx).2
  simp only [EntryOut.leafOuts, hf] at hx
  exact ⟨hx2, snd_of_mem_zip_map f _ x hx ▸ hrec x.1⟩

/-- the entry records the constant pass can produce: `constLeaf` / `constGroup` under some route -/
inductive Produced : EntryOut → Prop
  | leaf (r : Route) (l : Leaf) (extra : List DK) : Produced (.leaf l (constLeaf r l) extra)
  | group (gr : GRoute) (g : Group) : Produced (.group g (constGroup gr g))

theorem Produced.emb {e : EntryOut} (he : Produced e) {x : Leaf × LeafOut} (hx : x ∈ e.leafOuts) (v : Value)
    (h : x.2.emb = some v) : x.2.evaluated = true ∧ x.1.const = some (.ok v) := by
  cases he with
  | leaf r l extra =>
    obtain rfl := List.mem_singleton.1 hx
    exact (constLeaf_rec r l).emb h
  | group gr g =>
    obtain ⟨b, hm⟩ := group_member gr g
    exact (hm x hx).2.emb h

/-- C04's disjunction for a scalar `x` of an entry `e`: panics, embedded, diagnosed at it or at its entry, or left to
    the mode switch (`Rec.blank`; the silent drops are excluded by hypothesis).
    Attribution is by `Nat` id, membership by value: ids are not assumed distinct. -/
def Fate (e : EntryOut) (x : Leaf × LeafOut) : Prop :=
  Accounted x.2 ((∃ d ∈ e.diags, d.subj = x.1.id ∨ d.subj = entryId e) ∨
    (e.evalConst = false ∧ x.2.evalConst x.1 = false))

theorem leaf_fate (r : Route) (l : Leaf) (extra : List DK) (hn : ¬ SilentDrop r l) :
    ∀ x ∈ (EntryOut.leaf l (constLeaf r l) extra).leafOuts, Fate (.leaf l (constLeaf r l) extra) x := by
  intro x hx
  obtain rfl := List.mem_singleton.1 hx
  refine (constLeaf_rec r l).accounted.imp fun h => ?_
  rcases h with h | h | h
  · obtain ⟨k, hk⟩ := List.exists_mem_of_ne_nil _ h
    exact .inl ⟨⟨l.id, k⟩, by simp [EntryOut.diags, hk], .inl rfl⟩
  · exact absurd h hn
  · exact .inr ⟨h, h⟩

theorem group_fate (gr : GRoute) (g : Group) :
    ∀ x ∈ (EntryOut.group g (constGroup gr g)).leafOuts, Fate (.group g (constGroup gr g)) x := by
  intro x hx
  obtain ⟨b, hm⟩ := group_member gr g
  obtain ⟨hx2, hrec⟩ := hm x hx
  refine hrec.accounted.imp fun h => ?_
  rcases h with h | h | h
  · obtain ⟨k, hk⟩ := List.exists_mem_of_ne_nil _ h
    refine .inl ⟨⟨x.1.id, k⟩, ?_, .inl rfl⟩
    simp only [EntryOut.diags, List.mem_append, List.mem_flatMap, List.mem_map]
    exact .inr ⟨x.2, hx2, k, hk, by rw [hrec.id_eq]⟩
  · obtain ⟨k, hk⟩ := List.exists_mem_of_ne_nil _ h
    exact .inl ⟨⟨g.id, k⟩, List.mem_append_left _ (List.mem_map.2 ⟨k, hk, rfl⟩), .inr rfl⟩
  · exact .inr ⟨List.all_eq_false.2 ⟨x, hx, by simp [cell_evaluated_const, h]⟩, h⟩

/-- used by `C04.repeated_sound`: beside a repeated constant sits a member that is dynamic, not merely unevaluated -/
theorem quiet_group_evaluated (gr : GRoute) (g : Group) (hd : (EntryOut.group g (constGroup gr g)).diags = []) :
    ∀ x ∈ (EntryOut.group g (constGroup gr g)).leafOuts, ∀ y ∈ (EntryOut.group g (constGroup gr g)).leafOuts,
      x.2.evaluated = y.2.evaluated := by
  obtain ⟨b, hm⟩ := group_member gr g
  have quiet : ∀ x ∈ (EntryOut.group g (constGroup gr g)).leafOuts, x.2.evaluated = b := fun x hx => by
    obtain ⟨hx2, hrec⟩ := hm x hx
    refine hrec.quiet (List.eq_nil_iff_forall_not_mem.2 fun k hk => ?_)
    have : (⟨x.2.id, k⟩ : Diag) ∈ (EntryOut.group g (constGroup gr g)).diags :=
      List.mem_append_right _ (List.mem_flatMap.2 ⟨x.2, hx2, List.mem_map.2 ⟨k, hk, rfl⟩⟩)
    rw [hd] at this
    cases this
  intro x hx y hy
  rw [quiet x hx, quiet y hy]

@[simp] theorem append_generated (a b : Cxx) : (a.append b).generated = a.generated ++ b.generated := rfl
@[simp] theorem append_repeated (a b : Cxx) : (a.append b).repeated = a.repeated ++ b.repeated := rfl
@[simp] theorem append_diags (a b : Cxx) : (a.append b).diags = a.diags ++ b.diags := rfl
@[simp] theorem append_bindings (a b : Cxx) : (a.append b).bindings = a.bindings ++ b.bindings := rfl

theorem mem_cxxEntry_generated (e : EntryOut) (x : Leaf × LeafOut) (h : x ∈ (cxxEntry e).generated) :
    x ∈ e.leafOuts ∧ x.2.evalConst x.1 = false := by
  rcases cxxEntry_cases e (cxxEntry_live (π := Cxx.generated) rfl h) with he | ⟨k, pre, _, _, he⟩ <;> rw [he] at h
  · exact ((mem_cxxMembers_generated _ _).1 h).imp_right And.left
  · cases h

theorem mem_cxxEntry_repeated (e : EntryOut) (x : Leaf × LeafOut) (h : x ∈ (cxxEntry e).repeated) :
    e.evalConst = false ∧ x ∈ e.leafOuts ∧ x.2.evalConst x.1 = true := by
  have hc := cxxEntry_live (π := Cxx.repeated) rfl h
  rcases cxxEntry_cases e hc with he | ⟨k, pre, _, _, he⟩ <;> rw [he] at h
  · exact ⟨hc, ((mem_cxxMembers_repeated _ _).1 h).imp_right And.left⟩
  · cases h

theorem cxxEntry_fate (e : EntryOut) (he : e.evalConst = false) (x : Leaf × LeafOut) (hx : x ∈ e.leafOuts)
    (hxc : x.2.evalConst x.1 = false) :
    x ∈ (cxxEntry e).generated ∨ ∃ d ∈ (cxxEntry e).diags, d.subj = x.1.id ∨ d.subj = entryId e := by
  rcases cxxEntry_cases e he with h | ⟨k, pre, _, _, h⟩ <;> rw [h]
  · cases hl : cxxLeaf x.1 with
    | none => exact .inl ((mem_cxxMembers_generated _ _).2 ⟨hx, hxc, hl⟩)
    | some k => exact .inr ⟨⟨x.1.id, k⟩, (mem_cxxMembers_diags _ _).2 ⟨x, hx, k, hl, rfl⟩, .inl rfl⟩
  · exact .inr ⟨_, List.mem_append_right _ (List.mem_singleton.2 rfl), .inr rfl⟩

/-- the support code of generate mode, by membership in terms of the run alone -/
theorem support_spec {doc : Forest} {s : Support} (hs : (run .generate doc).support = some s) :
    (∀ x, x ∈ s.generated ↔ ∃ p ∈ (run .generate doc).objects, ∃ e ∈ p.props, x ∈ (cxxEntry e).generated) ∧
    (∀ x, x ∈ s.repeated ↔ ∃ p ∈ (run .generate doc).objects, ∃ e ∈ p.props, x ∈ (cxxEntry e).repeated) ∧
    ∀ p ∈ (run .generate doc).objects, ∀ e ∈ p.props, ∀ d ∈ (cxxEntry e).diags, d ∈ (run .generate doc).diags := by
  have hv := valid_of_support doc s hs
  rw [run_valid .generate doc hv] at hs ⊢
  cases hs
  exact ⟨mem_cxxAll (π := Cxx.generated) rfl (fun _ _ => rfl) _, mem_cxxAll (π := Cxx.repeated) rfl (fun _ _ => rfl) _,
    fun p hp e he d hd =>
    List.mem_append_right _ ((mem_cxxAll (π := Cxx.diags) rfl (fun _ _ => rfl) _ d).2 ⟨p, hp, e, he, hd⟩)⟩

theorem run_diag_of_entry {m : Mode} {doc : Forest} {p : Placed} (hp : p ∈ (run m doc).objects) {e : EntryOut}
    (he : e ∈ p.allOuts) {d : Diag} (hd : d ∈ e.diags) : d ∈ (run m doc).diags :=
  run_diags_mem hp (.inr (.inl (List.mem_append_right _ (List.mem_flatMap.2 ⟨e, he, hd⟩))))

theorem run_diag_of_leftover {m : Mode} {doc : Forest} {p : Placed} (hp : p ∈ (run m doc).objects) {e : EntryOut}
    (he : e ∈ p.attached.flatten) (hc : e.evalConst = false) : ⟨entryId e, .leftover⟩ ∈ (run m doc).diags := by
  refine run_diags_mem hp (.inr (.inr ?_))
  simp only [leftoverDiags, List.mem_map, List.mem_filter]
  refine ⟨e, ⟨he, by simp [hc]⟩, ?_⟩
  cases e <;> rfl

theorem panic_of_leaf (e : EntryOut) (x : Leaf × LeafOut) (hx : x ∈ e.leafOuts) (h : x.2.panic = true) :
    e.panic = true := by
  cases e with
  | leaf l o extra =>
    simp only [EntryOut.leafOuts, List.mem_singleton] at hx
    subst hx
    exact h
  | group g o =>
    simp only [EntryOut.leafOuts] at hx
    simp only [EntryOut.panic, List.any_eq_true]
    exact ⟨x.2, (List.of_mem_zip hx).2, h⟩

/-- a run that does not panic panics on no scalar -/
theorem run_no_panic {m : Mode} {doc : Forest} (h : (run m doc).panic = false) {p : Placed}
    (hp : p ∈ (run m doc).objects) {e : EntryOut} (he : e ∈ p.allOuts) {x : Leaf × LeafOut} (hx : x ∈ e.leafOuts) :
    x.2.panic = false := by
  have hv := valid_of_mem_objects hp
  rw [run_valid m doc hv] at h hp
  refine Bool.eq_false_iff.2 fun hpan => Bool.eq_false_iff.1 h ?_
  simp only [anyPanic, List.any_eq_true]
  exact ⟨p, hp, e, he, panic_of_leaf e x hx hpan⟩

theorem mem_constAttached (reach : Reach) (d : Disp) (as : List AttMap) : ∀ (sl st : Bool) (e : EntryOut),
    e ∈ (constAttached reach d sl st as).flatten → ∃ first ty a, e = attOut reach d first ty a := by
  induction as with
  | nil => intro sl st e h; simp [constAttached] at h
  | cons a as ih =>
    intro sl st e h
    simp only [constAttached, List.flatten_cons, List.mem_append, constAttEntries_eq_map, List.mem_map] at h
    rcases h with ⟨a', _, rfl⟩ | h
    · exact ⟨_, _, a', rfl⟩
    · exact ih _ _ e h

theorem attLeafRoute_plain (reach : Reach) (d : Disp) (first : Bool) (ty : AttType) (l : Leaf) :
    attLeafRoute reach d first ty l ≠ .separator ∧ attLeafRoute reach d first ty l ≠ .refList := by
  unfold attLeafRoute
  repeat' split
  all_goals exact ⟨nofun, nofun⟩

theorem mem_liveEntries_leaf (es : List Entry) (l : Leaf) (h : Entry.leaf l ∈ liveEntries es) :
    Entry.leaf l ∈ es := by
  obtain ⟨e, he, h⟩ := (mem_of_cons rfl liveEntries_cons es _).1 h
  cases e <;> simp only [liveEntries] at h <;> split at h
  -- a leaf that enters is itself; a leaf that does not, and a group, contribute no leaf
  · exact List.mem_singleton.1 h ▸ he
  all_goals simp at h

theorem propLeafRoute_special (d : Disp) (o : Obj) (sole : Bool) (l : Leaf) :
    (propLeafRoute d o sole l = .separator → d = .action ∧ tagOf l.name = .separator) ∧
    (propLeafRoute d o sole l = .refList → tagOf l.name = .actions) := by
  unfold propLeafRoute
  repeat' split
  all_goals simp [*]

/-- `C04.NoSilentDrop` on one object (`C04.noSilentDrop_iff`); stronger than the routes need: `sole` is ignored -/
def ObjNoSilentDrop (o : Obj) : Prop :=
  ∀ l, Entry.leaf l ∈ o.entries →
    ¬ (o.isAction = true ∧ tagOf l.name = .separator ∧ l.const = some (.ok 0)) ∧
    ¬ (tagOf l.name = .actions ∧ l.shapeOk = false)

theorem placeOne_props_produced (reach : Reach) (o : Obj) (kids : Bool) :
    ∀ e ∈ (placeOne reach o kids).props, Produced e := by
  intro e he
  simp only [placeOne, constProps_eq_map, List.mem_map] at he
  obtain ⟨a, _, rfl⟩ := he
  cases a
  · exact .leaf _ _ _
  · exact .group _ _

theorem placeOne_produced (reach : Reach) (o : Obj) (kids : Bool) :
    ∀ e ∈ (placeOne reach o kids).allOuts, Produced e := by
  intro e he
  rcases List.mem_append.1 he with he | he
  · exact placeOne_props_produced reach o kids e he
  · obtain ⟨first, ty, a, rfl⟩ := mem_constAttached _ _ _ _ _ e he
    cases a
    · exact .leaf _ _ _
    · exact .group _ _

theorem placeOne_props_fate (reach : Reach) (o : Obj) (kids : Bool) (hnd : ObjNoSilentDrop o) :
    ∀ e ∈ (placeOne reach o kids).props, ∀ x ∈ e.leafOuts, Fate e x := by
  intro e he
  simp only [placeOne, constProps_eq_map, List.mem_map] at he
  obtain ⟨a, ha, rfl⟩ := he
  cases a with
  | group g => exact group_fate _ _
  | leaf l =>
    have hl : Entry.leaf l ∈ o.entries := by
      simp only [codeMap] at ha
      split at ha
      · cases ha
      · exact mem_liveEntries_leaf _ _ ha
    obtain ⟨n1, n2⟩ := hnd l hl
    refine leaf_fate _ _ _ fun h => ?_
    rcases h with ⟨hr, hcst⟩ | ⟨hr, hs⟩
    · obtain ⟨hd, ht⟩ := (propLeafRoute_special _ _ _ _).1 hr
      exact n1 ⟨dispatch_action _ _ hd, ht, hcst⟩
    · exact n2 ⟨(propLeafRoute_special _ _ _ _).2 hr, hs⟩

theorem placeOne_attached_fate (reach : Reach) (o : Obj) (kids : Bool) :
    ∀ e ∈ (placeOne reach o kids).attached.flatten, ∀ x ∈ e.leafOuts, Fate e x := by
  intro e he
  obtain ⟨first, ty, a, rfl⟩ := mem_constAttached _ _ _ _ _ e he
  cases a with
  | group g => exact group_fate _ _
  | leaf l =>
    have plain := attLeafRoute_plain reach (dispatch reach o).1 first ty l
    exact leaf_fate _ l [] fun h => h.elim (fun h => plain.1 h.1) (fun h => plain.2 h.1)

theorem mem_generateUiFile (s : Nat) (r : Result) (op : WriteOp) (h : op ∈ (generateUiFile s r).1) :
    r.accepted = true ∧ (op = .ui s ∨ op = .header s) := by
  unfold generateUiFile at h
  split at h
  · rename_i hc
    refine ⟨hc, ?_⟩
    rcases List.mem_cons.1 h with h | h
    · exact .inl h
    · split at h
      · exact .inr (List.mem_singleton.1 h)
      · cases h
  · cases h

theorem generateUiFile_snd (s : Nat) (r : Result) : (generateUiFile s r).2 = r.accepted := by
  unfold generateUiFile Result.accepted
  split <;> simp [*]

end QV.Proofs.Passes
