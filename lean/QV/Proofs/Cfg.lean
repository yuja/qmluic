/- C06: the execution paths of a function body (`Reaches`) and what an accepted certificate of `checkCfg` says along them
   (`reaches_inv`); in namespace `QV.Proofs.PropDepShape`, "reads covered" as a recursive predicate (`CovR`), which `stmtsOk`
   decides; `retsOk` read per block. -/
import QV.Model.Cfg

namespace QV.Proofs.Cfg
open QV.Model QV.Model.Cfg

/-- `Reaches c i A`: some execution path from the entry arrives at the start of block `i` having assigned
    (at least) the locals `A` — parameters on entry, then the assignments of every block passed. -/
inductive Reaches (c : CodeBody) : Nat → List Nat → Prop where
  | entry : Reaches c 0 (List.range c.parameterCount)
  | step {i j : Nat} {A : List Nat} {b : BasicBlock} :
      Reaches c i A → c.blocks[i]? = some b → j ∈ successors b.terminator →
      Reaches c j (defsOf b.statements ++ A)

theorem blocksOk_get {n params : Nat} {reach : List Bool} {ins : List (List Nat)} :
    ∀ (blocks : List BasicBlock) (off : Nat), blocksOk n params reach ins off blocks = true →
      ∀ (k : Nat) (b : BasicBlock), blocks[k]? = some b → blockOk n params reach ins (off + k) b = true := by
  intro blocks
  induction blocks with
  | nil => intro off _ k b h; simp at h
  | cons x rest ih =>
    intro off h k b hk
    simp only [blocksOk, Bool.and_eq_true] at h
    cases k with
    | zero => simp at hk; subst hk; simpa using h.1
    | succ k =>
      simp at hk
      have := ih (off + 1) h.2 k b hk
      rw [show off + (k + 1) = off + 1 + k by omega]
      exact this

theorem subsetOf_mem {a b : List Nat} (h : subsetOf a b = true) : ∀ x ∈ a, x ∈ b := by
  intro x hx
  simp only [subsetOf, List.all_eq_true] at h
  simpa using h x hx

/-- the certificate `(reach, ins)` is accepted for `c` -/
structure Cert (c : CodeBody) (reach : List Bool) (ins : List (List Nat)) : Prop where
  ok : checkCfg c reach ins = true

theorem Reaches.entry_or_edge {c : CodeBody} {i : Nat} {A : List Nat} (h : Reaches c i A) :
    i = 0 ∨ ∃ (j : Nat) (b : BasicBlock), c.blocks[j]? = some b ∧ i ∈ successors b.terminator := by
  cases h with
  | entry => exact .inl rfl
  | step _ hb hj => exact .inr ⟨_, _, hb, hj⟩

theorem Reaches.lt {c : CodeBody} (h0 : 0 < c.blocks.length)
    (ht : ∀ (i : Nat) (b : BasicBlock), c.blocks[i]? = some b → ∀ j ∈ successors b.terminator, j < c.blocks.length)
    {i : Nat} {A : List Nat} (hr : Reaches c i A) : i < c.blocks.length := by
  induction hr with
  | entry => exact h0
  | step _ hb hj _ => exact ht _ _ hb _ hj

/-- what `blockOk` says of a block marked reachable; `ins.getD i [] ++ List.range params` is what the certificate claims at its
    entry.  (The case split on the terminator is forced by the `match` in `blockOk`, which has the arm `some .unreachable`
    before the catch-all.) -/
theorem blockOk_reached {n params : Nat} {reach : List Bool} {ins : List (List Nat)} {i : Nat} {b : BasicBlock}
    (hr : reach.getD i false = true) (h : blockOk n params reach ins i b = true) :
    ∃ t, b.terminator = some t ∧ t ≠ .unreachable ∧ stmtsOk b.statements (ins.getD i [] ++ List.range params) = true ∧
      (∀ x ∈ termReads t, x ∈ defsOf b.statements ++ (ins.getD i [] ++ List.range params)) ∧
      ∀ j ∈ successors (some t), j < n ∧ reach.getD j false = true ∧
        subsetOf (ins.getD j []) (defsOf b.statements ++ (ins.getD i [] ++ List.range params)) = true := by
  simp only [blockOk, hr, if_true] at h
  cases ht : b.terminator with
  | none => simp [ht] at h
  | some t =>
    cases t with
    | unreachable => simp [ht] at h
    | _ =>
      simp only [ht, Bool.and_eq_true, List.all_eq_true, decide_eq_true_eq, List.contains_iff_mem] at h
      exact ⟨_, rfl, Terminator.noConfusion, h.1.1, h.1.2, fun j hj => ⟨(h.2 j hj).1.1, (h.2 j hj).1.2, (h.2 j hj).2⟩⟩

/-- the analysis facts hold along every path: a reached block is marked reachable, and everything the
    certificate claims to be assigned at its entry really has been assigned -/
theorem reaches_inv {c : CodeBody} {reach : List Bool} {ins : List (List Nat)} (h : checkCfg c reach ins = true) :
    ∀ {i : Nat} {A : List Nat}, Reaches c i A →
      reach.getD i false = true ∧ ∀ x ∈ ins.getD i [] ++ List.range c.parameterCount, x ∈ A := by
  simp only [checkCfg, Bool.and_eq_true, decide_eq_true_eq] at h
  obtain ⟨⟨⟨⟨_, h0⟩, hin0⟩, _⟩, hblocks⟩ := h
  intro i A hr
  induction hr with
  | entry =>
    refine ⟨h0, ?_⟩
    intro x hx
    have hnil : ins.getD 0 [] = [] := by simpa using hin0
    rw [hnil] at hx
    simpa using hx
  | @step i j A b _ hb hj ih =>
    obtain ⟨hri, hsub⟩ := ih
    have hbo := blocksOk_get c.blocks 0 hblocks i b hb
    rw [Nat.zero_add] at hbo
    obtain ⟨t, ht, _, _, _, hsucc⟩ := blockOk_reached hri hbo
    rw [ht] at hj
    obtain ⟨_, hrj, hins⟩ := hsucc j hj
    refine ⟨hrj, fun x hx => ?_⟩
    rcases List.mem_append.1 hx with hx | hx
    · rcases List.mem_append.1 (subsetOf_mem hins x hx) with h | h
      · exact List.mem_append_left _ h
      · exact List.mem_append_right _ (hsub x h)
    · exact List.mem_append_right _ (hsub x (List.mem_append_right _ hx))

end QV.Proofs.Cfg

namespace QV.Proofs.PropDepShape
open QV.Model QV.Model.Cfg

/-- "reads covered", recursive like `stmtsOk` and the insertion of observe statements (`annotate`, Proofs/PropDep): `A` is
    what is assigned before the first statement, the reads of the locals in `U` are exempt.  The indexed form
    (`Cov U stmts (· ∈ A)` of BuilderClaims, the conclusion of `checkCfg_sound`) is `covR_of_indexed` / `indexed_of_covR` away -/
def CovR (U : Nat → Prop) : List Statement → List Nat → Prop
  | [], _ => True
  | s :: rest, A => (∀ x ∈ stmtReads s, ¬ U x → x ∈ A) ∧ CovR U rest (stmtDef s ++ A)

theorem CovR.mono {U : Nat → Prop} : ∀ (stmts : List Statement) (A B : List Nat), (∀ x ∈ A, x ∈ B) → CovR U stmts A → CovR U stmts B
  | [], _, _, _, _ => trivial
  | s :: rest, A, B, hab, h => by
    refine ⟨fun x hx hu => hab x (h.1 x hx hu), CovR.mono rest _ _ (fun x hx => ?_) h.2⟩
    rw [List.mem_append] at hx ⊢
    rcases hx with hx | hx
    · exact Or.inl hx
    · exact Or.inr (hab x hx)

theorem covR_of_indexed {U : Nat → Prop} : ∀ (stmts : List Statement) (A : List Nat),
    (∀ (k : Nat) (s : Statement), stmts[k]? = some s → ∀ x ∈ stmtReads s, ¬ U x → x ∈ defsOf (stmts.take k) ++ A) →
    CovR U stmts A
  | [], _, _ => trivial
  | s :: rest, A, h => by
    refine ⟨fun x hx hu => by simpa [defsOf] using h 0 s rfl x hx hu, covR_of_indexed rest _ (fun k s' hk x hx hu => ?_)⟩
    have := h (k + 1) s' (by simpa using hk) x hx hu
    simp only [List.take_succ_cons, defsOf, List.flatMap_cons, List.mem_append] at this ⊢
    rcases this with (h1 | h1) | h1
    · exact Or.inr (Or.inl h1)
    · exact Or.inl h1
    · exact Or.inr (Or.inr h1)

theorem indexed_of_covR {U : Nat → Prop} : ∀ (stmts : List Statement) (A : List Nat), CovR U stmts A →
    ∀ (k : Nat) (s : Statement), stmts[k]? = some s → ∀ x ∈ stmtReads s, ¬ U x → x ∈ defsOf (stmts.take k) ++ A
  | [], _, _, k, s, hk => by simp at hk
  | s0 :: rest, A, h, k, s, hk => by
    intro x hx hu
    cases k with
    | zero =>
      simp at hk; subst hk
      simpa [defsOf] using h.1 x hx hu
    | succ k =>
      have := indexed_of_covR rest _ h.2 k s (by simpa using hk) x hx hu
      simp only [List.take_succ_cons, defsOf, List.flatMap_cons, List.mem_append] at this ⊢
      rcases this with h1 | h1 | h1
      · exact Or.inl (Or.inr h1)
      · exact Or.inl (Or.inl h1)
      · exact Or.inr h1

end QV.Proofs.PropDepShape

namespace QV.Proofs.Cfg
open QV.Model QV.Model.Cfg QV.Proofs.PropDepShape

theorem stmtsOk_iff_covR : ∀ (stmts : List Statement) (known : List Nat),
    stmtsOk stmts known = true ↔ CovR (fun _ => False) stmts known
  | [], _ => by simp [stmtsOk, CovR]
  | s :: rest, known => by
    simp only [stmtsOk, CovR, Bool.and_eq_true, List.all_eq_true, List.contains_iff_mem, stmtsOk_iff_covR rest]
    exact and_congr_left fun _ => ⟨fun h x hx _ => h x hx, fun h x hx => h x hx id⟩

theorem stmtsOk_mono (stmts : List Statement) (k1 k2 : List Nat) (hsub : ∀ x ∈ k1, x ∈ k2) (h : stmtsOk stmts k1 = true) :
    stmtsOk stmts k2 = true :=
  (stmtsOk_iff_covR _ _).2 (CovR.mono _ _ _ hsub ((stmtsOk_iff_covR _ _).1 h))

/-- what `stmtsOk` means: the k-th statement reads only locals that are known or defined by earlier statements -/
theorem stmtsOk_reads (stmts : List Statement) (known : List Nat) (h : stmtsOk stmts known = true) (k : Nat) (s : Statement)
    (hk : stmts[k]? = some s) : ∀ x ∈ stmtReads s, x ∈ defsOf (stmts.take k) ++ known :=
  fun x hx => indexed_of_covR _ _ ((stmtsOk_iff_covR _ _).1 h) k s hk x hx id

theorem retsOk_get {reach : List Bool} :
    ∀ (blocks : List BasicBlock) (off : Nat), retsOk reach off blocks = true →
      ∀ (k : Nat) (b : BasicBlock), blocks[k]? = some b → reach.getD (off + k) false = true →
        b.terminator ≠ some (.ret .void) := by
  intro blocks
  induction blocks with
  | nil => intro off _ k b h; simp at h
  | cons x rest ih =>
    intro off h k b hk hr
    simp only [retsOk, Bool.and_eq_true] at h
    cases k with
    | zero =>
      simp at hk; subst hk
      simp only [Nat.add_zero] at hr
      have h1 := h.1
      simp only [hr, if_true] at h1
      intro he
      simp [he] at h1
    | succ k =>
      simp at hk
      rw [show off + (k + 1) = off + 1 + k by omega] at hr
      exact ih (off + 1) h.2 k b hk hr

end QV.Proofs.Cfg
