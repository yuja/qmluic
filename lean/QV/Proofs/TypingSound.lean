/-
  C05 (b), the steps: what each visitor and each look-up yields against `Spec.Typing`.  Carried along: `Grows` (a builder
  only appends locals), `Ext` (an expression walk keeps the name map and grows), `Inv` (the name map agrees with the
  specification's scope), `Rel` (a walk intermediate against the specification's `Res`), `Finds spec` (what a look-up
  found, as the `P` of `Reads m P`).  The induction over expressions is in TypingSound2, statements in TypingStmt.
-/
import QV.Proofs.WalkRun
import QV.Proofs.TypingConst
import QV.Proofs.BuilderVisit

namespace QV.Proofs.TypingSound
open QV.Model QV.Spec.Typing QV.Proofs.TypingRules QV.Proofs.TypingConst
open QV.Proofs.BuilderInv (bind_ok getB_consume marked Reads Ok ok_pure ok_err)

/-- `BuilderInv.run` (WalkRun) under a second name: both unfold to `m s`, a hypothesis about one serves for the other.
    `BodiesSound` and the statements of QV.Props.C05 about runs are phrased with it, the lemmas here with `BuilderInv.run` -/
def run {α} (m : W α) (s : WState) : Option α × WState := m s

@[simp] theorem run_pure {α} (a : α) (s : WState) : run (pure a : W α) s = (some a, s) := rfl

@[simp] theorem run_err {α} (msg : String) (s : WState) :
    run (err msg : W α) s = (none, { s with diags := s.diags ++ [msg] }) := rfl

@[simp] theorem run_getB (s : WState) : run getB s = (some s.b, s) := rfl
@[simp] theorem run_setB (b : Builder) (s : WState) : run (setB b) s = (some (), { s with b := b }) := rfl
@[simp] theorem run_getLocals (s : WState) : run getLocals s = (some s.locals, s) := rfl

@[simp] theorem locals_fail (b : Builder) (m : String) : (b.fail m).code.locals = b.code.locals := rfl

@[simp] theorem locals_pushStatementAt (b : Builder) (i : Nat) (st : Statement) :
    (b.pushStatementAt i st).code.locals = b.code.locals := by
  rw [QV.Proofs.BuilderInv.code_pushStatementAt]

@[simp] theorem locals_pushStatement (b : Builder) (st : Statement) : (b.pushStatement st).code.locals = b.code.locals :=
  locals_pushStatementAt _ _ _

@[simp] theorem locals_finalizeAt (b : Builder) (i : Nat) (t : Terminator) : (b.finalizeAt i t).code.locals = b.code.locals := by
  rw [QV.Proofs.BuilderInv.code_finalizeAt]

@[simp] theorem locals_setCompletionValue (b : Builder) (v : Operand) : (b.setCompletionValue v).code.locals = b.code.locals := by
  rw [QV.Proofs.BuilderInv.code_setCompletionValue]

@[simp] theorem locals_newBlock (b : Builder) : b.newBlock.2.code.locals = b.code.locals := rfl

def Grows (b b' : Builder) : Prop := ∃ extra, b'.code.locals = b.code.locals ++ extra

theorem Grows.refl (b : Builder) : Grows b b := ⟨[], by simp⟩
theorem Grows.trans {a b c : Builder} (h1 : Grows a b) (h2 : Grows b c) : Grows a c := by
  obtain ⟨x, hx⟩ := h1
  obtain ⟨y, hy⟩ := h2
  exact ⟨x ++ y, by rw [hy, hx, List.append_assoc]⟩
theorem Grows.of_eq {b b' : Builder} (h : b'.code.locals = b.code.locals) : Grows b b' := ⟨[], by simp [h]⟩

theorem Grows.get {b b' : Builder} (h : Grows b b') {l : Nat} {t : TypeKind} (hl : b.code.locals[l]? = some t) :
    b'.code.locals[l]? = some t := by
  obtain ⟨x, hx⟩ := h
  rw [hx, List.getElem?_append_left (List.getElem?_eq_some_iff.1 hl).1]
  exact hl

theorem grows_alloca (b : Builder) (ty : TypeKind) : Grows b (b.alloca ty).2 := by
  unfold Builder.alloca
  split
  · exact ⟨[ty], rfl⟩
  · exact Grows.refl b

theorem emit_ok {b b' : Builder} {ty : TypeKind} {rv : Rvalue} {a : Operand} (h : b.emitResult ty rv = (a, b')) :
    a.typeDesc = .concrete ty ∧ Grows b b' := by
  -- `alloca`, then a statement pushed
  refine ⟨typeDesc_of_emitResult h, (grows_alloca b ty).trans (Grows.of_eq ?_)⟩
  unfold Builder.emitResult at h
  split at h
  · rename_i heq
    cases h
    rw [heq, locals_pushStatement]
  · rename_i heq
    cases h
    rw [heq, locals_pushStatement]

theorem assignable_strDefault (env : Env) (k : TypeKind) (t : TypeDesc) :
    assignable env k (strDefault t) = assignable env k t := by
  cases t with
  | constString =>
    by_cases h : k = .string
    · subst h; rfl
    · have h' : ¬ TypeKind.string = k := fun x => h x.symm
      simp only [strDefault, assignable, TypeDesc.string, litFits, h, h', decide_false, Bool.false_or]
      cases k with
      | just n => cases n <;> rfl
      | _ => rfl
  | _ => rfl

theorem visitInteger_ok {b b' : Builder} {v : Nat} {a : Operand} (h : visitInteger b v = .ok (a, b')) :
    b' = b ∧ a.typeDesc = .constInteger ∧ v ≤ 9223372036854775807 := by
  unfold visitInteger at h
  split at h
  · rename_i hv
    simp at h
    obtain ⟨rfl, rfl⟩ := h
    refine ⟨rfl, rfl, ?_⟩
    simp [i64Max] at hv
    omega
  · simp at h

theorem visitLocalRef_eq {b : Builder} {l : Nat} {t : TypeKind} (hl : b.code.locals[l]? = some t) :
    visitLocalRef b l = .ok (.local l t, b) := by
  simp [visitLocalRef, hl]

theorem visitObjectProperty_ok {b b' : Builder} {o a : Operand} {p : PropInfo}
    (h : visitObjectProperty b o p = .ok (a, b')) :
    p.readable = true ∧ a.typeDesc = .concrete p.ty ∧ Grows b b' := by
  unfold visitObjectProperty at h
  split at h
  · simp at h
  · rename_i hr
    simp at h hr
    exact ⟨hr, emit_ok h⟩

theorem checkObjectSubscriptType_iff (o i : Operand) (t : TypeKind) :
    checkObjectSubscriptType o i = .ok t ↔ elemType o.typeDesc i.typeDesc = .ok t := by
  unfold checkObjectSubscriptType elemType
  simp only [toConcrete, toConcreteType_eq]
  cases concreteOf o.typeDesc with
  | none => simp
  | some k =>
    cases k with
    | list et =>
      simp only
      cases hi : i.typeDesc with
      | concrete ik =>
        simp only [intTy, intK]
        by_cases h1 : ik = .int
        · simp [h1]
        · by_cases h2 : ik = .uint
          · simp [h2]
          · simp [h1, h2]
      | _ => simp [intTy]
    | _ => simp

theorem visitObjectSubscript_ok {b b' : Builder} {o i a : Operand} (h : visitObjectSubscript b o i = .ok (a, b')) :
    ∃ t, elemType o.typeDesc i.typeDesc = .ok t ∧ a.typeDesc = .concrete t ∧ Grows b b' := by
  unfold visitObjectSubscript at h
  cases hc : checkObjectSubscriptType o i with
  | error e => simp [hc] at h
  | ok t =>
    simp [hc] at h
    exact ⟨t, (checkObjectSubscriptType_iff o i t).1 hc, emit_ok h⟩

theorem map_ensure_typeDesc (args : List Operand) :
    (args.map ensureConcreteString).map (·.typeDesc) = (args.map (·.typeDesc)).map strDefault := by
  simp [List.map_map, Function.comp_def, ensureConcreteString_typeDesc]

theorem argsFit_strDefault (env : Env) (ps : List TypeKind) (ts : List TypeDesc) :
    argsFit env ps (ts.map strDefault) = argsFit env ps ts := by
  simp only [argsFit, List.length_map, List.zip_map_right, List.all_map, Function.comp_def, Prod.map, id, assignable_strDefault]

/-- the left side is the local closure `compatible` of `visit_object_method_call`, written out -/
theorem compatible_eq (env : Env) (m : MethodInfo) (args : List Operand) :
    (decide (m.args.length = args.length) && (m.args.zip args).all fun (ty, v) => isAssignable env ty v.typeDesc) =
      argsFit env m.args (args.map (·.typeDesc)) := by
  simp only [argsFit, List.length_map, List.zip_map_right, List.all_map, Function.comp_def, Prod.map, id, isAssignable_eq]

theorem visitObjectMethodCall_ok {env : Env} {b b' : Builder} {o a : Operand} {ms : List MethodInfo} {args : List Operand}
    (h : visitObjectMethodCall env b o ms args = .ok (a, b')) :
    callMethod env (sigsOf ms) (args.map (·.typeDesc)) = .ok a.typeDesc ∧ Grows b b' := by
  unfold visitObjectMethodCall at h
  -- `compatible` tests the defaulted arguments, which fit where the arguments do (D1)
  simp only [compatible_eq, map_ensure_typeDesc, argsFit_strDefault] at h
  split at h
  · rename_i m hm
    simp at h
    obtain ⟨h1, h2⟩ := emit_ok h
    refine ⟨?_, h2⟩
    unfold callMethod sigsOf
    rw [List.find?_map, Function.comp_def, hm, h1]
    rfl
  · simp at h

theorem visitBuiltinCall_ok {env : Env} {b b' : Builder} {f : Builtin} {args : List Operand} {a : Operand}
    (h : visitBuiltinCall env b f args = .ok (a, b')) :
    callBuiltin env f (args.map (·.typeDesc)) = .ok a.typeDesc ∧ Grows b b' := by
  unfold visitBuiltinCall at h
  cases f with
  | consoleLog lv =>
    simp at h
    obtain ⟨h1, h2⟩ := emit_ok h
    exact ⟨by simp [callBuiltin, h1, TypeDesc.void], h2⟩
  | tr =>
    simp only at h
    split at h
    · rename_i x
      split at h
      · rename_i hx
        simp at h
        obtain ⟨h1, h2⟩ := emit_ok h
        exact ⟨by simp [callBuiltin, hx, h1, TypeDesc.string], h2⟩
      · simp at h
    · simp at h
  | max | min =>
    simp only at h
    split at h
    · rename_i a0 a1
      split at h
      · simp at h
      · rename_i ty hd
        have hc := (deduceConcrete_ok_iff env _ _ _ ty).1 hd
        rw [ensureConcreteString_typeDesc, ensureConcreteString_typeDesc, common_strDefault_concrete] at hc
        split at h
        · rename_i hty
          simp at h
          obtain ⟨h1, h2⟩ := emit_ok h
          refine ⟨?_, h2⟩
          simp only [callBuiltin, List.map_cons, List.map_nil, hc, h1]
          rcases hty with rfl | rfl | rfl | rfl | rfl <;> rfl
        · simp at h
    · simp at h

theorem visitLocalAssignment_ok {env : Env} {b b' : Builder} {l : Nat} {t : TypeKind} {r a : Operand}
    (hl : b.code.locals[l]? = some t) (h : visitLocalAssignment env b l r = .ok (a, b')) :
    assignable env t r.typeDesc = true ∧ a.typeDesc = .void ∧ Grows b b' := by
  unfold visitLocalAssignment at h
  simp only [hl] at h
  split at h
  · simp at h
  · rename_i ha
    simp at h
    simp [isAssignable_eq, ensureConcreteString_typeDesc, assignable_strDefault] at ha
    obtain ⟨rfl, rfl⟩ := h
    exact ⟨ha, rfl, Grows.of_eq (by simp)⟩

theorem visitObjectPropertyAssignment_ok {env : Env} {b b' : Builder} {o r a : Operand} {p : PropInfo}
    (h : visitObjectPropertyAssignment env b o p r = .ok (a, b')) :
    p.writable = true ∧ assignable env p.ty r.typeDesc = true ∧ a.typeDesc = .void ∧ Grows b b' := by
  unfold visitObjectPropertyAssignment at h
  split at h
  · simp at h
  · rename_i hw
    simp only at h
    split at h
    · simp at h
    · rename_i ha
      simp at h hw
      simp [isAssignable_eq, ensureConcreteString_typeDesc, assignable_strDefault] at ha
      obtain ⟨h1, h2⟩ := emit_ok h
      exact ⟨hw, ha, h1, h2⟩

theorem visitObjectSubscriptAssignment_ok {env : Env} {b b' : Builder} {o i r a : Operand}
    (h : visitObjectSubscriptAssignment env b o i r = .ok (a, b')) :
    ∃ t, elemType o.typeDesc i.typeDesc = .ok t ∧ assignable env t r.typeDesc = true ∧ a.typeDesc = .void ∧ Grows b b' := by
  unfold visitObjectSubscriptAssignment at h
  cases hc : checkObjectSubscriptType o i with
  | error e => simp [hc] at h
  | ok t =>
    simp only [hc] at h
    split at h
    · simp at h
    · rename_i ha
      simp at h
      simp [isAssignable_eq] at ha
      obtain ⟨rfl, rfl⟩ := h
      exact ⟨t, (checkObjectSubscriptType_iff o i t).1 hc, ha, rfl, Grows.of_eq (by simp)⟩

theorem nonconst_concrete {a : Operand} (h : ¬ ∃ x, a = .const x) : ∃ k, a.typeDesc = .concrete k := by
  cases a with
  | const v => exact absurd ⟨v, rfl⟩ h
  | _ => exact ⟨_, rfl⟩

theorem visitUnaryExpression_ok {F : FloatOps} {b b' : Builder} {op : UnaryOp} {arg a : Operand}
    (h : visitUnaryExpression F b op arg = .ok (a, b')) :
    unaryType op arg.typeDesc = some a.typeDesc ∧ Grows b b' := by
  by_cases hc : ∃ x, arg = .const x
  · obtain ⟨x, rfl⟩ := hc
    obtain ⟨rfl, v, he, rfl⟩ := visitUnary_const_ok h
    exact ⟨cevalUnary_type F op x v he, Grows.refl _⟩
  · rw [visitUnary_dynamic F b op arg hc] at h
    obtain ⟨k0, hk0⟩ := nonconst_concrete hc
    rcases emitUnary_cases b op arg with ⟨k, ht, hk, h'⟩ | ⟨_, e, h'⟩
    · rw [h'] at h
      obtain ⟨h1, hg⟩ := emit_ok (Except.ok.inj h)
      rw [ensureConcreteString_typeDesc, hk0] at ht hk
      cases hk
      exact ⟨by rw [hk0, h1]; exact ht, hg⟩
    · rw [h'] at h; cases h

theorem concrete_of_common {env : Env} {l r t : TypeDesc} (hc : (∃ k, l = .concrete k) ∨ (∃ k, r = .concrete k))
    (h : common env l r = some t) : ∃ k, t = .concrete k := by
  rcases hc with ⟨k, rfl⟩ | ⟨k, rfl⟩
  · cases r with
    | concrete b => exact ⟨k, (common_cc h).1⟩
    | _ =>
      unfold common at h
      simp only at h
      split at h <;> simp at h
      exact ⟨k, h.symm⟩
  · cases l with
    | concrete a => exact ⟨a, (common_cc h).1⟩
    | _ =>
      unfold common at h
      simp only at h
      split at h <;> simp at h
      exact ⟨k, h.symm⟩

/-- the emitter's `.concrete k` is the table's `t` once an operand is not a literal -/
theorem binaryType_concrete {env : Env} {op : BinaryOp} {l r t : TypeDesc} {k : TypeKind}
    (hlog : ∀ o, op ≠ .logical o) (hc : (∃ k, l = .concrete k) ∨ (∃ k, r = .concrete k))
    (h : binaryType env op l r = some t) (hk : concreteOf t = some k) : t = .concrete k := by
  suffices ∃ k', t = .concrete k' by
    obtain ⟨k', rfl⟩ := this
    cases hk
    rfl
  by_cases hop : commonOp op = true
  · -- the common type of the operands, or `bool`
    have hnn : ¬ (l = .nullPointer ∧ r = .nullPointer) := by
      rintro ⟨rfl, rfl⟩
      rcases hc with ⟨k, hk⟩ | ⟨k, hk⟩ <;> cases hk
    rw [binaryType_domain env op l r hop hnn] at h
    cases hcm : common env l r with
    | none => rw [hcm] at h; cases h
    | some u =>
      obtain ⟨k, rfl⟩ := concrete_of_common hc hcm
      simp only [hcm, Option.bind_some, concreteOf] at h
      split at h
      · cases h
        cases op <;> exact ⟨_, rfl⟩
      · cases h
  cases op with
  | arith _ | bitwise _ | cmp _ => exact absurd rfl hop
  | logical o => exact absurd rfl (hlog o)
  | shift o =>
    simp only [binaryType] at h
    split at h
    · rename_i hint
      simp only [Bool.and_eq_true] at hint
      simp only [Option.some.injEq] at h
      split at h
      · exact ⟨_, h.symm⟩
      · rename_i hnc
        cases l with
        | concrete k' => exact ⟨k', h.symm⟩
        | constInteger =>
          -- then r is concrete, hence not a constant integer: contradiction with hnc
          rcases hc with ⟨k, hk⟩ | ⟨k, hk⟩
          · cases hk
          · exact absurd (by simp [hk]) hnc
        | _ => simp [intTy] at hint
    · simp at h

theorem visitBinaryExpression_ok {F : FloatOps} {env : Env} {b b' : Builder} {op : BinaryOp} {l r a : Operand}
    (hlog : ∀ o, op ≠ .logical o)
    (h : visitBinaryExpression F env b op l r = .ok (a, b')) :
    binaryType env op l.typeDesc r.typeDesc = some a.typeDesc ∧ Grows b b' := by
  by_cases hc : (∃ x, l = .const x) ∧ (∃ y, r = .const y)
  · obtain ⟨⟨x, rfl⟩, ⟨y, rfl⟩⟩ := hc
    obtain ⟨rfl, v, he, rfl⟩ := visitBinary_const_ok hlog h
    exact ⟨cevalBinary_type F env op x y v hlog he, Grows.refl _⟩
  · rw [visitBinary_dynamic F env b op l r hc] at h
    have hcc : (∃ k, l.typeDesc = .concrete k) ∨ (∃ k, r.typeDesc = .concrete k) := by
      by_cases hl : ∃ x, l = .const x
      · right
        exact nonconst_concrete (fun hr => hc ⟨hl, hr⟩)
      · left
        exact nonconst_concrete hl
    have hnn : ¬ (l.typeDesc = .nullPointer ∧ r.typeDesc = .nullPointer) := by
      rintro ⟨h1, h2⟩
      rcases hcc with ⟨k, hk⟩ | ⟨k, hk⟩
      · rw [hk] at h1; cases h1
      · rw [hk] at h2; cases h2
    rcases emitBinary_cases env b op l r hlog hnn with ⟨t, k, h1, h2, h'⟩ | ⟨_, e, h'⟩
    · rw [h'] at h
      obtain ⟨h3, hg⟩ := emit_ok (Except.ok.inj h)
      exact ⟨by rw [h1, binaryType_concrete hlog hcc h1 h2, h3], hg⟩
    · rw [h'] at h; cases h

theorem castable_strDefault (env : Env) (k : TypeKind) (t : TypeDesc) :
    castable env k (strDefault t) = castable env k t := by
  cases t with
  | constString =>
    -- a `QString` takes none of the numeric or extraction casts, so both sides are: assignable, or `as void`
    have e : strDefault .constString = .concrete .string := rfl
    unfold castable castKind
    rw [← assignable_strDefault env k .constString, e]
    cases assignable env k (.concrete .string) with
    | true => rfl
    | false =>
      simp only [Bool.false_eq_true, if_false, show numK .string = false from rfl,
        show (enumK .string || decide (TypeKind.string = .bool)) = false from rfl,
        show ¬ TypeKind.string = .variant from by decide, Bool.and_false]
  | _ => rfl

theorem pickTypeCast_noop {env : Env} {k : TypeKind} {t : TypeDesc} (h : pickTypeCast env k t = .noop) : t = .concrete k := by
  rw [pickTypeCast_eq] at h
  cases hc : castKind env k t with
  | none => rw [hc] at h; cases h
  | some ck =>
    rw [hc] at h
    cases ck <;> simp only [castOf] at h
    · split at h
      · exact of_decide_eq_true ‹_›
      · cases h
    all_goals cases h

theorem visitAsExpression_ok {env : Env} {b b' : Builder} {v a : Operand} {ty : TypeKind}
    (h : visitAsExpression env b v ty = .ok (a, b')) :
    castable env ty v.typeDesc = true ∧ a.typeDesc = .concrete ty ∧ Grows b b' := by
  unfold visitAsExpression at h
  simp only [ensureConcreteString_typeDesc] at h
  have hcast : pickTypeCast env ty (strDefault v.typeDesc) ≠ .invalid → castable env ty v.typeDesc = true := by
    intro hne
    rw [← castable_strDefault]
    cases hc : castable env ty (strDefault v.typeDesc) with
    | true => rfl
    | false => exact absurd ((pickTypeCast_invalid_iff env ty _).2 hc) hne
  cases hp : pickTypeCast env ty (strDefault v.typeDesc) with
  | noop =>
    simp [hp] at h
    obtain ⟨rfl, rfl⟩ := h
    exact ⟨hcast (by rw [hp]; simp), by rw [ensureConcreteString_typeDesc]; exact pickTypeCast_noop hp, Grows.refl _⟩
  | implicit | static | variant => simp [hp] at h; exact ⟨hcast (by rw [hp]; simp), emit_ok h⟩
  | invalid => simp [hp] at h

theorem visitTernaryExpression_ok {env : Env} {b b' : Builder} {c x y res : Operand} {cr xr yr : Nat}
    (h : visitTernaryExpression env b c cr x xr y yr = .ok (res, b')) :
    ∃ k, commonConcrete env x.typeDesc y.typeDesc = some k ∧ res.typeDesc = .concrete k ∧ Grows b b' := by
  unfold visitTernaryExpression at h
  simp only [ensureConcreteString_typeDesc] at h
  split at h
  · simp at h
  · rename_i ty hd
    have hc := (deduceConcrete_ok_iff env _ _ _ ty).1 hd
    rw [common_strDefault_concrete] at hc
    simp at h
    obtain ⟨h1, h2⟩ := h
    refine ⟨ty, hc, ?_, ?_⟩
    · rw [← h1]
      unfold Builder.alloca
      by_cases hv : ty = .void
      · subst hv; simp [Operand.typeDesc, TypeDesc.void]
      · simp [hv, Operand.typeDesc]
    · rw [← h2]
      have hg := grows_alloca b ty
      refine Grows.trans hg (Grows.of_eq ?_)
      cases (b.alloca ty).1 with
      | none => simp
      | some o => cases o <;> simp

theorem visitBinaryLogicalExpression_ok {b b' : Builder} {op : LogicOp} {l r it : Operand} {lr rr : Nat}
    (h : visitBinaryLogicalExpression b op l lr r rr = (it, b')) : it.typeDesc = .bool ∧ Grows b b' := by
  obtain ⟨b0, init, T, F, hc0, _, e⟩ := BuilderInv.visitBinaryLogicalExpression_eff b op l r lr rr
  cases e.symm.trans h
  obtain ⟨x, hx⟩ := grows_alloca b0 .bool
  exact ⟨rfl, x, by simp only [BuilderInv.storeAt, locals_finalizeAt, locals_pushStatementAt, hx, hc0]⟩

theorem visitArray_go_eq (env : Env) (known : TypeDesc) (i : Nat) (ops : List Operand) (t : TypeDesc)
    (h : visitArray.go env known i ops = .ok t) : arrayType.go env known (ops.map (·.typeDesc)) = .ok t := by
  induction ops generalizing known i with
  | nil => simpa [visitArray.go, arrayType.go] using h
  | cons a as ih =>
    simp only [visitArray.go, deduceType_eq] at h
    simp only [List.map_cons, arrayType.go]
    cases hc : common env known a.typeDesc with
    | none => simp [hc] at h
    | some u =>
      simp only [hc] at h ⊢
      exact ih u (i + 1) h

theorem visitArray_ok {env : Env} {b b' : Builder} {els : List Operand} {a : Operand}
    (h : visitArray env b els = .ok (a, b')) :
    arrayType env ((els.map (·.typeDesc)).map strDefault) = .ok a.typeDesc ∧ Grows b b' := by
  unfold visitArray at h
  simp only at h
  rw [← map_ensure_typeDesc]
  generalize els.map ensureConcreteString = ops at h ⊢
  cases ops with
  | nil =>
    simp at h
    obtain ⟨rfl, rfl⟩ := h
    exact ⟨rfl, Grows.refl _⟩
  | cons first rest =>
    simp only at h
    cases hg : visitArray.go env first.typeDesc 1 rest with
    | error e => simp [hg] at h
    | ok elemT =>
      simp only [hg, toConcrete, toConcreteType_eq] at h
      have hspec := visitArray_go_eq env _ _ _ _ hg
      cases hco : concreteOf elemT with
      | none => simp [hco] at h
      | some et =>
        simp [hco] at h
        obtain ⟨h1, h2⟩ := emit_ok h
        refine ⟨?_, h2⟩
        simp only [List.map_cons, arrayType, hspec, hco, h1]

def worldOf (c : Ctx) : World := { env := c.env, objects := c.objects, thisObj := c.thisObj }

/-- the walk's map of local names agrees with the specification's scope -/
def Inv (s : WState) (sc : Scope) : Prop :=
  ∀ n, match s.locals.get? n with
    | some (l, k) => ∃ t, s.b.code.locals[l]? = some t ∧ sc.find n = some (t, k)
    | none => sc.find n = none

/-- an expression walk does not touch the name map and only adds locals (temporaries) -/
structure Ext (s s' : WState) : Prop where
  locals : s'.locals = s.locals
  grows : Grows s.b s'.b

theorem Ext.refl (s : WState) : Ext s s := ⟨rfl, Grows.refl _⟩
theorem Ext.trans {a b c : WState} (h1 : Ext a b) (h2 : Ext b c) : Ext a c :=
  ⟨h2.locals.trans h1.locals, h1.grows.trans h2.grows⟩

theorem Inv.ext {s s' : WState} {sc : Scope} (h : Inv s sc) (e : Ext s s') : Inv s' sc := by
  intro n
  have := h n
  rw [e.locals]
  cases hg : s.locals.get? n with
  | none => simpa [hg] using this
  | some p =>
    rcases p with ⟨l, k⟩
    simp only [hg] at this ⊢
    obtain ⟨t, h1, h2⟩ := this
    exact ⟨t, e.grows.get h1, h2⟩

/-- correspondence between the walk's intermediate results and the specification's; the specification's flags
    `rvalueGadget` and `ofLocal` are the walk's `rk = .gadget .rvalue` and `k = .lvalue` -/
inductive Rel (L : List TypeKind) : Inter → Res → Prop
  | item (a : Operand) : Rel L (.item a) (.val a.typeDesc)
  | loc (l : Nat) (k : DeclKind) (t : TypeKind) : L[l]? = some t → Rel L (.local l k) (.loc t k)
  | prop (it : Operand) (p : PropInfo) (rk : ReceiverKind) : Rel L (.boundProperty it p rk) (.prop p (decide (rk = .gadget .rvalue)))
  | elem (it i : Operand) (k : ExprKind) : Rel L (.boundSubscript it i k) (.elem it.typeDesc i.typeDesc (decide (k = .lvalue)))
  | methods (it : Operand) (ms : List MethodInfo) (sigs) : sigs = sigsOf ms → Rel L (.boundMethod it ms) (.methods sigs)
  | fn (f : Builtin) : Rel L (.builtinFunction f) (.fn f)
  | math : Rel L (.builtinNamespace .math) (.nsp .math)
  | console : Rel L (.builtinNamespace .console) (.nsp .console)
  | type (t : NamedTy) : Rel L (.type t) (.type t)

def refRes : RefKind → Res
  | .type t => .type t
  | .enumVariant e => .val (.concrete (.just (.enum e)))
  | .object cls => .val (.concrete (.pointer (.cls cls)))
  | .objectProperty _ _ p => .prop p false
  | .objectMethod _ _ ms => .methods (sigsOf ms)

/-- the walk's look-up found `i` where the specification's finds `spec`; for every `L`: only `Rel.loc` looks at it, and
    these look-ups yield no local -/
def Finds (spec : Except Err Res) (i : Inter) : Prop := ∃ r, spec = .ok r ∧ ∀ L, Rel L i r

theorem processRef_rel {r : RefKind} {n : String} : Reads (processRef r n) (Finds (.ok (refRes r))) := by
  cases r
  · exact .pure ⟨_, rfl, fun L => Rel.type _⟩
  · exact .pure ⟨_, rfl, fun L => Rel.item _⟩
  · exact .pure ⟨_, rfl, fun L => Rel.item _⟩
  · exact .pure ⟨_, rfl, fun L => Rel.prop _ _ .object⟩
  · exact .pure ⟨_, rfl, fun L => Rel.methods _ _ _ rfl⟩

def globalRes (n : String) : Except Err Res :=
  if n = "Math" then .ok (.nsp .math) else if n = "console" then .ok (.nsp .console)
  else if n = "qsTr" then .ok (.fn .tr) else .error .undefinedName

theorem resolveName_getRef (c : Ctx) (sc : Scope) (n : String) (hs : sc.find n = none) :
    resolveName (worldOf c) sc n = (match c.getRef n with | some r => .ok (refRes r) | none => globalRes n) := by
  unfold resolveName Ctx.getRef globalRes
  simp only [hs, worldOf, Env.findClass]
  cases c.objects.find? (·.1 = n) with
  | some oc => rfl
  | none =>
    cases c.thisObj with
    | none => cases c.env.types.find? (·.1 = n) <;> rfl
    | some tp =>
      rcases tp with ⟨tcls, tname⟩
      simp only
      cases c.env.classes.find? (·.name = tcls) with
      | none => cases c.env.types.find? (·.1 = n) <;> rfl
      | some ci =>
        simp only [Option.bind_some]
        cases ci.props.find? (·.name = n) with
        | some p => rfl
        | none =>
          cases ci.methods.find? (·.1 = n) with
          | some m => rfl
          | none => cases c.env.types.find? (·.1 = n) <;> rfl

theorem globalRes_of_lookup {n : String} {x : Inter} (h : lookupGlobalName n = some x) : Finds (globalRes n) x := by
  unfold lookupGlobalName at h
  unfold globalRes
  split at h
  · rename_i h1
    cases h; exact ⟨_, if_pos h1, fun L => Rel.math⟩
  · rename_i h1
    split at h
    · rename_i h2
      cases h; exact ⟨_, by rw [if_neg h1, if_pos h2], fun L => Rel.console⟩
    · rename_i h2
      split at h
      · rename_i h3
        cases h; exact ⟨_, by rw [if_neg h1, if_neg h2, if_pos h3], fun L => Rel.fn _⟩
      · cases h

theorem processIdentifier_ok {c : Ctx} {n : String} {s : WState} {sc : Scope} (hinv : Inv s sc) :
    Ok (processIdentifier c n) s fun i s' =>
      s' = s ∧ ∃ r, resolveName (worldOf c) sc n = .ok r ∧ Rel s.b.code.locals i r := by
  simp only [processIdentifier, wps]
  have hi := hinv n
  cases hg : s.locals.get? n with
  | some p =>
    simp only [hg] at hi
    obtain ⟨t, ht1, ht2⟩ := hi
    exact ok_pure.2 ⟨rfl, _, by simp only [resolveName, ht2], Rel.loc _ _ t ht1⟩
  | none =>
    simp only [hg] at hi
    rw [resolveName_getRef c sc n hi]
    cases c.getRef n with
    | some r => exact fun i s' h => (processRef_rel h).imp_right fun ⟨r, hr, hR⟩ => ⟨r, hr, hR _⟩
    | none =>
      cases hl : lookupGlobalName n with
      | none => exact ok_err.2 trivial
      | some x =>
        obtain ⟨r, hr, hR⟩ := globalRes_of_lookup hl
        exact ok_pure.2 ⟨rfl, r, hr, hR _⟩

theorem classOfType_eq (c : Ctx) (k : TypeKind) : c.classOfType k = memberClass k := by
  unfold Ctx.classOfType memberClass
  split <;> simp_all

theorem processItemProperty_ok {c : Ctx} {item : Operand} {n : String} {ik : ExprKind} :
    Reads (processItemProperty c item n ik) (Finds (valueMember c.env item.typeDesc (decide (ik = .lvalue)) n)) := by
  unfold processItemProperty valueMember
  simp only [toConcreteType_eq, classOfType_eq, Env.findClass]
  cases concreteOf item.typeDesc with
  | none => exact .err _
  | some k =>
    simp only
    cases memberClass k with
    | none => exact .err _
    | some cls =>
      simp only [Option.bind_some]
      cases c.env.classes.find? (·.name = cls) with
      | none => exact .err _
      | some ci =>
        simp only
        cases ci.props.find? (·.name = n) with
        | some p =>
          -- the specification's `rvalueGadget` is the walk's receiver kind `.gadget .rvalue`
          have : (!ptrK k && !decide (ik = ExprKind.lvalue)) =
              decide ((if k.isPointer = true then ReceiverKind.object else ReceiverKind.gadget ik) =
                ReceiverKind.gadget ExprKind.rvalue) := by
            cases k <;> cases ik <;> simp [ptrK, TypeKind.isPointer]
          exact .pure ⟨_, rfl, fun L => this ▸ Rel.prop _ _ _⟩
        | none =>
          cases ci.methods.find? (·.1 = n) with
          | none => exact .err _
          | some m =>
            exact .pure ⟨_, rfl, fun L => Rel.methods _ _ _ (by cases k <;> simp [sigsOf, List.map_map, Function.comp_def])⟩

theorem processNamespaceName_ok {k : NamespaceKind} {n : String} :
    Reads (processNamespaceName k n) (Finds (nsMember (match k with | .math => .math | .console => .console) n)) := by
  -- a rung `if n = "…" then return …` of the chain: `nsMember` knows the name too, by evaluation on the literal
  have hit {K : Ns} {lit : String} {f : Builtin} (e : nsMember K lit = .ok (.fn f)) (h : n = lit) :
      Reads (pure (.builtinFunction f)) (Finds (nsMember K n)) := .pure ⟨_, h ▸ e, fun L => Rel.fn f⟩
  cases k
  · exact .ite (hit rfl) fun _ => .ite (hit rfl) fun _ => .ite (hit rfl) fun _ => .ite (hit rfl) fun _ => .ite (hit rfl) fun _ => .err _
  · exact .ite (hit rfl) fun _ => .ite (hit rfl) fun _ => .err _

theorem typeMember_getRef (c : Ctx) (t : NamedTy) (n : String) :
    typeMember c.env t n = (match c.typeGetRef t n with | some r => .ok (refRes r) | none => .error .undefinedName) := by
  unfold typeMember Ctx.typeGetRef
  cases t with
  | cls cn | ns cn =>
    simp only [Env.findClass]
    cases c.env.classes.find? (·.name = cn) with
    | none => rfl
    | some ci =>
      simp only
      cases ci.nested.find? (·.1 = n) with
      | some p => rfl
      | none => cases ci.variants.find? (·.1 = n) <;> rfl
  | enum e =>
    simp only [Env.findEnum]
    cases c.env.enums.find? (·.name = e) with
    | none => rfl
    | some ei =>
      simp only
      split <;> rfl
  | _ => rfl

theorem processTypeMember_ok {c : Ctx} {t : NamedTy} {n : String} :
    Reads (processTypeMember c t n) (Finds (typeMember c.env t n)) := by
  unfold processTypeMember
  rw [typeMember_getRef]
  cases c.typeGetRef t n with
  | some r => exact processRef_rel
  | none => exact .err _

theorem Ext.item {s0 s : WState} (hx : Ext s0 s) {b' : Builder} (hg : Grows s.b b') : Ext s0 { s with b := b' } :=
  hx.trans ⟨rfl, hg⟩

/-- reading an intermediate result as an operand: a local, a property or an element is read by its visitor, an
    `.item` is an operand already -/
theorem interToRvalue_ok {i : Inter} {r : Res} {s s' : WState} {a : Operand} (hrel : Rel s.b.code.locals i r)
    (h : BuilderInv.run (interToRvalue i) s = (some a, s')) : Ext s s' ∧ valueOf r = .ok a.typeDesc := by
  cases hrel with
  | item x =>
    cases h
    exact ⟨Ext.refl _, rfl⟩
  | loc l k t hl =>
    obtain ⟨b', h3, rfl⟩ := getB_consume _ _ h
    cases (visitLocalRef_eq hl).symm.trans h3
    exact ⟨Ext.refl _, rfl⟩
  | prop it p rk =>
    obtain ⟨b', h3, rfl⟩ := getB_consume _ _ h
    obtain ⟨hr, ht, hg⟩ := visitObjectProperty_ok h3
    exact ⟨(Ext.refl s).item hg, by simp only [valueOf, hr, ht, if_true]⟩
  | elem it ix k =>
    obtain ⟨b', h3, rfl⟩ := getB_consume _ _ h
    obtain ⟨t, he, ht, hg⟩ := visitObjectSubscript_ok h3
    exact ⟨(Ext.refl s).item hg, by simp only [valueOf, he, ht, Except.map]⟩
  | _ => cases h

theorem Ext.marked (s : WState) : Ext s (marked s) := ⟨rfl, Grows.of_eq rfl⟩

theorem joinWith_scoped (cs : List String) : joinWith "::" cs = scopedName cs := by
  induction cs with
  | nil => rfl
  | cons x xs ih =>
    cases xs with
    | nil => rfl
    | cons y ys => simp only [joinWith, scopedName, ih]

theorem annotated_of_annotatedType {c : Ctx} {cs : List String} {k : TypeKind}
    (h : c.annotatedType (joinWith "::" cs) = some k) : annotated c.env cs = .ok k := by
  unfold Ctx.annotatedType at h
  unfold annotated
  rw [joinWith_scoped] at h
  cases hf : c.env.types.find? (·.1 = scopedName cs) with
  | none => simp [hf] at h
  | some p =>
    rcases p with ⟨n, t⟩
    simp only [hf, Option.map_some] at h ⊢
    simp at h
    rw [← h]
    cases t <;> simp [Env.findClass] <;> (split <;> simp_all)

end QV.Proofs.TypingSound
