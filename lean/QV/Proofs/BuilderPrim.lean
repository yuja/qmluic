/-
  The primitives of tir/core.rs on a builder state (`push_statement`, `finalize`, `set_completion_value`, the new block of
  `mark_branch_point`, `alloca`) and `emit_result`, and what each does to what the proofs observe of a builder: the number of blocks
  (`len`), and per block its terminator (`termOf`), its statements (`stmtsOf`) and its completion value (`complOf`); the number of
  parameters (`np`).  The three primitives that change one block are each an equation for the code afterwards (`code_…`), from
  which the observations — and the locals, for the typing soundness (TypingSound) — are read off.  `pushStatement` and `emit_result`
  have only what the skeleton needs (`len`, `termOf`): the claims reach them through `pushStatementAt`.  `Builder.panic` is not observed:
  a primitive whose `assert!` fails records the site there and goes on; the flag comes back in `build_out` (BuilderBuild).
-/
import QV.Model.Builder

namespace QV.Proofs.BuilderInv
open QV.Model

theorem ite_fail_code (c : Prop) [Decidable c] (b : Builder) (m : String) : (if c then b.fail m else b).code = b.code := by
  split <;> rfl

/-- `pushStatementAt`, `finalizeAt` and `setCompletionValue` are each a `modifyBlock` after an `assert!` that may set the panic
    flag: the code afterwards is the code before with `f` applied to block `i`, if that block exists -/
theorem code_modifyBlock (c : Prop) [Decidable c] (b : Builder) (m : String) (i : Nat) (f : BasicBlock → BasicBlock) :
    ((if c then b.fail m else b).modifyBlock i f).code = { b.code with blocks := b.code.blocks.modify i f } := by
  unfold Builder.modifyBlock
  rw [ite_fail_code]
  cases hb : b.code.blocks[i]? with
  | none =>
    show (if c then b.fail m else b).code = _
    rw [ite_fail_code, List.modify_eq_self (List.getElem?_eq_none_iff.1 hb)]
  | some blk =>
    show ({ b.code with blocks := b.code.blocks.set i (f blk) } : CodeBody) = _
    rw [List.modify_eq_set, hb]
    rfl

theorem code_pushStatementAt (b : Builder) (i : Nat) (st : Statement) : (b.pushStatementAt i st).code =
    { b.code with blocks := b.code.blocks.modify i fun blk => { blk with statements := blk.statements ++ [st] } } :=
  code_modifyBlock _ _ _ _ _

theorem code_finalizeAt (b : Builder) (i : Nat) (t : Terminator) : (b.finalizeAt i t).code =
    { b.code with blocks := b.code.blocks.modify i fun blk => { blk with terminator := some t } } :=
  code_modifyBlock _ _ _ _ _

theorem code_setCompletionValue (b : Builder) (v : Operand) : (b.setCompletionValue v).code =
    { b.code with blocks := b.code.blocks.modify b.currentRef fun blk => { blk with completionValue := some v } } :=
  code_modifyBlock _ _ _ _ _

def len (b : Builder) : Nat := b.code.blocks.length

/-- the terminator of block `i`, if the block exists and is closed -/
def termOf (b : Builder) (i : Nat) : Option Terminator := (b.code.blocks[i]?).bind (·.terminator)

def stmtsOf (b : Builder) (i : Nat) : List Statement := ((b.code.blocks[i]?).map (·.statements)).getD []
def complOf (b : Builder) (i : Nat) : Option Operand := (b.code.blocks[i]?).bind (·.completionValue)

/-- the number of parameters: the locals below it are assigned on entry -/
def np (b : Builder) : Nat := b.code.parameterCount

theorem termOf_lt {b : Builder} {i : Nat} {t : Terminator} (h : termOf b i = some t) : i < len b := by
  unfold termOf at h
  cases hb : b.code.blocks[i]? with
  | none => simp [hb] at h
  | some blk => exact (List.getElem?_eq_some_iff.1 hb).1

theorem complOf_lt {b : Builder} {i : Nat} {a : Operand} (h : complOf b i = some a) : i < len b := by
  unfold complOf at h
  cases hb : b.code.blocks[i]? with
  | none => simp [hb] at h
  | some blk => exact (List.getElem?_eq_some_iff.1 hb).1

theorem stmtsOf_ge {b : Builder} {j : Nat} (h : len b ≤ j) : stmtsOf b j = [] := by
  unfold stmtsOf; rw [List.getElem?_eq_none h]; rfl

theorem len_congr {b0 b : Builder} (h : b0.code = b.code) : len b0 = len b := by
  unfold len; rw [h]

theorem termOf_congr {b0 b : Builder} (h : b0.code = b.code) (j : Nat) : termOf b0 j = termOf b j := by
  unfold termOf; rw [h]

theorem stmtsOf_congr {b0 b : Builder} (h : b0.code = b.code) (j : Nat) : stmtsOf b0 j = stmtsOf b j := by
  unfold stmtsOf; rw [h]

theorem complOf_congr {b0 b : Builder} (h : b0.code = b.code) (j : Nat) : complOf b0 j = complOf b j := by
  unfold complOf; rw [h]

theorem np_congr {b0 b : Builder} (h : b0.code = b.code) : np b0 = np b := by
  unfold np; rw [h]

@[simp] theorem len_fail (b : Builder) (m : String) : len (b.fail m) = len b := rfl
@[simp] theorem termOf_fail (b : Builder) (m : String) (j : Nat) : termOf (b.fail m) j = termOf b j := rfl
@[simp] theorem stmtsOf_fail (b : Builder) (m : String) (j : Nat) : stmtsOf (b.fail m) j = stmtsOf b j := rfl
@[simp] theorem complOf_fail (b : Builder) (m : String) (j : Nat) : complOf (b.fail m) j = complOf b j := rfl
@[simp] theorem np_fail (b : Builder) (m : String) : np (b.fail m) = np b := rfl

theorem termOf_init (j : Nat) : termOf ({} : Builder) j = none := by
  unfold termOf
  cases j with
  | zero => rfl
  | succ k => rfl

theorem stmtsOf_init (j : Nat) : stmtsOf ({} : Builder) j = [] := by
  unfold stmtsOf
  cases j with
  | zero => rfl
  | succ k => rfl

theorem complOf_init (j : Nat) : complOf ({} : Builder) j = none := by
  unfold complOf
  cases j with
  | zero => rfl
  | succ k => rfl

theorem bind_modify_keep {α} {f : BasicBlock → BasicBlock} (g : BasicBlock → Option α) (hf : ∀ blk, g (f blk) = g blk)
    (l : List BasicBlock) (i j : Nat) : ((l.modify i f)[j]?).bind g = (l[j]?).bind g := by
  rw [List.getElem?_modify]
  cases l[j]? with
  | none => rfl
  | some blk => show g (if i = j then f blk else blk) = g blk; split <;> simp [hf]

theorem bind_modify_set {α} {f : BasicBlock → BasicBlock} (g : BasicBlock → Option α) (v : Option α) (hf : ∀ blk, g (f blk) = v)
    (l : List BasicBlock) (i j : Nat) : ((l.modify i f)[j]?).bind g = if j = i ∧ i < l.length then v else (l[j]?).bind g := by
  rw [List.getElem?_modify]
  by_cases hj : i = j
  · subst hj
    by_cases hlt : i < l.length
    · simp [hlt, hf]
    · simp [hlt]
  · simp [hj, Ne.symm hj]

theorem stmts_modify_keep {f : BasicBlock → BasicBlock} (hf : ∀ blk, (f blk).statements = blk.statements)
    (l : List BasicBlock) (i j : Nat) : (((l.modify i f)[j]?).map (·.statements)).getD [] = ((l[j]?).map (·.statements)).getD [] := by
  rw [List.getElem?_modify]
  cases l[j]? with
  | none => rfl
  | some blk => show (if i = j then f blk else blk).statements = blk.statements; split <;> simp [hf]

@[simp] theorem len_pushStatementAt (b : Builder) (i : Nat) (st : Statement) : len (b.pushStatementAt i st) = len b := by
  simp [len, code_pushStatementAt]

@[simp] theorem termOf_pushStatementAt (b : Builder) (i : Nat) (st : Statement) (j : Nat) :
    termOf (b.pushStatementAt i st) j = termOf b j := by
  simp only [termOf, code_pushStatementAt]; apply bind_modify_keep; intro; rfl

/-- no condition on the terminator: in the model a push into a closed block still appends (only the panic flag is set) -/
theorem stmtsOf_pushStatementAt (b : Builder) (i : Nat) (st : Statement) (j : Nat) :
    stmtsOf (b.pushStatementAt i st) j = if j = i ∧ i < len b then stmtsOf b j ++ [st] else stmtsOf b j := by
  simp only [stmtsOf, code_pushStatementAt, List.getElem?_modify, len]
  by_cases hj : i = j
  · subst hj
    by_cases hlt : i < b.code.blocks.length
    · simp [hlt]
    · simp [hlt]
  · simp [hj, Ne.symm hj]

@[simp] theorem complOf_pushStatementAt (b : Builder) (i : Nat) (st : Statement) (j : Nat) :
    complOf (b.pushStatementAt i st) j = complOf b j := by
  simp only [complOf, code_pushStatementAt]; apply bind_modify_keep; intro; rfl

@[simp] theorem np_pushStatementAt (b : Builder) (i : Nat) (st : Statement) : np (b.pushStatementAt i st) = np b := by
  simp [np, code_pushStatementAt]

@[simp] theorem len_pushStatement (b : Builder) (st : Statement) : len (b.pushStatement st) = len b := len_pushStatementAt _ _ _

@[simp] theorem termOf_pushStatement (b : Builder) (st : Statement) (j : Nat) : termOf (b.pushStatement st) j = termOf b j :=
  termOf_pushStatementAt _ _ _ j

@[simp] theorem len_finalizeAt (b : Builder) (i : Nat) (t : Terminator) : len (b.finalizeAt i t) = len b := by
  simp [len, code_finalizeAt]

theorem termOf_finalizeAt (b : Builder) (i : Nat) (t : Terminator) (j : Nat) :
    termOf (b.finalizeAt i t) j = if j = i ∧ i < len b then some t else termOf b j := by
  simp only [termOf, code_finalizeAt]; apply bind_modify_set; intro; rfl

@[simp] theorem stmtsOf_finalizeAt (b : Builder) (i : Nat) (t : Terminator) (j : Nat) :
    stmtsOf (b.finalizeAt i t) j = stmtsOf b j := by
  simp only [stmtsOf, code_finalizeAt]; apply stmts_modify_keep; intro; rfl

@[simp] theorem complOf_finalizeAt (b : Builder) (i : Nat) (t : Terminator) (j : Nat) :
    complOf (b.finalizeAt i t) j = complOf b j := by
  simp only [complOf, code_finalizeAt]; apply bind_modify_keep; intro; rfl

@[simp] theorem np_finalizeAt (b : Builder) (i : Nat) (t : Terminator) : np (b.finalizeAt i t) = np b := by
  simp [np, code_finalizeAt]

@[simp] theorem len_setCompletionValue (b : Builder) (v : Operand) : len (b.setCompletionValue v) = len b := by
  simp [len, code_setCompletionValue]

@[simp] theorem termOf_setCompletionValue (b : Builder) (v : Operand) (j : Nat) :
    termOf (b.setCompletionValue v) j = termOf b j := by
  simp only [termOf, code_setCompletionValue]; apply bind_modify_keep; intro; rfl

@[simp] theorem stmtsOf_setCompletionValue (b : Builder) (v : Operand) (j : Nat) :
    stmtsOf (b.setCompletionValue v) j = stmtsOf b j := by
  simp only [stmtsOf, code_setCompletionValue]; apply stmts_modify_keep; intro; rfl

theorem complOf_setCompletionValue (b : Builder) (v : Operand) (j : Nat) :
    complOf (b.setCompletionValue v) j = if j = len b - 1 ∧ 0 < len b then some v else complOf b j := by
  simp only [complOf, code_setCompletionValue]
  rw [bind_modify_set (·.completionValue) (some v) (fun _ => rfl)]
  have : b.currentRef < b.code.blocks.length ↔ 0 < len b := by unfold Builder.currentRef len; omega
  simp only [this]; rfl

@[simp] theorem np_setCompletionValue (b : Builder) (v : Operand) : np (b.setCompletionValue v) = np b := by
  simp [np, code_setCompletionValue]

theorem blocks_newBlock (b : Builder) (j : Nat) :
    b.newBlock.2.code.blocks[j]? = if j = len b then some ({} : BasicBlock) else b.code.blocks[j]? := by
  unfold len
  show (b.code.blocks ++ [({} : BasicBlock)])[j]? = _
  by_cases hlt : j < b.code.blocks.length
  · rw [List.getElem?_append_left hlt, if_neg (Nat.ne_of_lt hlt)]
  · by_cases he : j = b.code.blocks.length
    · subst he; simp
    · rw [List.getElem?_eq_none (by simp; omega), if_neg he, List.getElem?_eq_none (Nat.le_of_not_lt hlt)]

@[simp] theorem len_newBlock (b : Builder) : len b.newBlock.2 = len b + 1 := by
  simp [Builder.newBlock, len]

/-- `newBlock` keeps an observation that cannot tell an empty block from a missing one -/
theorem obs_newBlock {β} (g : Option BasicBlock → β) (hg : g (some {}) = g none) (b : Builder) (j : Nat) :
    g b.newBlock.2.code.blocks[j]? = g b.code.blocks[j]? := by
  rw [blocks_newBlock]
  split
  · subst ‹j = len b›
    have : b.code.blocks[len b]? = none := List.getElem?_eq_none (Nat.le_refl _)
    rw [hg, this]
  · rfl

@[simp] theorem termOf_newBlock (b : Builder) (j : Nat) : termOf b.newBlock.2 j = termOf b j :=
  obs_newBlock (·.bind (·.terminator)) rfl b j

@[simp] theorem stmtsOf_newBlock (b : Builder) (j : Nat) : stmtsOf b.newBlock.2 j = stmtsOf b j :=
  obs_newBlock (fun o => (o.map BasicBlock.statements).getD []) rfl b j

@[simp] theorem complOf_newBlock (b : Builder) (j : Nat) : complOf b.newBlock.2 j = complOf b j :=
  obs_newBlock (·.bind (·.completionValue)) rfl b j

@[simp] theorem np_newBlock (b : Builder) : np b.newBlock.2 = np b := rfl

@[simp] theorem len_alloca (b : Builder) (ty : TypeKind) : len (b.alloca ty).2 = len b := by
  unfold Builder.alloca
  split <;> rfl

@[simp] theorem termOf_alloca (b : Builder) (ty : TypeKind) (j : Nat) : termOf (b.alloca ty).2 j = termOf b j := by
  unfold Builder.alloca
  split <;> rfl

@[simp] theorem stmtsOf_alloca (b : Builder) (ty : TypeKind) (j : Nat) : stmtsOf (b.alloca ty).2 j = stmtsOf b j := by
  unfold Builder.alloca
  split <;> rfl

@[simp] theorem complOf_alloca (b : Builder) (ty : TypeKind) (j : Nat) : complOf (b.alloca ty).2 j = complOf b j := by
  unfold Builder.alloca
  split <;> rfl

@[simp] theorem np_alloca (b : Builder) (ty : TypeKind) : np (b.alloca ty).2 = np b := by
  unfold Builder.alloca
  split <;> rfl

theorem emitResult_void (b : Builder) (rv : Rvalue) : b.emitResult .void rv = (.void, b.pushStatement (.exec rv)) := by
  simp [Builder.emitResult, Builder.alloca]

theorem emitResult_nonvoid (b : Builder) (ty : TypeKind) (rv : Rvalue) (h : ty ≠ .void) :
    b.emitResult ty rv = (.local b.code.locals.length ty, (b.alloca ty).2.pushStatement (.assign b.code.locals.length rv)) := by
  simp [Builder.emitResult, Builder.alloca, h]

@[simp] theorem len_emitResult (b : Builder) (ty : TypeKind) (rv : Rvalue) : len (b.emitResult ty rv).2 = len b := by
  unfold Builder.emitResult Builder.alloca
  by_cases h : ty = .void
  · subst h; simp
  · simp [h]; rfl

@[simp] theorem termOf_emitResult (b : Builder) (ty : TypeKind) (rv : Rvalue) (j : Nat) :
    termOf (b.emitResult ty rv).2 j = termOf b j := by
  unfold Builder.emitResult Builder.alloca
  by_cases h : ty = .void
  · subst h; simp
  · simp [h]; rfl

end QV.Proofs.BuilderInv
