/- C19: the `u32` loop is the positional value of the digits while they fit; a Boolean test under which two tables answer alike. -/
import QV.Model.Color
import QV.Spec.QtColor

namespace QV.Proofs.Color
open QV.Model.Color QV.Spec.QtColor

/-- what agrees with every row and is `none` off the keys is the look-up; `hout` speaks of codes: the keys fill a few intervals -/
theorem assoc_eq {β} {f : Char → Option β} (c : Char) :
    ∀ (t : List (Char × β)), (∀ p ∈ t, f p.1 = some p.2) → (c.toNat ∉ t.map (·.1.toNat) → f c = none) →
      f c = assoc t c
  | [], _, hout => hout nofun
  | (k, v) :: t, hin, hout => by
    rw [assoc]
    split
    · rename_i hk
      subst hk
      exact hin _ List.mem_cons_self
    · rename_i hk
      refine assoc_eq c t (fun p hp => hin p (List.mem_cons_of_mem _ hp)) fun hm => hout fun hm' => ?_
      rcases List.mem_cons.1 hm' with he | hm'
      · exact hk (Char.toNat_inj.1 he.symm)
      · exact hm hm'

theorem hexDigit_eq_spec (c : Char) : hexDigit? c = digit? c := by
  refine assoc_eq c digitTable (by decide +kernel) fun hn => ?_
  have codes : digitTable.map (·.1.toNat) = List.range' 48 10 ++ List.range' 97 6 ++ List.range' 65 6 := by
    decide +kernel
  rw [codes] at hn
  simp only [List.mem_append, List.mem_range'_1, not_or] at hn
  unfold hexDigit?
  rw [if_neg (by omega), if_neg (by omega), if_neg (by omega)]

theorem lower_eq_spec (c : Char) : toAsciiLower c = lower c := by
  have h := assoc_eq
    (f := fun c => if 65 ≤ c.toNat ∧ c.toNat ≤ 90 then some (Char.ofNat (c.toNat + 32)) else none)
    c lowerTable (by decide +kernel) fun hn => by
      rw [show lowerTable.map (·.1.toNat) = List.range' 65 26 by decide +kernel, List.mem_range'_1] at hn
      exact if_neg (by omega)
  unfold lower toAsciiLower
  rw [← h]
  split <;> rfl

theorem asciiLower_eq_spec (s : List Char) : asciiLower s = s.map lower := by
  simp [asciiLower, funext lower_eq_spec]

theorem hexDigit_lt (c : Char) (d : Nat) (h : hexDigit? c = some d) : d < 16 := by
  simp only [hexDigit?] at h
  split at h
  · cases h
    omega
  · split at h
    · cases h
      omega
    · split at h
      · cases h
        omega
      · cases h

theorem any_nondigit : ∀ ds : List Char, ds.any (fun c => !isAsciiHexDigit c) = (digits? ds).isNone
  | [] => rfl
  | c :: cs => by
    rw [List.any_cons, any_nondigit cs, digits?, ← hexDigit_eq_spec, isAsciiHexDigit]
    cases hexDigit? c <;> cases digits? cs <;> rfl

/-- `(acc + 1) * 16 ^ ds.length ≤ 2^32`: the digits still to come fit the `u32` after `acc` (the loop's invariant) -/
theorem digits_spec : ∀ {ds : List Char} {vs : List Nat}, digits? ds = some vs →
    vs.length = ds.length ∧ (∀ v ∈ vs, v < 16) ∧
    ∀ acc, (acc + 1) * 16 ^ ds.length ≤ 4294967296 →
      fromStrRadix16Loop ds acc = some (vs.foldl (fun a d => a * 16 + d) acc)
  | [], vs, h => by
    cases h
    exact ⟨rfl, nofun, fun _ _ => rfl⟩
  | c :: cs, vs, h => by
    rw [digits?, ← hexDigit_eq_spec] at h
    cases h1 : hexDigit? c <;> cases h2 : digits? cs <;> rw [h1, h2] at h
    -- the reader fails unless both succeed, and then `vs = d :: ds`
    all_goals cases h
    rename_i d ds
    obtain ⟨hlen, hlt, hloop⟩ := digits_spec h2
    have hd := hexDigit_lt c d h1
    refine ⟨congrArg (· + 1) hlen, List.forall_mem_cons.2 ⟨hd, hlt⟩, fun acc hb => ?_⟩
    have hb' : (acc * 16 + d + 1) * 16 ^ cs.length ≤ 4294967296 :=
      Nat.le_trans (Nat.mul_le_mul_right _ (show acc * 16 + d + 1 ≤ (acc + 1) * 16 by omega))
        (by rwa [Nat.mul_assoc, ← Nat.pow_succ'])
    have hs : acc * 16 + d < 4294967296 :=
      Nat.lt_of_lt_of_le
        (Nat.lt_of_lt_of_le (Nat.lt_succ_self _) (Nat.le_mul_of_pos_right _ (Nat.pow_pos (by decide)))) hb'
    simp only [fromStrRadix16Loop, h1, if_pos hs, List.foldl_cons]
    exact hloop _ hb'

/-- the last step of `parseHexColor`, copied from it (`parseHexColor_digits` ends by `rfl`) -/
def unpack (len argb : Nat) : Option Color :=
  match len with
  | 3 => some (.rgb8 (((argb >>> 8) &&& 0xf) * 0x11) (((argb >>> 4) &&& 0xf) * 0x11)
            ((argb &&& 0xf) * 0x11))
  | 4 => some (.rgba8 (((argb >>> 8) &&& 0xf) * 0x11) (((argb >>> 4) &&& 0xf) * 0x11)
            ((argb &&& 0xf) * 0x11) (((argb >>> 12) &&& 0xf) * 0x11))
  | 6 => some (.rgb8 ((argb >>> 16) &&& 0xff) ((argb >>> 8) &&& 0xff) (argb &&& 0xff))
  | 8 => some (.rgba8 ((argb >>> 16) &&& 0xff) ((argb >>> 8) &&& 0xff) (argb &&& 0xff)
            ((argb >>> 24) &&& 0xff))
  | _ => none

theorem bind_unpack_none {n : Nat} (x : Option Nat) (h : n ∉ [3, 4, 6, 8]) : x.bind (unpack n) = none := by
  simp only [List.mem_cons, List.not_mem_nil, or_false, not_or] at h
  cases x with
  | none => rfl
  | some argb =>
    show unpack n argb = none
    unfold unpack
    split
    · exact absurd rfl h.1
    · exact absurd rfl h.2.1
    · exact absurd rfl h.2.2.1
    · exact absurd rfl h.2.2.2
    · rfl

theorem parseHexColor_digits {ds : List Char} {vs : List Nat} (h : digits? ds = some vs) :
    parseHexColor ds = (fromStrRadix16 ds).bind (unpack vs.length) := by
  rw [parseHexColor, any_nondigit, h, Option.isNone_some, if_neg Bool.false_ne_true, (digits_spec h).1]
  cases fromStrRadix16 ds <;> rfl

/-- at most eight digits fit a `u32` -/
theorem fromStrRadix16_digits {ds : List Char} {vs : List Nat} (h : digits? ds = some vs) (h0 : vs ≠ [])
    (h8 : vs.length ≤ 8) : fromStrRadix16 ds = some (vs.foldl (fun a d => a * 16 + d) 0) := by
  obtain ⟨hlen, -, hloop⟩ := digits_spec h
  cases ds with
  | nil =>
    cases h
    exact absurd rfl h0
  | cons c cs =>
    refine hloop 0 ?_
    rw [Nat.zero_add, Nat.one_mul, ← hlen]
    exact Nat.pow_le_pow_right (by decide) h8

/-! `simp` matches the shift amounts 8, 12, 16, 24 as `n + 4`, dropping one digit per rewrite. -/

theorem shr_digit {y d : Nat} (h : d < 16) (n : Nat) : (y * 16 + d) >>> (n + 4) = y >>> n := by
  have : (y * 16 + d) >>> 4 = y := by
    rw [Nat.shiftRight_eq_div_pow]
    omega
  rw [Nat.add_comm n 4, Nat.shiftRight_add, this]

theorem and_digit {y d : Nat} (h : d < 16) : (y * 16 + d) &&& 0xf = d := by
  rw [show (0xf : Nat) = 2 ^ 4 - 1 from rfl, Nat.and_two_pow_sub_one_eq_mod]
  omega

theorem and_byte {y d e : Nat} (hd : d < 16) (he : e < 16) : ((y * 16 + d) * 16 + e) &&& 0xff = 16 * d + e := by
  rw [show (0xff : Nat) = 2 ^ 8 - 1 from rfl, Nat.and_two_pow_sub_one_eq_mod]
  omega

theorem mul17 (d : Nat) : d * 0x11 = 16 * d + d := by omega

theorem lookupLast_mem {t : Table} {k : List Char} {v} (h : lookupLast t k = some v) : (k, v) ∈ t := by
  induction t with
  | nil => simp [lookupLast] at h
  | cons p t ih =>
    obtain ⟨k', v'⟩ := p
    simp only [lookupLast] at h
    cases hl : lookupLast t k with
    | some w =>
      rw [hl] at h
      cases h
      exact List.mem_cons_of_mem _ (ih hl)
    | none =>
      simp [hl] at h
      obtain ⟨rfl, rfl⟩ := h
      exact List.mem_cons_self

theorem lookup_mem {t : Table} {k : List Char} {v} (h : lookup t k = some v) : (k, v) ∈ t := by
  induction t with
  | nil => simp [lookup] at h
  | cons p t ih =>
    obtain ⟨k', v'⟩ := p
    simp only [lookup] at h
    split at h
    · rename_i hk
      cases h
      subst hk
      exact List.mem_cons_self
    · exact List.mem_cons_of_mem _ (ih h)

theorem lookups_agree (impl spec : Table)
    (hA : ∀ row ∈ spec, lookupLast impl row.1 = some row.2)
    (hB : ∀ row ∈ impl, lookup spec row.1 = some row.2) (k : List Char) :
    lookupLast impl k = lookup spec k := by
  cases hs : lookup spec k with
  | some v => exact hA (k, v) (lookup_mem hs)
  | none =>
    cases hi : lookupLast impl k with
    | none => rfl
    | some v =>
      have := hB (k, v) (lookupLast_mem hi)
      simp [hs] at this

theorem lookup_none {t : Table} {k : List Char} (h : ∀ r ∈ t, r.1 ≠ k) : lookup t k = none := by
  induction t with
  | nil => rfl
  | cons r t ih =>
    rw [lookup, if_neg (h r List.mem_cons_self)]
    exact ih fun r' hr' => h r' (List.mem_cons_of_mem _ hr')

def ascending : List (List Char) → Bool
  | a :: b :: rest => decide (a < b) && ascending (b :: rest)
  | _ => true

theorem ascending_pairwise : ∀ {ks : List (List Char)}, ascending ks = true → ks.Pairwise (· < ·)
  | [], _ => .nil
  | [_], _ => List.pairwise_singleton _ _
  | a :: b :: rest, h => by
    rw [ascending, Bool.and_eq_true, decide_eq_true_eq] at h
    have ih := ascending_pairwise h.2
    refine List.pairwise_cons.2 ⟨fun x hx => ?_, ih⟩
    rcases List.mem_cons.1 hx with rfl | hx
    · exact h.1
    · exact List.lt_trans h.1 (List.rel_of_pairwise_cons ih hx)

/-- with ascending keys no key occurs twice, so the last row for a key is the first -/
theorem lookupLast_eq_lookup : ∀ {t : Table}, (t.map (·.1)).Pairwise (· < ·) → ∀ k, lookupLast t k = lookup t k
  | [], _, _ => rfl
  | (k', v) :: t, h, k => by
    rw [List.map_cons, List.pairwise_cons] at h
    rw [lookupLast, lookup, lookupLast_eq_lookup h.2 k]
    by_cases hk : k' = k
    · have hn : lookup t k = none := lookup_none fun r hr e => by
        have hlt : k' < r.1 := h.1 r.1 (List.mem_map_of_mem hr)
        rw [hk, e] at hlt
        exact List.lt_irrefl k hlt
      rw [hn, if_pos hk]
    · rw [if_neg hk, if_neg hk]
      cases lookup t k <;> rfl

/-- a table in the specification's order, ascending, passes the first test; any other is compared key by key -/
def tablesAgree (impl spec : Table) : Bool :=
  (impl == spec && ascending (spec.map (·.1))) ||
  (spec.all (fun row => lookupLast impl row.1 == some row.2) && impl.all (fun row => lookup spec row.1 == some row.2))

theorem tablesAgree_sound {impl spec : Table} (h : tablesAgree impl spec = true) (k : List Char) :
    lookupLast impl k = lookup spec k := by
  rw [tablesAgree, Bool.or_eq_true, Bool.and_eq_true, Bool.and_eq_true, beq_iff_eq, List.all_eq_true,
    List.all_eq_true] at h
  rcases h with ⟨rfl, hasc⟩ | ⟨hA, hB⟩
  · exact lookupLast_eq_lookup (ascending_pairwise hasc) k
  · exact lookups_agree impl spec (fun row hr => eq_of_beq (hA row hr)) (fun row hr => eq_of_beq (hB row hr)) k

end QV.Proofs.Color
