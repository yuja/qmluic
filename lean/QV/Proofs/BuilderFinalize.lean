/-
  C06, the builder for ALL programs: `finalize_completion_values` (tir/core.rs as modelled in QV.Model.Finalize).
    * it only REPLACES terminators, by `return`s and `unreachable` markers: no jump is added, no block stays open
      that was closed, the start block is closed;
    * the graph theorem (the territory of findings F1 and F17): when it finishes without panic, a block that carries
      the `unreachable` marker has NO incoming edge at all and is not the entry block — so no execution reaches it.
  At the end: `tir::build` (`QV.Model.build`) as the walk from the empty builder followed by this pass (`build_code`).
-/
import QV.Proofs.Finalize
import QV.Proofs.BuilderSkeleton

namespace QV.Proofs.BuilderInv
open QV.Model QV.Model.Cfg QV.Proofs.Finalize

/-- `termOf` on a bare list of blocks: `finalize_completion_values` works on `code.blocks`, where there is no `Builder` -/
def tL (blocks : List BasicBlock) (i : Nat) : Option Terminator := (blocks[i]?).bind (·.terminator)

theorem termOf_eq_tL (b : Builder) (i : Nat) : termOf b i = tL b.code.blocks i := rfl

@[simp] theorem length_setBlock (blocks : List BasicBlock) (i : Nat) (nb : BasicBlock) :
    (setBlock blocks i nb).length = blocks.length := by simp [setBlock]

theorem tL_setBlock (blocks : List BasicBlock) (i : Nat) (nb : BasicBlock) (j : Nat) :
    tL (setBlock blocks i nb) j = if j = i ∧ i < blocks.length then nb.terminator else tL blocks j := by
  unfold tL setBlock
  by_cases hj : j = i
  · subst hj
    by_cases hlt : j < blocks.length
    · simp [hlt]
    · simp [hlt]
  · simp [hj, List.getElem?_set_ne (Ne.symm hj)]

theorem tL_setBlock_some {blocks : List BasicBlock} {i j : Nat} {nb : BasicBlock} {t : Terminator} (hi : i < blocks.length)
    (h : tL (setBlock blocks i nb) j = some t) : j = i ∧ nb.terminator = some t ∨ j ≠ i ∧ tL blocks j = some t := by
  rw [tL_setBlock] at h
  split at h
  · rename_i hc; exact .inl ⟨hc.1, h⟩
  · rename_i hc; exact .inr ⟨fun e => hc ⟨e, hi⟩, h⟩

theorem tL_of_get {blocks : List BasicBlock} {i : Nat} {b : BasicBlock} (h : blocks[i]? = some b) :
    tL blocks i = b.terminator := by
  unfold tL
  rw [h]
  rfl

theorem tL_eq_some {blocks : List BasicBlock} {j : Nat} {t : Terminator} (h : tL blocks j = some t) :
    ∃ b, blocks[j]? = some b ∧ b.terminator = some t := by
  unfold tL at h
  cases hb : blocks[j]? with
  | none => rw [hb] at h; cases h
  | some b => rw [hb] at h; exact ⟨b, rfl, h⟩

/-- the terminators that `finalize_completion_values` installs; they have no successor -/
def IsFinal : Option Terminator → Prop
  | some (.ret _) => True
  | some .unreachable => True
  | _ => False

theorem IsFinal.isSome {t : Option Terminator} (h : IsFinal t) : t.isSome := by
  cases t with
  | none => cases h
  | some _ => rfl

/-- what `finalize_completion_values` does to a block: it keeps the statements; a terminator it installs is the `return` of
    the block's completion value, a `return` without a value, or the marker -/
structure FinRel (old new : BasicBlock) : Prop where
  st : new.statements = old.statements
  cv : new.completionValue = old.completionValue ∨ new.completionValue = none
  tm : new.terminator = old.terminator ∨ (∃ a, old.completionValue = some a ∧ new.terminator = some (.ret a)) ∨
       new.terminator = some (.ret .void) ∨ new.terminator = some .unreachable

theorem FinRel.refl (b : BasicBlock) : FinRel b b := ⟨rfl, Or.inl rfl, Or.inl rfl⟩

theorem FinRel.trans {a b c : BasicBlock} (h1 : FinRel a b) (h2 : FinRel b c) : FinRel a c := by
  refine ⟨h2.st.trans h1.st, ?_, ?_⟩
  · rcases h2.cv with h | h
    · rw [h]; exact h1.cv
    · exact Or.inr h
  · rcases h2.tm with h | ⟨x, hx, h⟩ | h | h
    · rw [h]; exact h1.tm
    · rcases h1.cv with h' | h'
      · exact Or.inr (Or.inl ⟨x, by rw [← h']; exact hx, h⟩)
      · rw [h'] at hx; cases hx
    · exact Or.inr (Or.inr (Or.inl h))
    · exact Or.inr (Or.inr (Or.inr h))

def FinRelL (olds news : List BasicBlock) : Prop :=
  news.length = olds.length ∧ ∀ (j : Nat) (o : BasicBlock), olds[j]? = some o → ∃ n, news[j]? = some n ∧ FinRel o n

theorem FinRelL.refl (l : List BasicBlock) : FinRelL l l := ⟨rfl, fun _ o h => ⟨o, h, FinRel.refl o⟩⟩

theorem FinRelL.trans {a b c : List BasicBlock} (h1 : FinRelL a b) (h2 : FinRelL b c) : FinRelL a c := by
  refine ⟨h2.1.trans h1.1, fun j o ho => ?_⟩
  obtain ⟨n, hn, r1⟩ := h1.2 j o ho
  obtain ⟨m, hm, r2⟩ := h2.2 j n hn
  exact ⟨m, hm, r1.trans r2⟩

/-- `FinRelL` read from the new block -/
theorem FinRelL.back {olds news : List BasicBlock} (h : FinRelL olds news) {i : Nat} {n : BasicBlock} (hn : news[i]? = some n) :
    ∃ o, olds[i]? = some o ∧ FinRel o n := by
  have hi : i < olds.length := by rw [← h.1]; exact (List.getElem?_eq_some_iff.1 hn).1
  obtain ⟨n', hn', rel⟩ := h.2 i _ (List.getElem?_eq_getElem hi)
  rw [hn] at hn'
  cases hn'
  exact ⟨_, List.getElem?_eq_getElem hi, rel⟩

theorem FinRelL.set {blocks : List BasicBlock} {i : Nat} {b nb : BasicBlock} (hb : blocks[i]? = some b) (hr : FinRel b nb) :
    FinRelL blocks (setBlock blocks i nb) := by
  have hi : i < blocks.length := (List.getElem?_eq_some_iff.1 hb).1
  refine ⟨by simp, fun j o ho => ?_⟩
  unfold setBlock
  by_cases hj : j = i
  · subst hj
    rw [hb] at ho
    cases ho
    exact ⟨nb, by simp [hi], hr⟩
  · exact ⟨o, by rw [List.getElem?_set_ne (Ne.symm hj)]; exact ho, FinRel.refl o⟩

/-- the terminator a round of the loop installs: a `return`, or `unreachable` on a block outside `reachable` whose `br`
    predecessors are pushed (`push`) -/
def Installed (reachable : List Bool) (i : Nat) (nb : BasicBlock) (push : Bool) : Prop :=
  (∃ a, nb.terminator = some (.ret a)) ∨ (nb.terminator = some .unreachable ∧ push = true ∧ reachable.getD i false = false)

theorem Installed.isFinal {reachable : List Bool} {i : Nat} {nb : BasicBlock} {push : Bool} (h : Installed reachable i nb push) :
    IsFinal nb.terminator := by
  rcases h with ⟨a, ha⟩ | ⟨ha, _⟩
  all_goals
    rw [ha]
    trivial

/-- one round of the loop: the block on top of the stack gets a final terminator; if it was empty and without completion
    value, the sources of the `br` edges into it are pushed -/
theorem finalizeLoop_succ (reachable : List Bool) (fuel : Nat) {stack : List Nat} (incoming : List (List Nat))
    {blocks : List BasicBlock} (panic : Option String) {i : Nat} {b : BasicBlock} (hs : stack.getLast? = some i)
    (hb : blocks[i]? = some b) :
    ∃ nb push p', FinRel b nb ∧ Installed reachable i nb push ∧
      finalizeLoop reachable (fuel + 1) stack incoming blocks panic =
        finalizeLoop reachable fuel (if push then stack.dropLast ++ incoming.getD i [] else stack.dropLast)
          (if push then incoming.set i [] else incoming) (setBlock blocks i nb) p' := by
  simp only [finalizeLoop, hs, hb]
  cases hcv : b.completionValue with
  | some a =>
    exact ⟨{ b with completionValue := none, terminator := some (.ret a) }, false, _,
      ⟨rfl, .inr rfl, .inr (.inl ⟨a, hcv, rfl⟩)⟩, .inl ⟨a, rfl⟩, rfl⟩
  | none =>
    simp only
    by_cases hem : b.statements.isEmpty = true
    · cases hr : reachable.getD i false with
      | true =>
        simp only [hem, Bool.true_or, if_true]
        exact ⟨{ b with completionValue := none, terminator := some (.ret .void) }, true, _,
          ⟨rfl, .inr rfl, .inr (.inr (.inl rfl))⟩, .inl ⟨.void, rfl⟩, rfl⟩
      | false =>
        simp only [hem, Bool.not_true, Bool.or_self, Bool.false_eq_true, if_false, if_true]
        exact ⟨{ b with completionValue := none, terminator := some .unreachable }, true, _,
          ⟨rfl, .inr rfl, .inr (.inr (.inr rfl))⟩, .inr ⟨rfl, rfl, hr⟩, rfl⟩
    · have hne : b.statements.isEmpty = false := by simpa using hem
      simp only [hne, Bool.not_false, Bool.or_true, if_true, Bool.false_eq_true, if_false]
      exact ⟨{ b with completionValue := none, terminator := some (.ret .void) }, false, _,
        ⟨rfl, .inr rfl, .inr (.inr (.inl rfl))⟩, .inl ⟨.void, rfl⟩, rfl⟩

theorem loop_rel (reachable : List Bool) : ∀ (fuel : Nat) (stack : List Nat) (incoming : List (List Nat))
    (blocks : List BasicBlock) (panic : Option String),
    FinRelL blocks (finalizeLoop reachable fuel stack incoming blocks panic).1
  | 0, stack, incoming, blocks, panic => by
    simp only [finalizeLoop]
    exact .refl _
  | fuel + 1, stack, incoming, blocks, panic => by
    cases hs : stack.getLast? with
    | none => simp only [finalizeLoop, hs]; exact .refl _
    | some i =>
      cases hb : blocks[i]? with
      | none => simp only [finalizeLoop, hs, hb]; exact .refl _
      | some b =>
        obtain ⟨nb, push, p', hr, _, e⟩ := finalizeLoop_succ reachable fuel incoming panic hs hb
        rw [e]
        exact (FinRelL.set hb hr).trans (loop_rel reachable fuel _ _ _ p')

theorem FinRelL.term {a b : List BasicBlock} (h : FinRelL a b) (j : Nat) : tL b j = tL a j ∨ IsFinal (tL b j) := by
  cases ho : a[j]? with
  | none =>
    have hn : b[j]? = none := by
      rw [List.getElem?_eq_none_iff] at ho ⊢
      rw [h.1]; exact ho
    unfold tL
    rw [ho, hn]; exact .inl rfl
  | some o =>
    obtain ⟨n, hn, r⟩ := h.2 j o ho
    rw [tL_of_get hn, tL_of_get ho]
    rcases r.tm with e | ⟨x, _, e⟩ | e | e
    · exact .inl e
    all_goals
      rw [e]; exact .inr trivial

theorem FinRelL.closed {a b : List BasicBlock} (h : FinRelL a b) (j : Nat) (hs : (tL a j).isSome) : (tL b j).isSome := by
  rcases h.term j with e | hf
  · rw [e]; exact hs
  · exact hf.isSome

theorem loop_closes_top {reachable : List Bool} {fuel : Nat} {stack : List Nat} {incoming : List (List Nat)}
    {blocks : List BasicBlock} {panic : Option String} {i : Nat} (hs : stack.getLast? = some i) (hi : i < blocks.length) :
    (tL (finalizeLoop reachable (fuel + 1) stack incoming blocks panic).1 i).isSome := by
  obtain ⟨nb, push, p', _, hfin, e⟩ :=
    finalizeLoop_succ reachable fuel incoming panic hs (List.getElem?_eq_getElem hi)
  rw [e]
  apply (loop_rel reachable fuel _ _ _ p').closed i
  rw [tL_setBlock]
  simp [hi, hfin.isFinal.isSome]

/-- the invariant of the reverse walk over the `br` edges.  `reachable` is the list that `finalize_completion_values` computes
    for itself: block 0 and the targets of conditional branches — not reachability in the graph.  `stack` holds the blocks
    whose terminator the loop is about to overwrite by a final one; `incoming[i]` the sources of `br` edges into `i` not yet
    pushed.  `brEdge`: every `br` edge `j → i` comes from a block still on the stack or is recorded in `incoming[i]`;
    `condEdge`: both targets of a conditional branch are in `reachable`; `unr`: a block terminated `unreachable` is outside
    `reachable` and its `incoming` entry has been used up (so all `br` edges into it come from the stack); `incLen`: `incoming`
    has an entry for every block.  With the stack empty this is `NoEdgeIntoUnreachable`. -/
structure BrWalk (reachable : List Bool) (stack : List Nat) (incoming : List (List Nat)) (blocks : List BasicBlock) : Prop where
  brEdge : ∀ j i, tL blocks j = some (.br i) → j ∈ stack ∨ j ∈ incoming.getD i []
  condEdge : ∀ j c x y, tL blocks j = some (.brCond c x y) → reachable.getD x false = true ∧ reachable.getD y false = true
  unr : ∀ i, tL blocks i = some .unreachable → incoming.getD i [] = [] ∧ reachable.getD i false = false
  incLen : incoming.length = blocks.length

/-- a block terminated `unreachable` is not the target of any jump and is not in `reachable` (see `BrWalk`) -/
def NoEdgeIntoUnreachable (reachable : List Bool) (blocks : List BasicBlock) : Prop :=
  ∀ i, tL blocks i = some .unreachable → reachable.getD i false = false ∧ ∀ j, i ∉ successors (tL blocks j)

theorem BrWalk.final {reachable : List Bool} {incoming : List (List Nat)} {blocks : List BasicBlock}
    (h : BrWalk reachable [] incoming blocks) : NoEdgeIntoUnreachable reachable blocks := by
  intro i hi
  obtain ⟨h1, h2⟩ := h.unr i hi
  refine ⟨h2, fun j hj => ?_⟩
  cases ht : tL blocks j with
  | none => simp [ht, successors] at hj
  | some t =>
    cases t with
    | br k =>
      simp [ht, successors] at hj
      subst hj
      rcases h.brEdge j i ht with h3 | h3
      · simp at h3
      · rw [h1] at h3; simp at h3
    | brCond c x y =>
      simp [ht, successors] at hj
      have := h.condEdge j c x y ht
      rcases hj with rfl | rfl
      · rw [h2] at this; simp at this
      · rw [h2] at this; simp at this
    | ret | unreachable => simp [ht, successors] at hj

theorem mem_dropLast_of_ne {l : List Nat} {i j : Nat} (hl : l.getLast? = some i) (hj : j ∈ l) (hne : j ≠ i) : j ∈ l.dropLast := by
  obtain ⟨ys, rfl⟩ := List.getLast?_eq_some_iff.1 hl
  rw [List.dropLast_concat]
  simpa [hne] using hj

theorem getD_set_nil (incoming : List (List Nat)) (i k : Nat) :
    (incoming.set i []).getD k [] = if k = i then [] else incoming.getD k [] := by
  rw [List.getD_eq_getElem?_getD, List.getD_eq_getElem?_getD, List.getElem?_set]
  by_cases hk : i = k
  · subst hk; by_cases hlt : i < incoming.length <;> simp [hlt]
  · simp [hk, Ne.symm hk]

theorem BrWalk.step {reachable : List Bool} {stack : List Nat} {incoming : List (List Nat)} {blocks : List BasicBlock}
    (h : BrWalk reachable stack incoming blocks) {i : Nat} (hs : stack.getLast? = some i) {b : BasicBlock} (hb : blocks[i]? = some b)
    (nb : BasicBlock) (push : Bool) (hfin : Installed reachable i nb push) :
    BrWalk reachable (if push then stack.dropLast ++ incoming.getD i [] else stack.dropLast)
      (if push then incoming.set i [] else incoming) (setBlock blocks i nb) := by
  have hi : i < blocks.length := (List.getElem?_eq_some_iff.1 hb).1
  have hnb := hfin.isFinal
  refine ⟨?_, ?_, ?_, ?_⟩
  · intro j k hjk
    rcases tL_setBlock_some hi hjk with ⟨_, hj⟩ | ⟨hne, hjk⟩
    · rw [hj] at hnb
      exact hnb.elim
    · rcases h.brEdge j k hjk with h1 | h1
      · have := mem_dropLast_of_ne hs h1 hne
        cases push <;> simp [this]
      · cases push with
        | false => exact Or.inr h1
        | true =>
          simp only [if_true, getD_set_nil]
          by_cases hk : k = i
          · subst hk; exact Or.inl (List.mem_append_right _ h1)
          · simp only [hk, if_false]; exact Or.inr h1
  · intro j c x y hj
    rcases tL_setBlock_some hi hj with ⟨_, hj⟩ | ⟨_, hj⟩
    · rw [hj] at hnb
      exact hnb.elim
    · exact h.condEdge j c x y hj
  · intro k hk
    rcases tL_setBlock_some hi hk with ⟨rfl, hk'⟩ | ⟨_, hk⟩
    · rcases hfin with ⟨a, ha⟩ | ⟨_, hp, hr⟩
      · rw [ha] at hk'; cases hk'
      · subst hp
        simp only [if_true, getD_set_nil]
        exact ⟨trivial, hr⟩
    · obtain ⟨h1, h2⟩ := h.unr k hk
      refine ⟨?_, h2⟩
      cases push with
      | false => exact h1
      | true =>
        simp only [if_true, getD_set_nil]
        split
        · rfl
        · exact h1
  · cases push <;> simp [h.incLen]

theorem loop_graph (reachable : List Bool) : ∀ (fuel : Nat) (stack : List Nat) (incoming : List (List Nat))
    (blocks : List BasicBlock) (panic : Option String), BrWalk reachable stack incoming blocks →
    (finalizeLoop reachable fuel stack incoming blocks panic).2 = none →
    NoEdgeIntoUnreachable reachable (finalizeLoop reachable fuel stack incoming blocks panic).1
  | 0, stack, incoming, blocks, panic, hq, hp => by
    simp only [finalizeLoop] at hp ⊢
    cases stack with
    | nil => exact hq.final
    | cons x xs => simp at hp
  | fuel + 1, stack, incoming, blocks, panic, hq, hp => by
    cases hs : stack.getLast? with
    | none =>
      simp only [finalizeLoop, hs] at hp ⊢
      have : stack = [] := by simpa using hs
      subst this
      exact hq.final
    | some i =>
      cases hb : blocks[i]? with
      | none => simp only [finalizeLoop, hs, hb] at hp; exact nomatch (Option.or_eq_none_iff.1 hp).2
      | some b =>
        obtain ⟨nb, push, p', _, hfin, e⟩ := finalizeLoop_succ reachable fuel incoming panic hs hb
        rw [e] at hp ⊢
        exact loop_graph reachable fuel _ _ _ p' (hq.step hs hb nb push hfin) hp

/-- `Inv` and the second half of `walk_result` on the list of blocks: the hypothesis of `finalize_out` -/
structure WalkOut (blocks : List BasicBlock) : Prop where
  pos : 0 < blocks.length
  valid : ∀ j t, tL blocks j = some t → ValidTerm blocks.length t
  closed : ∀ j, j + 1 < blocks.length → (tL blocks j).isSome

/-- the conclusion of `finalize_out`, which `build_out` hands to the `build_*` theorems.  `panic = none` also rules out the
    panic sites of the model alone (loop fuel exhausted, block index out of range); that the fuel suffices is not proved. -/
structure FinOut (blocks : List BasicBlock) (panic : Option String) : Prop where
  targets : ∀ j t, tL blocks j = some t → ∀ k ∈ successors (some t), k < blocks.length
  closed : ∀ j, j < blocks.length → (tL blocks j).isSome
  noEdge : panic = none → ∀ i, tL blocks i = some .unreachable → i ≠ 0 ∧ ∀ j, i ∉ successors (tL blocks j)
  pos : 0 < blocks.length

theorem isFinal_successors {t : Terminator} (h : IsFinal (some t)) : successors (some t) = [] := by
  cases t <;> simp [IsFinal, successors] at h ⊢

/-- `FinOut` from what the pass does to the blocks: terminators change only into final ones, the start block (the last) gets
    closed, and the graph fact -/
theorem FinOut.of_rel {blocks blocks' : List BasicBlock} {panic : Option String} (hw : WalkOut blocks)
    (hr : FinRelL blocks blocks') (htop : (tL blocks' (blocks.length - 1)).isSome)
    (hno : panic = none → ∀ i, tL blocks' i = some .unreachable → i ≠ 0 ∧ ∀ j, i ∉ successors (tL blocks' j)) :
    FinOut blocks' panic := by
  refine ⟨?_, ?_, hno, by rw [hr.1]; exact hw.pos⟩
  · intro j t ht k hk
    rw [hr.1]
    rcases hr.term j with h1 | h1
    · rw [h1] at ht; exact (hw.valid j t ht).1 k hk
    · rw [ht] at h1
      rw [isFinal_successors h1] at hk
      cases hk
  · intro j hj
    rw [hr.1] at hj
    by_cases hjs : j = blocks.length - 1
    · rw [hjs]; exact htop
    · exact hr.closed j (hw.closed j (by omega))

theorem finalize_rel (code : CodeBody) (startRef : Nat) :
    FinRelL code.blocks (finalizeCompletionValues code startRef).1.blocks ∧
      (finalizeCompletionValues code startRef).1.parameterCount = code.parameterCount := by
  cases hb : code.blocks[startRef]? with
  | none => simp [finalizeCompletionValues, hb]; exact FinRelL.refl _
  | some start =>
    cases hcv : start.completionValue with
    | some a =>
      rw [finalizeCompletionValues_completion hb hcv]
      exact ⟨FinRelL.set hb ⟨rfl, Or.inr rfl, Or.inr (Or.inl ⟨a, hcv, rfl⟩)⟩, rfl⟩
    | none =>
      rw [finalizeCompletionValues_loop hb hcv]
      exact ⟨loop_rel .., rfl⟩

/-- in the loop's arm the invariant `BrWalk` holds at the start by what `brIncoming` and `condTargets` collect -/
theorem finalize_out (code : CodeBody) (hw : WalkOut code.blocks) :
    FinOut (finalizeCompletionValues code (code.blocks.length - 1)).1.blocks
      (finalizeCompletionValues code (code.blocks.length - 1)).2 := by
  have hn := hw.pos
  have hstart : code.blocks.length - 1 < code.blocks.length := by omega
  have hb : code.blocks[code.blocks.length - 1]? = some code.blocks[code.blocks.length - 1] := List.getElem?_eq_getElem hstart
  have hr := (finalize_rel code (code.blocks.length - 1)).1
  cases hcv : (code.blocks[code.blocks.length - 1]).completionValue with
  | some a =>
    rw [finalizeCompletionValues_completion hb hcv] at hr ⊢
    refine FinOut.of_rel hw hr ?_ ?_
    · rw [tL_setBlock]
      simp [hstart]
    · intro _ i hi
      rcases tL_setBlock_some hstart hi with ⟨_, h⟩ | ⟨_, h⟩
      · cases h
      · exact absurd rfl ((hw.valid i _ h).2)
  | none =>
    rw [finalizeCompletionValues_loop hb hcv] at hr ⊢
    have hq : BrWalk (condTargets code) [code.blocks.length - 1] (brIncoming code) code.blocks := by
      refine ⟨fun j i h => .inr ?_, fun j c x y hj => ?_, fun i hi => absurd rfl ((hw.valid i _ hi).2), by simp [brIncoming]⟩
      · exact (mem_brIncoming ((hw.valid j _ h).1 i (by simp [successors]))).2 (tL_eq_some h)
      · have hv := (hw.valid j _ hj).1
        obtain ⟨bj, hbj, hbt⟩ := tL_eq_some hj
        have hm := List.mem_of_getElem? hbj
        exact ⟨(condTargets_getD (hv x (by simp [successors]))).2 (.inr ⟨bj, hm, c, x, y, hbt, .inl rfl⟩),
          (condTargets_getD (hv y (by simp [successors]))).2 (.inr ⟨bj, hm, c, x, y, hbt, .inr rfl⟩)⟩
    refine FinOut.of_rel hw hr (loop_closes_top (by simp) hstart) (fun hpn i hi => ?_)
    obtain ⟨h1, h2⟩ := loop_graph _ _ _ _ _ _ hq hpn i hi
    refine ⟨fun h0 => ?_, h2⟩
    rw [h0, (condTargets_getD hn).2 (.inl rfl)] at h1
    cases h1

theorem build_code {ctx : Ctx} {callback : Bool} {p : Program} {code : CodeBody}
    (h : (build ctx callback p).code = some code) :
    ∃ st, (walkProgram ctx callback p).run {} = (some (), st) ∧
      code = (finalizeCompletionValues st.b.code st.b.currentRef).1 ∧ (build ctx callback p).userUninit = st.userUninit ∧
      (build ctx callback p).panic = st.b.panic.or (finalizeCompletionValues st.b.code st.b.currentRef).2 := by
  unfold build at h ⊢
  generalize hrun : (walkProgram ctx callback p).run {} = res at h ⊢
  rcases res with ⟨r, st⟩
  cases r with
  | none => cases h
  | some u =>
    simp only at h ⊢
    cases h
    exact ⟨st, rfl, rfl, rfl, rfl⟩

end QV.Proofs.BuilderInv
