/-
  C05, the checks uigen performs after `tir::build` (QV.Model.TypeCheck): the return type against the property type,
  the callback parameters against the signal — stated with the specification's `resultType` and `assignable` on the IR
  (`Spec.IrTyping.returnTypes`, the parameter locals): the shape of rules D16 and D18, not their source-level form.
-/
import QV.Model.TypeCheck
import QV.Spec.IrTyping
import QV.Proofs.TypingRules

namespace QV.Proofs.TypingChecks
open QV.Model QV.Spec.Typing QV.Proofs.TypingRules

theorem returnTypes_eq (code : CodeBody) :
    QV.Spec.IrTyping.returnTypes code = (returnOperands code).map (·.typeDesc) := by
  unfold QV.Spec.IrTyping.returnTypes returnOperands
  rw [List.map_filterMap]
  congr 1
  funext b
  cases b.terminator with
  | none => rfl
  | some t => cases t <;> rfl

theorem resolveReturnType_go_eq (env : Env) (ops : List Operand) (known : TypeDesc) :
    resolveReturnType.go env known ops =
      (match resultType.go env known (ops.map (·.typeDesc)) with
       | .ok t => some t
       | .error _ => none) := by
  induction ops generalizing known with
  | nil => simp [resolveReturnType.go, resultType.go]
  | cons a as ih =>
    simp only [resolveReturnType.go, List.map_cons, resultType.go, deduceType_eq]
    cases common env known a.typeDesc with
    | none => simp
    | some t => simpa using ih t

/-- `resolve_return_type` deduces exactly the specification's common result type (D16) -/
theorem resolveReturnType_eq (env : Env) (code : CodeBody) :
    resolveReturnType env code =
      (match resultType env (QV.Spec.IrTyping.returnTypes code) with
       | .ok t => some t
       | .error _ => none) := by
  rw [returnTypes_eq]
  unfold resolveReturnType resultType
  cases returnOperands code with
  | nil => simp
  | cons a as => simpa using resolveReturnType_go_eq env as a.typeDesc

/-- `verify_code_return_type`: the results have one common type and it is assignable to the property
    (identity or upcast, a literal type adopting the property type) -/
theorem verifyCodeReturnType_eq (env : Env) (code : CodeBody) (p : TypeKind) :
    verifyCodeReturnType env code p =
      (match resultType env (QV.Spec.IrTyping.returnTypes code) with
       | .ok t => assignable env p t
       | .error _ => false) := by
  unfold verifyCodeReturnType
  rw [resolveReturnType_eq]
  cases resultType env (QV.Spec.IrTyping.returnTypes code) with
  | error e => rfl
  | ok t => simp [isAssignable_eq]

/-- `verify_callback_parameter_type` in the shape of rule D18: not more parameters than the signal has, and each signal argument
    assignable to the declared parameter type -/
theorem verifyCallbackParameterType_eq (env : Env) (desc : MethodInfo) (code : CodeBody) :
    verifyCallbackParameterType env desc code =
      (!(code.parameterCount > desc.args.length) &&
        (desc.args.zip (code.locals.take code.parameterCount)).all fun (a, p) => assignable env p (.concrete a)) := by
  unfold verifyCallbackParameterType
  by_cases h : code.parameterCount > desc.args.length
  · simp [h]
  · simp only [h, if_false, decide_false, Bool.not_false, Bool.true_and]
    congr 1
    funext ⟨a, p⟩
    exact isConcreteAssignable_eq env p a

end QV.Proofs.TypingChecks
