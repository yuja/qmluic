/-
  C06, the builder for ALL programs: the invariant of the control-flow skeleton (`Inv`: there is a block, every terminator present
  jumps to existing blocks), the orders in which builder states follow each other (`Same`, `Adv`, `Ctl`), and what the visitors do
  to the skeleton: nothing, for those that emit straight-line code (`….same`); the ones that wire control flow close the blocks
  they are given (`…_ctl`, `…_adv`).
-/
import QV.Proofs.BuilderVisit

namespace QV.Proofs.BuilderInv
open QV.Model QV.Model.Cfg

def ValidTerm (n : Nat) (t : Terminator) : Prop := (∀ k ∈ successors (some t), k < n) ∧ t ≠ .unreachable

/-- **the invariant**.  The walk never installs the `unreachable` marker: only `finalize_completion_values` does, and the
    invariant of its loop (`BrWalk.unr`) holds at the start because the body it is given has none. -/
structure Inv (b : Builder) : Prop where
  pos : 0 < len b
  tgt : ∀ j t, termOf b j = some t → ValidTerm (len b) t

theorem inv_init : Inv ({} : Builder) :=
  ⟨by simp [len], fun j t h => by rw [termOf_init] at h; cases h⟩

def Closed (b : Builder) (j : Nat) : Prop := (termOf b j).isSome = true

/-- `b'` is a later builder state (`inv` is an implication, so that `Adv` composes without assuming `Inv`).  `closed`
    keeps "has a terminator", not which one: `finalizeAt` on a closed block sets the panic flag and overwrites it. -/
structure Adv (b b' : Builder) : Prop where
  mono : len b ≤ len b'
  closed : ∀ j, Closed b j → Closed b' j
  inv : Inv b → Inv b'

/-- `b'` has the skeleton of `b`: what straight-line code leaves behind -/
structure Same (b b' : Builder) : Prop where
  eq : len b' = len b
  term : ∀ j, termOf b' j = termOf b j

theorem Same.refl (b : Builder) : Same b b := ⟨rfl, fun _ => rfl⟩

theorem Same.trans {a b c : Builder} (h1 : Same a b) (h2 : Same b c) : Same a c :=
  ⟨h2.eq.trans h1.eq, fun j => (h2.term j).trans (h1.term j)⟩

theorem Same.adv {b b' : Builder} (h : Same b b') : Adv b b' where
  mono := by rw [h.eq]; exact Nat.le_refl _
  closed := fun j hj => by unfold Closed; rw [h.term]; exact hj
  inv := fun hi => ⟨by rw [h.eq]; exact hi.pos, fun j t ht => by rw [h.eq]; rw [h.term] at ht; exact hi.tgt j t ht⟩

theorem Adv.refl (b : Builder) : Adv b b := (Same.refl b).adv

theorem Adv.trans {a b c : Builder} (h1 : Adv a b) (h2 : Adv b c) : Adv a c :=
  ⟨Nat.le_trans h1.mono h2.mono, fun j hj => h2.closed j (h1.closed j hj), fun hi => h2.inv (h1.inv hi)⟩

theorem ValidTerm.mono {n m : Nat} {t : Terminator} (h : ValidTerm n t) (hnm : n ≤ m) : ValidTerm m t :=
  ⟨fun k hk => Nat.lt_of_lt_of_le (h.1 k hk) hnm, h.2⟩

theorem adv_newBlock (b : Builder) : Adv b b.newBlock.2 where
  mono := by simp
  closed := fun j hj => by unfold Closed; rw [termOf_newBlock]; exact hj
  inv := fun hi => ⟨by simp, fun j t ht => by
    rw [termOf_newBlock] at ht
    exact (hi.tgt j t ht).mono (by simp)⟩

theorem adv_finalizeAt (b : Builder) (i : Nat) (t : Terminator) (hv : ValidTerm (len b) t) : Adv b (b.finalizeAt i t) where
  mono := by simp
  closed := fun j hj => by
    unfold Closed at hj ⊢
    rw [termOf_finalizeAt]
    split
    · rfl
    · exact hj
  inv := fun hi => ⟨by simp; exact hi.pos, fun j t' ht => by
    rw [termOf_finalizeAt] at ht
    rw [len_finalizeAt]
    split at ht
    · simp at ht; subst ht; exact hv
    · exact hi.tgt j t' ht⟩

theorem closed_finalizeAt (b : Builder) (i : Nat) (t : Terminator) (hi : i < len b) : Closed (b.finalizeAt i t) i := by
  unfold Closed
  rw [termOf_finalizeAt]
  simp [hi]

theorem same_code {b b' : Builder} (h : b'.code = b.code) : Same b b' := ⟨len_congr h, termOf_congr h⟩

theorem same_pushStatementAt (b : Builder) (i : Nat) (st : Statement) : Same b (b.pushStatementAt i st) :=
  ⟨by simp, fun j => by simp⟩

theorem same_pushStatement (b : Builder) (st : Statement) : Same b (b.pushStatement st) := ⟨by simp, fun j => by simp⟩

theorem same_setCompletionValue (b : Builder) (v : Operand) : Same b (b.setCompletionValue v) := ⟨by simp, fun j => by simp⟩

theorem same_alloca (b : Builder) (ty : TypeKind) : Same b (b.alloca ty).2 := ⟨by simp, fun j => by simp⟩

theorem same_emitResult (b : Builder) (ty : TypeKind) (rv : Rvalue) : Same b (b.emitResult ty rv).2 := ⟨by simp, fun j => by simp⟩

theorem Emitted.same {b b' : Builder} {rv : Rvalue} {a : Operand} (h : Emitted b rv a b') : Same b b' := by
  obtain ⟨b0, ty, hc, h⟩ := h
  have := same_emitResult b0 ty rv
  rw [h] at this
  exact (same_code hc).trans this

theorem Straight.same {R : List Nat} {b b' : Builder} {a : Operand} (h : Straight R b a b') : Same b b' := by
  cases h with
  | pure hc ha => exact same_code hc
  | emit he hr hg => exact he.same
  | push hr hg => exact same_pushStatement _ _

theorem visitLocalDeclaration_same {b b' : Builder} {ty : TypeKind} {n : Nat}
    (h : visitLocalDeclaration b ty = .ok (n, b')) : Same b b' := by
  rw [visitLocalDeclaration_eff h]; exact same_alloca b ty

theorem visitFunctionParameter_same {b b' : Builder} {ty : TypeKind} {n : Nat}
    (h : visitFunctionParameter b ty = .ok (n, b')) : Same b b' := by
  obtain ⟨b0, b1, hc0, rfl, -, -, rfl⟩ := visitFunctionParameter_eff h
  exact (same_code hc0).trans ((same_alloca b0 ty).trans ⟨rfl, fun _ => rfl⟩)

theorem visitExpressionStatement_same (b : Builder) (v : Operand) : Same b (visitExpressionStatement b v) :=
  same_setCompletionValue _ _

/-- the steps of a visitor that wires control flow, from the builder `b` it started from: no block is added, the blocks
    `closedNow` are closed in `b'`.  The side conditions of `then_fin` speak of `b`. -/
structure Ctl (b b' : Builder) (closedNow : List Nat) : Prop where
  eq : len b' = len b
  adv : Adv b b'
  now : ∀ j ∈ closedNow, Closed b' j

theorem Ctl.of_same {b b' : Builder} (h : Same b b') : Ctl b b' [] := ⟨h.eq, h.adv, by simp⟩

theorem Ctl.trans {a b c : Builder} {l1 l2 : List Nat} (h1 : Ctl a b l1) (h2 : Ctl b c l2) : Ctl a c (l1 ++ l2) where
  eq := h2.eq.trans h1.eq
  adv := h1.adv.trans h2.adv
  now := fun j hj => by
    rcases List.mem_append.1 hj with h | h
    · exact h2.adv.closed j (h1.now j h)
    · exact h2.now j h

theorem Ctl.fin (b : Builder) (i : Nat) (t : Terminator) (hi : i < len b) (hv : ValidTerm (len b) t) :
    Ctl b (b.finalizeAt i t) [i] :=
  ⟨by simp, adv_finalizeAt b i t hv, fun j hj => by simp at hj; subst hj; exact closed_finalizeAt b j t hi⟩

theorem Ctl.sub {b b' : Builder} {l1 l2 : List Nat} (h : Ctl b b' l1) (hs : ∀ j ∈ l2, j ∈ l1) : Ctl b b' l2 :=
  ⟨h.eq, h.adv, fun j hj => h.now j (hs j hj)⟩

theorem Ctl.then_same {a b c : Builder} {l : List Nat} (h : Ctl a b l) (hs : Same b c) : Ctl a c l :=
  (h.trans (Ctl.of_same hs)).sub fun _ hj => List.mem_append_left _ hj

theorem Ctl.then_fin {a b : Builder} {l : List Nat} (h : Ctl a b l) (i : Nat) (t : Terminator) (hi : i < len a)
    (hv : ValidTerm (len a) t) : Ctl a (b.finalizeAt i t) (i :: l) :=
  (h.trans (Ctl.fin b i t (by rw [h.eq]; exact hi) (by rw [h.eq]; exact hv))).sub fun j hj => by
    rcases List.mem_cons.1 hj with rfl | hj
    · exact List.mem_append_right _ List.mem_cons_self
    · exact List.mem_append_left _ hj

theorem validBr {n k : Nat} (h : k < n) : ValidTerm n (.br k) := ⟨by simp [successors]; exact h, by simp⟩

theorem validBrCond {n x y : Nat} (c : Operand) (hx : x < n) (hy : y < n) : ValidTerm n (.brCond c x y) :=
  ⟨by simp [successors]; exact ⟨hx, hy⟩, by simp⟩

theorem validRet (n : Nat) (a : Operand) : ValidTerm n (.ret a) := ⟨by simp [successors], by simp⟩

theorem storeAt_ctl {a bb : Builder} {l : List Nat} (sink : Option Operand) {t : Terminator} (src : Operand) {ref : Nat} (hbb : Ctl a bb l)
    (href : ref + 1 < len a) (ht : ValidTerm (len a) t) : Ctl a (storeAt sink t bb src ref) (ref :: l) := by
  unfold storeAt
  refine Ctl.then_fin ?_ ref _ (by omega) ht
  split
  · exact hbb.then_same (same_pushStatementAt _ _ _)
  · exact hbb

theorem visitBinaryLogicalExpression_ctl {b b' : Builder} {op : LogicOp} {l r it : Operand} {lr rr : Nat}
    (hl : lr + 1 < len b) (hr : rr + 1 < len b) (h : visitBinaryLogicalExpression b op l lr r rr = (it, b')) :
    Ctl b b' [lr, rr] := by
  obtain ⟨b0, init, T, F, hc0, hT, heq⟩ := visitBinaryLogicalExpression_eff b op l r lr rr
  rw [h] at heq
  cases heq
  have hTF : T < len b ∧ F < len b := by
    rcases hT with ⟨rfl, rfl⟩ | ⟨rfl, rfl⟩ <;> exact ⟨by omega, by omega⟩
  have c0 : Ctl b (b0.alloca .bool).2 [] := Ctl.of_same ((same_code hc0).trans (same_alloca _ _))
  exact (storeAt_ctl _ _ (storeAt_ctl _ _ c0 hl (validBrCond _ hTF.1 hTF.2)) hr (validBr hr)).sub (by simp)

theorem visitTernaryExpression_ctl {env : Env} {b b' : Builder} {c x y res : Operand} {cr xr yr : Nat}
    (hc : cr + 1 < len b) (hx : xr + 1 < len b) (hy : yr + 1 < len b)
    (h : visitTernaryExpression env b c cr x xr y yr = .ok (res, b')) : Ctl b b' [cr, xr, yr] := by
  obtain ⟨ty, -, hb'⟩ := visitTernaryExpression_eff h
  rw [hb']
  have c1 := (Ctl.of_same (same_alloca b ty)).then_fin cr (.brCond c (cr + 1) (xr + 1)) (by omega) (validBrCond _ hc hx)
  exact (storeAt_ctl _ _ (storeAt_ctl _ _ c1 hx (validBr hy)) hy (validBr hy)).sub (by simp)

theorem visitIfStatement_ctl {b b' : Builder} {cnd : Operand} {cr xr : Nat} {yr : Option Nat}
    (hc : cr + 1 < len b) (hx : xr + 1 < len b) (hy : ∀ y, yr = some y → y + 1 < len b)
    (h : b' = visitIfStatement b cnd cr xr yr) : Ctl b b' (cr :: xr :: yr.toList) := by
  subst h
  unfold visitIfStatement
  simp only []
  have c1 := (Ctl.of_same (Same.refl b)).then_fin cr (.brCond cnd (cr + 1) (xr + 1)) (by omega) (validBrCond _ hc hx)
  cases yr with
  | none => exact (c1.then_fin xr _ (by omega) (validBr hx)).sub (by simp)
  | some y =>
    have hy' := hy y rfl
    exact ((c1.then_fin xr _ (by omega) (validBr hy')).then_fin y _ (by omega) (validBr hy')).sub (by simp)

theorem closeCurrent_adv (b : Builder) (t : Terminator) (hpos : 0 < len b) (hv : ValidTerm (len b) t) :
    Adv b (b.finalizeAt b.currentRef t).newBlock.2 ∧ len (b.finalizeAt b.currentRef t).newBlock.2 = len b + 1 ∧
      Closed (b.finalizeAt b.currentRef t).newBlock.2 (len b - 1) := by
  have c1 := Ctl.fin b b.currentRef t (Nat.sub_lt hpos Nat.one_pos) hv
  exact ⟨c1.adv.trans (adv_newBlock _), by simp, (adv_newBlock _).closed _ (c1.now b.currentRef (by simp))⟩

theorem visitBreakStatement_adv (b : Builder) (l : Nat) (hl : l < len b) :
    Adv b (visitBreakStatement b l) ∧ len (visitBreakStatement b l) = len b + 1 ∧
      Closed (visitBreakStatement b l) (len b - 1) :=
  closeCurrent_adv b (.br l) (Nat.zero_lt_of_lt hl) (validBr hl)

theorem visitReturnStatement_adv (b : Builder) (v : Operand) (hpos : 0 < len b) :
    Adv b (visitReturnStatement b v) ∧ len (visitReturnStatement b v) = len b + 1 ∧
      Closed (visitReturnStatement b v) (len b - 1) :=
  closeCurrent_adv b _ hpos (validRet _ _)

/-- `xs`: each `case` condition with the block it ends in, beside the start of its body -/
theorem connect_ctl {a : Builder} (lastBodyRef : Nat) (defaultStart : Option Nat) (starts : List Nat)
    (hd : ∀ d, defaultStart = some d → d < len a) (hl : lastBodyRef + 1 < len a) :
    ∀ (xs : List ((Operand × Nat) × Nat)) (b : Builder) (i : Nat) (l : List Nat), Ctl a b l →
      (∀ x ∈ xs, x.1.2 + 1 < len a ∧ x.2 < len a) →
      Ctl a (visitSwitchStatement.connect lastBodyRef defaultStart starts b i xs) ((xs.map (·.1.2)).reverse ++ l)
  | [], b, i, l, hb, hx => by
    simp only [visitSwitchStatement.connect, List.map_nil, List.reverse_nil, List.nil_append]
    exact hb
  | ((cnd, cr), bs) :: rest, b, i, l, hb, hx => by
    simp only [visitSwitchStatement.connect, List.map_cons, List.reverse_cons, List.append_assoc, List.singleton_append]
    have h0 := hx ((cnd, cr), bs) (by simp)
    have hnext : (if i + 1 < starts.length then cr + 1 else defaultStart.getD (lastBodyRef + 1)) < len a := by
      split
      · exact h0.1
      · cases hds : defaultStart with
        | none => simpa using hl
        | some d => simpa using hd d hds
    exact connect_ctl lastBodyRef defaultStart starts hd hl rest _ (i + 1) _
      (hb.then_fin cr _ (Nat.lt_of_succ_lt h0.1) (validBrCond _ h0.2 hnext)) fun x hx' => hx x (by simp [hx'])

theorem foldl_finalize_ctl {a : Builder} : ∀ (bodies : List Nat) (b : Builder) (l : List Nat), Ctl a b l →
    (∀ r ∈ bodies, r + 1 < len a) →
    Ctl a (bodies.foldl (fun b bodyRef => b.finalizeAt bodyRef (.br (bodyRef + 1))) b) (bodies.reverse ++ l)
  | [], b, l, hb, hr => by simpa using hb
  | r :: rest, b, l, hb, hr => by
    simp only [List.foldl_cons, List.reverse_cons, List.append_assoc, List.singleton_append]
    have h0 := hr r (by simp)
    exact foldl_finalize_ctl rest _ _ (hb.then_fin r _ (by omega) (validBr h0)) fun x hx => hr x (by simp [hx])

theorem visitSwitchStatement_ctl {b b' : Builder} {conds : List (Operand × Nat)} {bodies : List Nat} {dp : Option Nat} {hr er : Nat}
    (hc : ∀ x ∈ conds, x.2 + 1 < len b) (hb : ∀ r ∈ bodies, r + 1 < len b) (hh : hr < len b) (he : er + 1 < len b)
    (hcount : match dp with
      | none => conds.length = bodies.length
      | some p => p < bodies.length ∧ conds.length + 1 = bodies.length)
    (h : b' = visitSwitchStatement b conds bodies dp hr er) : Ctl b b' (conds.map (·.2) ++ [hr, er] ++ bodies) := by
  -- the steps in the order of `visitSwitchStatement_eff`; what they close is collected in reverse and sorted at the end
  obtain ⟨ds, starts, b1, hc1, hds, hst, hlen, heq⟩ := visitSwitchStatement_eff b conds bodies dp hr er
  rw [h, heq]
  obtain ⟨hstarts0, hlast⟩ := switchTargets_forall (P := (· < len b)) he hb
  have hcs : conds.length = starts.length := by
    cases dp with
    | none => exact hcount.trans hlen.symm
    | some p => have := hlen hcount.1; have := hcount.2; omega
  simp only [hcs, ne_eq, not_true_eq_false, if_false]
  have c1 := connect_ctl (bodies.getLast?.getD er) ds starts (fun d hd => hstarts0 d (hds d hd)) hlast
    (conds.zip starts) b1 0 [] (Ctl.of_same (same_code hc1)) (by
    intro x hx
    obtain ⟨h1, h2⟩ := List.of_mem_zip (a := x.1) (b := x.2) (by simpa using hx)
    exact ⟨hc x.1 h1, hstarts0 x.2 (hst x.2 h2)⟩)
  have hmap : (conds.zip starts).map (·.1.2) = conds.map (·.2) := by
    have : (conds.zip starts).map (·.1) = conds := List.map_fst_zip (by omega)
    calc (conds.zip starts).map (·.1.2) = ((conds.zip starts).map (·.1)).map (·.2) := by rw [List.map_map]; rfl
      _ = conds.map (·.2) := by rw [this]
  rw [hmap] at c1
  exact (((foldl_finalize_ctl bodies _ _ c1 hb).then_fin hr _ hh (validBr he)).then_fin er _ (by omega) (validBr hlast)).sub (by
    intro j hj
    simp only [List.mem_append, List.mem_cons, List.mem_reverse, List.not_mem_nil, or_false] at hj ⊢
    rcases hj with (h | h | h) | h <;> simp [h])

theorem count_split (l : List (Option Expr × List Stmt)) :
    (l.filter (·.1.isSome)).length + (l.filter (·.1.isNone)).length = l.length := by
  rw [List.length_eq_countP_add_countP (·.1.isSome) (l := l), List.countP_eq_length_filter, List.countP_eq_length_filter]
  congr 3
  funext x
  cases x.1 <;> rfl

/-- the hypothesis `hcount` of `visitSwitchStatement_ctl` for the clauses of an accepted `switch` (at most one `default`): as many
    case conditions as bodies, or one less with the position of the `default` in range -/
theorem default_count (cl : List (Option Expr × List Stmt)) {nc nb : Nat}
    (hmd : ¬ (cl.filter (·.1.isNone)).length > 1) (hc : (cl.filter (·.1.isSome)).length = nc) (hb : cl.length = nb) :
    match cl.findIdx? (·.1.isNone) with
    | none => nc = nb
    | some p => p < nb ∧ nc + 1 = nb := by
  have hsplit := count_split cl
  cases hfi : cl.findIdx? (·.1.isNone) with
  | none =>
    have : (cl.filter (·.1.isNone)).length = 0 := by
      rw [List.length_eq_zero_iff, List.filter_eq_nil_iff]
      intro x hx
      rw [List.findIdx?_eq_none_iff.1 hfi x hx]
      exact Bool.false_ne_true
    show nc = nb
    omega
  | some p =>
    have hp := List.findIdx?_eq_some_iff_getElem.1 hfi
    have hpos : 0 < (cl.filter (·.1.isNone)).length :=
      List.length_pos_iff_exists_mem.2 ⟨cl[p]'hp.1, List.mem_filter.2 ⟨List.getElem_mem _, hp.2.1⟩⟩
    have := hp.1
    show p < nb ∧ nc + 1 = nb
    omega

end QV.Proofs.BuilderInv
