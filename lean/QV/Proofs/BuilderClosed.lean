/-
  C06, the builder for ALL programs: the induction over the walk for the control-flow skeleton.
  For every expression, statement and program the walk accepts:
    * the builder only advances (blocks are added, closed blocks stay closed, the invariant `Inv` is kept), and
    * every block from the one that was current at the start up to (excluding) the one that is current at the end
      has been closed — by the construct that opened it.
  The inductions run over the derivations of QV.Proofs.WalkRun.
-/
import QV.Proofs.BuilderSkeleton
import QV.Proofs.BuilderNames

namespace QV.Proofs.BuilderInv
open QV.Model QV.Model.Cfg

/-- progress of a walk from builder `b` to `b'`: every block from the one current in `b` up to (excluding) the one
    current in `b'` is closed, except the pending branch points `P` (each of which has a successor block already).
    The current block is `len b - 1`; the truncated subtraction is harmless since the states met satisfy `Inv.pos`. -/
structure GoodP (b b' : Builder) (P : List Nat) : Prop where
  adv : Adv b b'
  cov : ∀ j, len b - 1 ≤ j → j + 1 < len b' → Closed b' j ∨ j ∈ P
  pend : ∀ r ∈ P, r + 1 < len b'

theorem GoodP.of_same {b b' : Builder} (h : Same b b') : GoodP b b' [] :=
  ⟨h.adv, fun j h1 h2 => by rw [h.eq] at h2; omega, by simp⟩

theorem GoodP.refl (b : Builder) : GoodP b b [] := GoodP.of_same (Same.refl b)

theorem GoodP.trans {a b c : Builder} {P1 P2 : List Nat} (h1 : GoodP a b P1) (h2 : GoodP b c P2) : GoodP a c (P1 ++ P2) where
  adv := h1.adv.trans h2.adv
  cov := fun j hj1 hj2 => by
    by_cases hlt : j + 1 < len b
    · rcases h1.cov j hj1 hlt with h | h
      · exact Or.inl (h2.adv.closed j h)
      · exact Or.inr (List.mem_append.2 (Or.inl h))
    · rcases h2.cov j (by omega) hj2 with h | h
      · exact Or.inl h
      · exact Or.inr (List.mem_append.2 (Or.inr h))
  pend := fun r hr => by
    rcases List.mem_append.1 hr with h | h
    · exact Nat.lt_of_lt_of_le (h1.pend r h) h2.adv.mono
    · exact h2.pend r h

/-- `mark_branch_point`: the block that was current is pending -/
theorem GoodP.marked {b : Builder} (hi : Inv b) : GoodP b b.newBlock.2 [b.currentRef] where
  adv := adv_newBlock b
  cov := fun j h1 h2 => by
    rw [len_newBlock] at h2
    exact Or.inr (List.mem_singleton.2 (show j = len b - 1 by omega))
  pend := fun r hr => by
    rw [List.mem_singleton.1 hr, len_newBlock]
    show len b - 1 + 1 < len b + 1
    have := hi.pos
    omega

theorem GoodP.close {a b b' : Builder} {P L : List Nat} (h : GoodP a b P) (hc : Ctl b b' L) (hs : ∀ r ∈ P, r ∈ L) :
    GoodP a b' [] where
  adv := h.adv.trans hc.adv
  cov := fun j h1 h2 => by
    rw [hc.eq] at h2
    rcases h.cov j h1 h2 with hx | hx
    · exact Or.inl (hc.adv.closed j hx)
    · exact Or.inl (hc.now j (hs j hx))
  pend := by simp

theorem GoodP.inv {b b' : Builder} {P : List Nat} (h : GoodP b b' P) (hi : Inv b) : Inv b' := h.adv.inv hi

theorem GoodP.same {a b b' : Builder} {P : List Nat} (h : GoodP a b P) (hs : Same b b') : GoodP a b' P := by
  simpa using h.trans (GoodP.of_same hs)

/-- two steps in sequence, the second from a builder that satisfies the invariant again -/
theorem GoodP.seq {a b c : Builder} (h1 : GoodP a b []) (hi : Inv a) (h2 : Inv b → GoodP b c []) : GoodP a c [] := by
  simpa using h1.trans (h2 (h1.inv hi))

/-- an accepted expression only advances the builder, and closes every block it opens but the last (what the walk yields
    plays no part) -/
theorem ExprRun.good {c : Ctx} {e : Expr} {s s' : WState} {i : Inter} (h : ExprRun c e s i s') : Inv s.b → GoodP s.b s'.b [] := by
  induction h using ExprRun.rec
    (motive_2 := fun _ s _ s' _ => Inv s.b → GoodP s.b s'.b []) (motive_3 := fun _ s _ s' _ => Inv s.b → GoodP s.b s'.b []) with
  | ident h => rw [(processIdentifier_ok h).1]; exact fun _ => GoodP.refl _
  | this | float | string | bool | null => exact fun _ => GoodP.refl _
  | integer h => exact fun _ => GoodP.of_same (visitInteger_straight h).same
  | array _ h2 ih => exact fun hi => (ih hi).same (visitArray_straight h2).same
  | member h1 h2 h3 ih =>
    rw [(processItemProperty_reads h3).1]
    obtain ⟨b', rfl, st⟩ := interToRvalue_straight h1.wf h2
    exact fun hi => (ih hi).same st.same
  | memberNamespace _ h2 ih => rw [(processNamespaceName_reads h2).1]; exact ih
  | memberType _ h2 ih => rw [(processTypeMember_reads h2).1]; exact ih
  | subscript h1 h2 _ ih1 ih3 =>
    obtain ⟨b', rfl, st⟩ := interToRvalue_straight h1.wf h2
    exact fun hi => ((ih1 hi).same st.same).seq hi ih3
  | callMethod _ _ h3 ih1 ih2 => exact fun hi => ((ih1 hi).seq hi ih2).same (visitObjectMethodCall_straight h3).same
  | callBuiltin _ _ h3 ih1 ih2 => exact fun hi => ((ih1 hi).seq hi ih2).same (visitBuiltinCall_straight h3).same
  | assignLocal _ _ h3 ih1 ih2 => exact fun hi => ((ih1 hi).seq hi ih2).same (visitLocalAssignment_straight h3).same
  | assignProperty _ _ _ h3 ih1 ih2 => exact fun hi => ((ih1 hi).seq hi ih2).same (visitObjectPropertyAssignment_straight h3).same
  | assignSubscript _ _ h3 ih1 ih2 => exact fun hi => ((ih1 hi).seq hi ih2).same (visitObjectSubscriptAssignment_straight h3).same
  | unary _ _ h2 ih => exact fun hi => (ih hi).same (visitUnaryExpression_straight h2).same
  | binary _ _ _ _ h3 ih1 ih2 => exact fun hi => ((ih1 hi).seq hi ih2).same (visitBinaryExpression_straight h3).same
  | logical _ _ _ _ _ hV ih1 ih2 =>
    intro hi
    have g1 := ih1 hi
    have g2 := g1.trans (GoodP.marked (g1.inv hi))
    have g3 := g2.trans (ih2 (g2.inv hi))
    have g4 := g3.trans (GoodP.marked (g3.inv hi))
    exact g4.close (visitBinaryLogicalExpression_ctl (g4.pend _ (by simp)) (g4.pend _ (by simp)) hV) (by simp)
  | as_ _ _ h2 ih => exact fun hi => (ih hi).same (visitAsExpression_straight h2).same
  | ternary _ _ _ _ h4 ih1 ih2 ih3 =>
    intro hi
    have g1 := ih1 hi
    have g2 := g1.trans (GoodP.marked (g1.inv hi))
    have g3 := g2.trans (ih2 (g2.inv hi))
    have g4 := g3.trans (GoodP.marked (g3.inv hi))
    have g5 := g4.trans (ih3 (g4.inv hi))
    have g6 := g5.trans (GoodP.marked (g5.inv hi))
    exact g6.close (visitTernaryExpression_ctl (g6.pend _ (by simp)) (g6.pend _ (by simp)) (g6.pend _ (by simp)) h4) (by simp)
  | mk h1 h2 _ ih =>
    obtain ⟨b', rfl, st⟩ := interToRvalue_straight h1.wf h2
    exact (ih ‹_›).same st.same
  | nil => exact GoodP.refl _
  | cons _ _ ih1 ih2 => exact (ih1 ‹_›).seq ‹_› ih2

theorem RvalRun.good {c : Ctx} {e : Expr} {s s' : WState} {a : Operand} (h : RvalRun c e s a s') (hi : Inv s.b) : GoodP s.b s'.b [] := by
  obtain ⟨i, s1, b', h1, rfl, st⟩ := h.split
  exact (h1.good hi).same st.same

def RvalsGood (c : Ctx) (es : List Expr) : Prop :=
  ∀ s s' as, Inv s.b → run (walkRvalues c es) s = (some as, s') → GoodP s.b s'.b []

theorem good_rvalues (c : Ctx) : (es : List Expr) → RvalsGood c es := fun es s s' as hinv h =>
  (rvalsRun c es s as s' h).induct (motive := fun _ s _ s' => Inv s.b → GoodP s.b s'.b []) (fun _ _ => GoodP.refl _)
    (fun h1 ih hi => (h1.good hi).seq hi ih) hinv

/-- a block right after the current one, closed: what `break` and `return` leave -/
theorem GoodP.of_jump {b b' : Builder} (h : Adv b b' ∧ len b' = len b + 1 ∧ Closed b' (len b - 1)) : GoodP b b' [] := by
  obtain ⟨hadv, hlen, hcl⟩ := h
  refine ⟨hadv, fun j h1 h2 => ?_, by simp⟩
  rw [hlen] at h2
  have : j = len b - 1 := by omega
  rw [this]
  exact Or.inl hcl

theorem setLocals_b (s : WState) (l : Locals) : ({ s with locals := l } : WState).b = s.b := rfl

theorem DeclsRun.good {c : Ctx} {kind : DeclKind} {ds : List Decl} {s s' : WState} (h : DeclsRun c kind ds s s') :
    Inv s.b → GoodP s.b s'.b [] := by
  induction h with
  | nil => exact fun _ => GoodP.refl _
  | init _ h1 _ h2 h3 _ ih =>
    exact fun hi => (((h1.good hi).same (visitLocalDeclaration_same h2)).same (visitLocalAssignment_straight h3).same).seq hi ih
  | uninit _ _ _ h2 _ ih => exact fun hi => (GoodP.of_same (visitLocalDeclaration_same h2)).seq hi ih

/-- the block every `case` condition ends in stays pending until `visit_switch_statement` closes it -/
theorem CondsRun.good {c : Ctx} {left : Operand} {cl : Clauses} {s s' : WState} {conds : List (Operand × Nat)}
    (h : CondsRun c left cl s conds s') : Inv s.b → GoodP s.b s'.b (conds.map (·.2)) := by
  induction h with
  | nil => exact fun _ => GoodP.refl _
  | default _ ih => exact ih
  | case h1 h2 _ ih =>
    intro hi
    have g2 := (h1.good hi).same (visitBinaryExpression_straight h2).same
    have g3 := g2.trans (GoodP.marked (g2.inv hi))
    simpa using g3.trans (ih (g3.inv hi))

/-- the claim of the induction over statements for a walk from `s` to `s'` that leaves the branch points `P` pending -/
def GoodFrom (bl : Option Nat) (s s' : WState) (P : List Nat) : Prop :=
  Inv s.b → (∀ l, bl = some l → l < len s.b) → GoodP s.b s'.b P

theorem GoodFrom.step {bl : Option Nat} {s s1 s' : WState} (h1 : GoodFrom bl s s1 []) (h2 : GoodFrom bl s1 s' []) :
    GoodFrom bl s s' [] :=
  fun hi hbl => (h1 hi hbl).seq hi fun hi1 => h2 hi1 fun l hl => Nat.lt_of_lt_of_le (hbl l hl) (h1 hi hbl).adv.mono

/-- a clause body, the branch point after it, then the other bodies -/
theorem GoodFrom.body {bl : Option Nat} {s s1 s' : WState} {others : List Nat} (h1 : GoodFrom bl s s1 [])
    (h2 : GoodFrom bl (marked { s1 with locals := s.locals }) s' others) : GoodFrom bl s s' (s1.b.currentRef :: others) := by
  intro hi hbl
  have g2 := (h1 hi hbl).trans (GoodP.marked ((h1 hi hbl).inv hi))
  simpa using g2.trans (h2 (g2.inv hi) fun l hl => Nat.lt_of_lt_of_le (hbl l hl) g2.adv.mono)

/-- the break target `bl`, if any, is an existing block (the exit block of the enclosing `switch`), so that the `br` which
    `break` installs is valid; every clause body ends in a branch point that stays pending until `visit_switch_statement`
    closes it -/
theorem StmtRun.good {c : Ctx} {bl : Option Nat} {st : Stmt} {s s' : WState} (h : StmtRun c bl st s s') :
    Inv s.b → (∀ l, bl = some l → l < len s.b) → GoodP s.b s'.b [] := by
  induction h using StmtRun.rec
    (motive_2 := fun bl _ s s' _ => GoodFrom bl s s' []) (motive_3 := fun bl _ s bodies s' _ => GoodFrom bl s s' bodies) with
  | expr h1 => exact fun hi _ => (h1.good hi).same (visitExpressionStatement_same _ _)
  | block _ ih => exact ih
  | lexical h1 => exact fun hi _ => h1.good hi
  | if_ h1 _ _ hb iha =>
    intro hi hbl
    have g2 := (h1.good hi).trans (GoodP.marked ((h1.good hi).inv hi))
    have g4 := g2.trans (iha (g2.inv hi) fun l hl => Nat.lt_of_lt_of_le (hbl l hl) g2.adv.mono)
    have g6 := g4.trans (GoodP.marked (g4.inv hi))
    exact g6.close (visitIfStatement_ctl (g6.pend _ (by simp)) (g6.pend _ (by simp)) (by simp) hb) (by simp)
  | ifElse h1 _ _ _ hb iha ihn =>
    intro hi hbl
    have g2 := (h1.good hi).trans (GoodP.marked ((h1.good hi).inv hi))
    have g4 := g2.trans (iha (g2.inv hi) fun l hl => Nat.lt_of_lt_of_le (hbl l hl) g2.adv.mono)
    have g6 := g4.trans (GoodP.marked (g4.inv hi))
    have g8 := g6.trans (ihn (g6.inv hi) fun l hl => Nat.lt_of_lt_of_le (hbl l hl) g6.adv.mono)
    have g10 := g8.trans (GoodP.marked (g8.inv hi))
    exact g10.close (visitIfStatement_ctl (g10.pend _ (by simp)) (g10.pend _ (by simp))
      (fun y hy => by cases hy; exact g10.pend _ (by simp)) hb) (by simp)
  | @switch bl v cl s left s1 conds s2 bodies s6 b' hmd h1 h2 _ hlen1 hlen2 hb ihb =>
    intro hi hbl
    have g2 := (h1.good hi).trans (h2.good ((h1.good hi).inv hi))
    have g3 := g2.trans (GoodP.marked (g2.inv hi))
    have g4 := g3.trans (GoodP.marked (g3.inv hi))
    have g6 := g4.trans (ihb (g4.inv hi) (by intro l hl; cases hl; exact Nat.lt_of_succ_lt (g4.pend _ (by simp))))
    have g6' : GoodP s.b s6.b (conds.map (·.2) ++ [s2.b.currentRef, (marked s2).b.currentRef] ++ bodies) := by simpa using g6
    have hc := visitSwitchStatement_ctl
      (fun x hx => g6'.pend x.2 (List.mem_append_left _ (List.mem_append_left _ (List.mem_map_of_mem hx))))
      (fun r hr' => g6'.pend r (List.mem_append_right _ hr'))
      (Nat.lt_of_succ_lt (g6'.pend _ (List.mem_append_left _ (List.mem_append_right _ (by simp)))))
      (g6'.pend _ (List.mem_append_left _ (List.mem_append_right _ (by simp)))) (default_count cl hmd hlen1 hlen2) hb
    exact g6'.close hc fun _ h => h
  | break_ => exact fun _ hbl => GoodP.of_jump (visitBreakStatement_adv _ _ (hbl _ rfl))
  | return_ h1 => exact fun hi _ => (h1.good hi).seq hi fun hi1 => GoodP.of_jump (visitReturnStatement_adv _ _ hi1.pos)
  | returnVoid => exact fun hi _ => GoodP.of_jump (visitReturnStatement_adv _ _ hi.pos)
  | stop => exact fun _ _ => GoodP.refl _
  | step _ _ _ ih1 ih2 => exact GoodFrom.step ih1 ih2
  | done => exact fun _ _ => GoodP.refl _
  | body _ _ ih1 ih2 => exact GoodFrom.body ih1 ih2

def StmtsGood (c : Ctx) (bl : Option Nat) (ss : List Stmt) : Prop :=
  ∀ s s', Inv s.b → (∀ l, bl = some l → l < len s.b) → run (walkStmts c bl ss) s = (some true, s') → GoodP s.b s'.b []

def BodiesGood (c : Ctx) (bl : Option Nat) (cl : List (Option Expr × List Stmt)) : Prop :=
  ∀ s s' bodies, Inv s.b → (∀ l, bl = some l → l < len s.b) → run (walkBodies c bl cl) s = (some bodies, s') →
    bodies.length = cl.length → GoodP s.b s'.b bodies

theorem StmtsRun.good {c : Ctx} {bl : Option Nat} {ss : List Stmt} {s s' : WState} (h : StmtsRun c bl ss s s') :
    Inv s.b → (∀ l, bl = some l → l < len s.b) → GoodP s.b s'.b [] :=
  h.induct (motive := fun _ s s' => GoodFrom bl s s' []) (fun _ _ _ => GoodP.refl _) fun h1 ih => GoodFrom.step h1.good ih

theorem good_stmts (c : Ctx) (bl : Option Nat) : (ss : List Stmt) → StmtsGood c bl ss :=
  fun _ _ _ hinv hbl h => (StmtsRun.of_run h).good hinv hbl

theorem good_bodies (c : Ctx) (bl : Option Nat) : (cl : List (Option Expr × List Stmt)) → BodiesGood c bl cl :=
  fun cl s s' bodies hinv hbl h hlen =>
    ((bodiesRun c bl cl s bodies s' h).2 hlen).induct (motive := fun _ s bodies s' => GoodFrom bl s s' bodies)
      (fun _ _ _ => GoodP.refl _) (fun h1 ih => GoodFrom.body h1.good ih) hinv hbl

theorem ParamsRun.good {c : Ctx} {ps : List (String × Option (List String))} {s s' : WState}
    (h : ParamsRun c ps s s') : Inv s.b → GoodP s.b s'.b [] := by
  induction h with
  | nil => exact fun _ => GoodP.refl _
  | param _ _ h1 _ ih => exact fun hi => (GoodP.of_same (visitFunctionParameter_same h1)).seq hi ih

theorem good_program (c : Ctx) (callback : Bool) (p : Program) (s s' : WState) (hinv : Inv s.b)
    (h : run (walkProgram c callback p) s = (some (), s')) : GoodP s.b s'.b [] := by
  cases programRun h with
  | stmt h1 => exact h1.good hinv (by simp)
  | function _ h1 h2 => exact (h1.good hinv).seq hinv fun hi => h2.good hi (by simp)

/-- `(…).run {}` is how `build` writes the call; it is `run (…) {}` by definition -/
theorem walk_result (c : Ctx) (callback : Bool) (p : Program) (st : WState)
    (h : (walkProgram c callback p).run {} = (some (), st)) :
    Inv st.b ∧ ∀ j, j + 1 < len st.b → Closed st.b j := by
  have g := good_program c callback p {} st inv_init h
  refine ⟨g.inv inv_init, fun j hj => ?_⟩
  rcases g.cov j (by simp [len]) hj with h | h
  · exact h
  · simp at h

end QV.Proofs.BuilderInv
