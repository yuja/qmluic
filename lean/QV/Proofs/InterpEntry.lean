/-
  tir/interpret.rs `evaluate_code` (QV.Model.evaluateCode): when is a body evaluated as a constant?
  The constant fast path looks at the entry block (`basic_blocks[0]`); otherwise the interpreter walks from the entry
  block and gives up at the first conditional branch and at the first assigned property read (an `exec` of a read is
  skipped like any other `exec`).  So a body whose entry block ends in a conditional branch, or assigns a property
  read, is never evaluated as a constant — whatever its other blocks (for instance the last one) end in.
-/
import QV.Model.Finalize

namespace QV.Proofs.InterpEntry
open QV.Model

/-- if the statement loop succeeds on `s :: rest`, it succeeds on `rest` from some table of locals -/
theorem evalStatements_cons (env : Env) (s : Statement) (rest : List Statement) (L L' : List (Option EvaluatedValue))
    (h : evalStatements env (s :: rest) L = some L') : ∃ L'', evalStatements env rest L'' = some L' := by
  cases s with
  | exec | observeProperty => exact ⟨L, h⟩
  | assign l r =>
    unfold evalStatements at h
    -- put the value of `v` in, so that `split` takes the match on it and not the one on `r` inside it
    dsimp only at h
    split at h
    · cases h
    · exact ⟨_, h⟩

/-- the statement loop stops (`return None`) at an assigned property read -/
theorem evalStatements_read (env : Env) (l : Nat) (a : Operand) (p : PropInfo) (rest : List Statement)
    (L : List (Option EvaluatedValue)) : evalStatements env (.assign l (.readProperty a p) :: rest) L = none := rfl

theorem evalStatements_no_read (env : Env) (stmts : List Statement) : ∀ (L L' : List (Option EvaluatedValue)),
    evalStatements env stmts L = some L' → ∀ l a p, Statement.assign l (.readProperty a p) ∉ stmts := by
  induction stmts with
  | nil => exact fun _ _ _ _ _ _ => List.not_mem_nil
  | cons s rest ih =>
    intro L L' h l a p hm
    rcases List.mem_cons.1 hm with rfl | hr
    · rw [evalStatements_read] at h
      cases h
    · obtain ⟨L'', h'⟩ := evalStatements_cons env s rest L L' h
      exact ih L'' L' h' l a p hr

/-- a walk that yields a constant went through the statements of the block it started at, and that block does not
    end in a conditional branch -/
theorem loop_entry {env : Env} {code : CodeBody} {fuel i : Nat} {visited : List Bool} {L : List (Option EvaluatedValue)}
    {b : BasicBlock} {v : EvaluatedValue} (hb : code.blocks[i]? = some b)
    (h : evaluateCode.loop env code fuel i visited L = .value (some v)) :
    (∀ c x y, b.terminator ≠ some (.brCond c x y)) ∧
      ∀ l a p, Statement.assign l (.readProperty a p) ∉ b.statements := by
  unfold evaluateCode.loop at h
  split at h
  · cases h
  · split at h
    · cases h
    · rw [hb] at h
      dsimp only at h
      split at h
      · cases h
      · rename_i hs
        refine ⟨fun c x y ht => ?_, evalStatements_no_read env _ _ _ hs⟩
        rw [ht] at h
        cases h

/-- **A body that is evaluated as a constant**: its entry block ends in the `return` of a constant (the fast path; the
    value is that constant), or the entry block neither ends in a conditional branch nor assigns a property read -/
theorem evaluated_constant_entry (env : Env) (code : CodeBody) (v : EvaluatedValue)
    (h : evaluateCode env code = .value (some v)) :
    ∃ b0, code.blocks[0]? = some b0 ∧
      ((∃ cv, b0.terminator = some (.ret (.const cv)) ∧ toEvaluatedValue env [] (.const cv) .noTr = some v) ∨
       ((∀ c x y, b0.terminator ≠ some (.brCond c x y)) ∧
        ∀ l a p, Statement.assign l (.readProperty a p) ∉ b0.statements)) := by
  unfold evaluateCode at h
  split at h
  · cases h
  · rename_i b0 hb
    refine ⟨b0, hb, ?_⟩
    split at h
    · cases h
    · rename_i cv ht
      injection h with h
      exact Or.inl ⟨cv, ht, h⟩
    · exact Or.inr (loop_entry hb h)

/-- **a body whose entry block branches on a condition is never evaluated as a constant** -/
theorem branching_entry_not_constant (env : Env) (code : CodeBody) (b0 : BasicBlock) (c : Operand) (x y : Nat)
    (hb : code.blocks[0]? = some b0) (ht : b0.terminator = some (.brCond c x y)) :
    ∀ v, evaluateCode env code ≠ .value (some v) := by
  intro v h
  obtain ⟨b, hb', hc⟩ := evaluated_constant_entry env code v h
  cases hb.symm.trans hb'
  rcases hc with ⟨cv, h1, _⟩ | ⟨h1, _⟩
  · cases ht.symm.trans h1
  · exact h1 c x y ht

/-- **a body whose entry block assigns a property read (and does not return a constant) is never evaluated as a
    constant** -/
theorem reading_entry_not_constant (env : Env) (code : CodeBody) (b0 : BasicBlock) (l : Nat) (a : Operand) (p : PropInfo)
    (hb : code.blocks[0]? = some b0) (hs : Statement.assign l (.readProperty a p) ∈ b0.statements)
    (hne : ∀ cv, b0.terminator ≠ some (.ret (.const cv))) :
    ∀ v, evaluateCode env code ≠ .value (some v) := by
  intro v h
  obtain ⟨b, hb', hc⟩ := evaluated_constant_entry env code v h
  cases hb.symm.trans hb'
  rcases hc with ⟨cv, h1, _⟩ | ⟨_, h2⟩
  · exact hne cv h1
  · exact h2 l a p hs

end QV.Proofs.InterpEntry
