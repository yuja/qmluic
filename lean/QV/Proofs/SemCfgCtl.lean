/-
  QV.Props.C01 — the control-flow cases of the CFG-level induction over the AST walk: `&&` / `||` and the ternary.
  Each case takes what the walks of the sub-expressions achieved (`CResult`) and shows the same for the compound
  expression.  The walks of the sub-expressions, each begun in a new block, are seen inside the builder the visitor
  leaves as `Piece`s (also used for the `if` statement): what the visitor appended to and how it terminated each exit block.
  What a control-flow visitor does is stated as a list of patched blocks (`Patched`); from it the pieces of a two-way
  construct and of one with an alternative come by `wiring2`, `wiring3`, whatever the visitor.
  At the end the single-block form of the induction for the fragment without control flow (`SemStraight.walk_straight`):
  such a walk only appends to the current block (`straight_grows`), and there the simulation is the execution of the
  appended statements (`sound_of_sim`).
-/
import QV.Proofs.SemCfgWalk

namespace QV.Proofs.SemCfgCtl
open QV.Model QV.Model.IrSem QV.Proofs.SemIr QV.Proofs.SemVisit QV.Proofs.SemWalk QV.Proofs.SemStraight QV.Proofs.SemCfg
open QV.Proofs.SemCfgWalk
open QV.Spec.Sem (Val World Host Ev Ty STy coerceTo binop unop staticTy)

theorem run_mark (s : WState) : markBranchPoint.run s = (some s.b.currentRef, { s with b := s.b.newBlock.2 }) := rfl

theorem open_len {b : Builder} {blk : BasicBlock} (ho : OpenAt b blk) : b.currentRef + 1 = b.code.blocks.length := by
  have hlt := lt_length_of_getElem? ho.1
  simp only [Builder.currentRef] at hlt ⊢
  omega

theorem newBlock_cur {b : Builder} {blk : BasicBlock} (ho : OpenAt b blk) : b.newBlock.2.currentRef = b.currentRef + 1 := by
  have := open_len ho
  simp only [Builder.newBlock, Builder.currentRef, List.length_append, List.length_singleton] at this ⊢
  omega

theorem newBlock_get (b : Builder) (i : Nat) (hi : i < b.code.blocks.length) :
    b.newBlock.2.code.blocks[i]? = b.code.blocks[i]? := by
  simp [Builder.newBlock, List.getElem?_append_left hi]

theorem newBlock_last (b : Builder) : b.newBlock.2.code.blocks[b.code.blocks.length]? = some {} := by
  simp [Builder.newBlock]

theorem newBlock_open {b : Builder} {blk : BasicBlock} (ho : OpenAt b blk) : OpenAt b.newBlock.2 {} := by
  refine ⟨?_, rfl⟩
  rw [newBlock_cur ho, open_len ho]
  exact newBlock_last b

theorem newBlock_keeps {b : Builder} {blk : BasicBlock} (ho : OpenAt b blk) :
    b.newBlock.2.code.blocks[b.currentRef]? = some blk :=
  (newBlock_get b _ (lt_length_of_getElem? ho.1)).trans ho.1

theorem newBlock_ext {b : Builder} {blk : BasicBlock} (ho : OpenAt b blk) : Ext b b.newBlock.2 :=
  ⟨rfl, ⟨[], by simp [Builder.newBlock]⟩, rfl, by simp [Builder.newBlock],
    fun i hi => newBlock_get b i (Nat.lt_trans hi (lt_length_of_getElem? ho.1)),
    blk, blk, ho.1, ho.2, newBlock_keeps ho, [], by simp⟩

theorem Ext.lt_of_newBlock {b b' : Builder} {blk : BasicBlock} (ho : OpenAt b blk) (h : Ext b.newBlock.2 b') :
    b.currentRef < b'.currentRef := by
  have := h.cur_le
  rw [newBlock_cur ho] at this
  exact this

theorem currentRef_of_length {b b' : Builder} (h : b'.code.blocks.length = b.code.blocks.length) :
    b'.currentRef = b.currentRef := by
  simp only [Builder.currentRef, h]

/-- the bound of a diamond that ends at block `e + 1`: the condition fragment from block `a` to `b`, its branch, one arm
    from block `b + 1` to `c ≤ e`, its jump to the join -/
theorem fuel_arm {a b c e d1 d2 : Nat} (h1 : d1 ≤ b - a) (hab : a ≤ b) (h2 : d2 ≤ c - (b + 1)) (hbc : b < c)
    (hce : c ≤ e) : d1 + (1 + (d2 + 1)) ≤ e + 1 - a := by
  omega

/-- the same when the branch goes to the join directly -/
theorem fuel_short {a b e d : Nat} (h : d ≤ b - a) (hab : a ≤ b) (hbe : b ≤ e) : d + 1 ≤ e + 1 - a := by
  omega

/-- `bF` contains the walk that ended in `b1`: `b1`'s blocks from `lo` up to its exit block as they were (`lo`: 0 for the
    first sub-walk of a visitor, else the sub-walk's entry block; the visitor rewires blocks before it), the exit block —
    open in `b1` — with the statements `ss` appended and terminator `t` (`none`: still open), and more blocks behind it.
    The control-flow visitors turn a `none` into a `some`, the expression visitors also append the store into the sink. -/
structure Piece (lo : Nat) (b1 bF : Builder) (ss : List Statement) (t : Option Terminator) : Prop where
  panic : bF.panic = b1.panic
  params : bF.code.parameterCount = b1.code.parameterCount
  locals : ∃ tys, bF.code.locals = b1.code.locals ++ tys
  lt : b1.currentRef < bF.currentRef
  below : ∀ i, lo ≤ i → i < b1.currentRef → bF.code.blocks[i]? = b1.code.blocks[i]?
  exit : ∃ blk, OpenAt b1 blk ∧
    bF.code.blocks[b1.currentRef]? = some { blk with statements := blk.statements ++ ss, terminator := t }

section Piece
variable {lo lo' : Nat} {b0 b1 bF : Builder} {ss : List Statement} {t : Terminator} {ot : Option Terminator} {C : CodeBody}

theorem Piece.exit_eq {blk : BasicBlock} (p : Piece lo b1 bF ss ot) (ho : OpenAt b1 blk) :
    bF.code.blocks[b1.currentRef]? = some { blk with statements := blk.statements ++ ss, terminator := ot } := by
  obtain ⟨blk', ho', hx⟩ := p.exit
  have h := ho'.1
  rw [ho.1] at h
  rw [hx, Option.some.inj h]

theorem Piece.exit_open {blk : BasicBlock} (p : Piece lo b1 bF [] none) (ho : OpenAt b1 blk) :
    bF.code.blocks[b1.currentRef]? = some blk := by
  rw [p.exit_eq ho, List.append_nil, ← ho.2]

theorem Piece.newBlock {b : Builder} {blk : BasicBlock} (lo : Nat) (ho : OpenAt b blk) : Piece lo b b.newBlock.2 [] none := by
  have hlt := lt_length_of_getElem? ho.1
  refine ⟨rfl, rfl, ⟨[], (List.append_nil _).symm⟩, by rw [newBlock_cur ho]; exact Nat.lt_succ_self _,
    fun i _ hi => newBlock_get b i (Nat.lt_trans hi hlt), blk, ho, ?_⟩
  rw [newBlock_keeps ho, List.append_nil, ← ho.2]

theorem Piece.mono {bM bN : Builder} (p : Piece lo b1 bM ss ot) (e : Ext bM bN) : Piece lo b1 bN ss ot := by
  obtain ⟨t1, h1⟩ := p.locals
  obtain ⟨t2, h2⟩ := e.locals
  obtain ⟨blk, ho, hx⟩ := p.exit
  exact ⟨e.panic.trans p.panic, e.params.trans p.params, ⟨t1 ++ t2, by rw [h2, h1, List.append_assoc]⟩,
    Nat.lt_of_lt_of_le p.lt e.cur_le,
    fun i hlo hi => by rw [e.below i (Nat.lt_trans hi p.lt)]; exact p.below i hlo hi,
    blk, ho, by rw [e.below _ p.lt]; exact hx⟩

theorem Piece.toExt (p : Piece 0 b1 bF ss ot) : Ext b1 bF := by
  obtain ⟨blk, ho, hx⟩ := p.exit
  refine ⟨p.panic, p.locals, p.params, ?_, fun i hi => p.below i (Nat.zero_le _) hi, blk, _, ho.1, ho.2, hx, ss, rfl⟩
  have := p.lt
  simp only [Builder.currentRef] at this
  omega

theorem Piece.covers (p : Piece lo' b1 bF ss ot) (h : Covers C bF lo) (h1 : lo' ≤ lo) (h2 : lo ≤ b1.currentRef) :
    Covers C b1 lo := by
  obtain ⟨blk, ho, hx⟩ := p.exit
  obtain ⟨tys, ht⟩ := p.locals
  exact h.trans ⟨⟨tys, ht.symm⟩, fun i hi hi2 => p.below i (Nat.le_trans h1 hi) hi2,
    blk, _, ho.1, hx, List.prefix_append _ _⟩ h2 (Nat.le_of_lt p.lt)

theorem Piece.exitAt {blk : BasicBlock} (p : Piece lo' b1 bF ss ot) (ho : OpenAt b1 blk) (h : Covers C bF lo)
    (h1 : lo ≤ b1.currentRef) :
    C.blocks[b1.currentRef]? = some { blk with statements := blk.statements ++ ss, terminator := ot } := by
  rw [h.closed _ h1 p.lt]
  exact p.exit_eq ho

theorem Piece.run_br {j : Nat} (p : Piece lo' b1 bF [] (some (.br j))) (h : Covers C bF lo) (h1 : lo ≤ b1.currentRef)
    (ic : ICtx) (st : State) (fuel : Nat) :
    runAt ic C (fuel + 1) b1.currentRef (curLen b1) st = runAt ic C fuel j 0 st := by
  obtain ⟨blk, ho, _⟩ := p.exit
  exact runAt_br ic C fuel _ _ j _ st (p.exitAt ho h h1)
    (by rw [curLen_of_open ho]; exact Nat.le_of_eq (congrArg List.length (List.append_nil _))) rfl

theorem Piece.run_brCond {cnd : Operand} {jt jf : Nat} (p : Piece lo' b1 bF [] (some (.brCond cnd jt jf)))
    (h : Covers C bF lo) (h1 : lo ≤ b1.currentRef) (ic : ICtx) (st : State) (x : Bool)
    (hx : evalOperand ic st.L cnd = some (.bool x)) (fuel : Nat) :
    runAt ic C (fuel + 1) b1.currentRef (curLen b1) st = runAt ic C fuel (bif x then jt else jf) 0 st := by
  obtain ⟨blk, ho, _⟩ := p.exit
  rw [runAt_brCond ic C fuel _ _ jt jf _ cnd st x (p.exitAt ho h h1)
    (by rw [curLen_of_open ho]; exact Nat.le_of_eq (congrArg List.length (List.append_nil _))) rfl hx]
  cases x <;> rfl

theorem Piece.run_ret {a : Operand} (p : Piece lo' b1 bF [] (some (.ret a))) (h : Covers C bF lo) (h1 : lo ≤ b1.currentRef)
    (ic : ICtx) (st : State) (fuel : Nat) :
    runAt ic C fuel b1.currentRef (curLen b1) st = (evalOperand ic st.L a).map fun v => (v, st) := by
  obtain ⟨blk, ho, _⟩ := p.exit
  exact runAt_ret ic C fuel _ _ _ a st (p.exitAt ho h h1)
    (by rw [curLen_of_open ho]; exact Nat.le_of_eq (congrArg List.length (List.append_nil _))) rfl

theorem Piece.run_store_br {j n : Nat} {src : Operand} (p : Piece lo' b1 bF [.assign n (.copy src)] (some (.br j)))
    (h : Covers C bF lo) (h1 : lo ≤ b1.currentRef) (ic : ICtx) {ty : TypeKind} (hn : C.locals[n]? = some ty)
    (st : State) (v v' : Val) (hv : evalOperand ic st.L src = some v) (hc : coerceTo (styOf ty).ty v = some v') :
    Reaches ic C 1 b1.currentRef (curLen b1) st j 0 { st with L := upd st.L n v' } := by
  obtain ⟨blk, ho, _⟩ := p.exit
  have hb := p.exitAt ho h h1
  rw [curLen_of_open ho]
  intro fuel
  rw [runAt_stmts ic C (fuel + 1) _ _ _ _ st _ hb ⟨[], by rw [List.drop_left, List.append_nil]⟩
    (exec_store ic C.locals n src ty st v v' hn hv hc)]
  exact runAt_br ic C fuel _ _ j _ _ hb (by rw [List.length_append]; exact Nat.le_refl _) rfl

theorem Piece.run_store_brCond {jt jf n : Nat} {src cnd : Operand}
    (p : Piece lo' b1 bF [.assign n (.copy src)] (some (.brCond cnd jt jf))) (h : Covers C bF lo)
    (h1 : lo ≤ b1.currentRef) (ic : ICtx) {ty : TypeKind} (hn : C.locals[n]? = some ty) (st : State) (v v' : Val)
    (x : Bool) (hv : evalOperand ic st.L src = some v) (hc : coerceTo (styOf ty).ty v = some v')
    (hx : evalOperand ic (upd st.L n v') cnd = some (.bool x)) :
    Reaches ic C 1 b1.currentRef (curLen b1) st (if x then jt else jf) 0 { st with L := upd st.L n v' } := by
  obtain ⟨blk, ho, _⟩ := p.exit
  have hb := p.exitAt ho h h1
  rw [curLen_of_open ho]
  intro fuel
  rw [runAt_stmts ic C (fuel + 1) _ _ _ _ st _ hb ⟨[], by rw [List.drop_left, List.append_nil]⟩
    (exec_store ic C.locals n src ty st v v' hn hv hc)]
  exact runAt_brCond ic C fuel _ _ jt jf _ cnd _ x hb (by rw [List.length_append]; exact Nat.le_refl _) rfl hx

theorem Piece.sealed (p : Piece lo' b1 bF ss (some t)) (w : Walked b0 b1) (hlo : lo' ≤ b0.currentRef)
    (ht : ∀ j, t = .br j → j ≤ bF.currentRef) : Sealed bF.code bF.currentRef b0.currentRef (b1.currentRef + 1) := by
  obtain ⟨blk, ho, hx⟩ := p.exit
  obtain ⟨tys, hl⟩ := p.locals
  exact (w.sealed ⟨⟨tys, hl.symm⟩, fun i h1 h2 => p.below i (Nat.le_trans hlo h1) h2, blk, _, ho.1, hx,
    List.prefix_append _ _⟩ (Nat.le_of_lt p.lt)).append (Sealed.one hx rfl ht)

theorem Piece.walked (p : Piece 0 b1 bF ss (some t)) (w : Walked b0 b1) (ht : ∀ j, t = .br j → j ≤ bF.currentRef)
    (o : ∃ blk, OpenAt bF blk) (c : Sealed bF.code bF.currentRef (b1.currentRef + 1) bF.currentRef) : Walked b0 bF :=
  Walked.of_sealed (w.toExt.trans p.toExt) ((p.sealed w (Nat.zero_le _) ht).append c) o

end Piece

theorem forall_mem₂ {α} {p : α → Prop} {x y : α} (hx : p x) (hy : p y) : ∀ q ∈ [x, y], p q :=
  List.forall_mem_cons.mpr ⟨hx, List.forall_mem_cons.mpr ⟨hy, fun _ h => nomatch h⟩⟩

theorem forall_mem₃ {α} {p : α → Prop} {x y z : α} (hx : p x) (hy : p y) (hz : p z) : ∀ q ∈ [x, y, z], p q :=
  List.forall_mem_cons.mpr ⟨hx, forall_mem₂ hy hz⟩

/-- a block as a control-flow visitor leaves it: its label, the block as it was, the statements appended, the terminator -/
abbrev BlockPatch := Nat × BasicBlock × List Statement × Terminator

def BlockPatch.block (p : BlockPatch) : BasicBlock :=
  { p.2.1 with statements := p.2.1.statements ++ p.2.2.1, terminator := some p.2.2.2 }

def setAll (l : List BasicBlock) (ps : List BlockPatch) : List BasicBlock := ps.foldl (fun l p => l.set p.1 p.block) l

theorem length_setAll (ps : List BlockPatch) : ∀ l : List BasicBlock, (setAll l ps).length = l.length := by
  induction ps with
  | nil => exact fun _ => rfl
  | cons q qs ih => exact fun l => (ih _).trans (List.length_set ..)

theorem setAll_other (ps : List BlockPatch) :
    ∀ (l : List BasicBlock) (i : Nat), (∀ p ∈ ps, p.1 ≠ i) → (setAll l ps)[i]? = l[i]? := by
  induction ps with
  | nil => exact fun _ _ _ => rfl
  | cons q qs ih =>
    intro l i h
    exact (ih _ i fun p hp => h p (List.mem_cons_of_mem _ hp)).trans
      (List.getElem?_set_ne (h q (List.mem_cons_self ..)))

theorem setAll_at (ps : List BlockPatch) : ∀ l : List BasicBlock, ps.Pairwise (fun p q => p.1 ≠ q.1) →
    (∀ p ∈ ps, l[p.1]? = some p.2.1) → ∀ p ∈ ps, (setAll l ps)[p.1]? = some p.block := by
  induction ps with
  | nil => exact fun _ _ _ _ hp => nomatch hp
  | cons q qs ih =>
    intro l hd ho p hp
    obtain ⟨hq, hqs⟩ := List.pairwise_cons.mp hd
    rcases List.mem_cons.mp hp with rfl | hp'
    · exact (setAll_other qs _ _ fun a ha => (hq a ha).symm).trans
        (getElem?_set_self' _ _ _ _ (ho p (List.mem_cons_self ..)))
    · exact ih _ hqs (fun a ha => (List.getElem?_set_ne (hq a ha)).trans (ho a (List.mem_cons_of_mem _ ha))) p hp'

/-- `bF` is `bN` after a control-flow visitor: the locals `tys` more, and the blocks `ps` — open in `bN`, at different
    labels — with statements appended and terminated; nothing else changed -/
structure Patched (bN bF : Builder) (tys : List TypeKind) (ps : List BlockPatch) : Prop where
  panic : bF.panic = bN.panic
  params : bF.code.parameterCount = bN.code.parameterCount
  locals : bF.code.locals = bN.code.locals ++ tys
  len : bF.code.blocks.length = bN.code.blocks.length
  other : ∀ i, (∀ p ∈ ps, p.1 ≠ i) → bF.code.blocks[i]? = bN.code.blocks[i]?
  at_ : ∀ p ∈ ps, bF.code.blocks[p.1]? = some p.block

theorem Patched.of_eq {bN bF : Builder} {ps : List BlockPatch} {tys : List TypeKind}
    (h : bF = { bN with code := { bN.code with locals := bN.code.locals ++ tys, blocks := setAll bN.code.blocks ps } })
    (hd : ps.Pairwise fun p q => p.1 ≠ q.1) (ho : ∀ p ∈ ps, bN.code.blocks[p.1]? = some p.2.1) :
    Patched bN bF tys ps := by
  subst h
  exact ⟨rfl, rfl, rfl, length_setAll ps _, setAll_other ps _, setAll_at ps _ hd ho⟩

/-- a finished walk inside the builder a visitor was called on, seen in the builder the visitor leaves -/
theorem Piece.patch {lo : Nat} {b1 bJ bF : Builder} {blk : BasicBlock} {ss : List Statement} {t : Terminator}
    {tys : List TypeKind} {ps : List BlockPatch} (p : Piece lo b1 bJ [] none) (ho : OpenAt b1 blk)
    (hP : Patched bJ bF tys ps)
    (hm : (b1.currentRef, blk, ss, t) ∈ ps) (hsame : ∀ i, lo ≤ i → i < b1.currentRef → ∀ q ∈ ps, q.1 ≠ i) :
    Piece lo b1 bF ss (some t) := by
  obtain ⟨t1, h1⟩ := p.locals
  exact ⟨hP.panic.trans p.panic, hP.params.trans p.params, ⟨t1 ++ tys, by rw [hP.locals, h1, List.append_assoc]⟩,
    by rw [currentRef_of_length hP.len]; exact p.lt,
    fun i hlo hi => by rw [hP.other i (hsame i hlo hi)]; exact p.below i hlo hi, blk, ho, hP.at_ _ hm⟩

/-- the CFG of a two-way construct without alternative (`&&`, `||`, `if` without `else`): the walk to `b1`, whose exit
    block the visitor terminates by `tC`, then from a new block the walk to `b2`, whose exit block jumps to the new
    current block.  `hV` is the visitor's own lemma: told that the builder it is called on still holds the exit blocks, at
    labels in this order, it answers what it patches (`Patched`) and `Q`, whatever else the caller wants to know of the
    visitor (the result operand and the sink; `True` for `if`) -/
theorem wiring2 {Q : Prop} {b1 b2 bF : Builder} {blkC blkA : BasicBlock} {ssC ssA : List Statement} {tC : Terminator}
    {tys : List TypeKind}
    (hoC : OpenAt b1 blkC) (w2 : Walked b1.newBlock.2 b2) (hoA : OpenAt b2 blkA)
    (hV : b2.newBlock.2.code.blocks[b1.currentRef]? = some blkC → b2.newBlock.2.code.blocks[b2.currentRef]? = some blkA →
      b1.currentRef < b2.currentRef → Q ∧ Patched b2.newBlock.2 bF tys
        [(b1.currentRef, blkC, ssC, tC), (b2.currentRef, blkA, ssA, .br (b2.currentRef + 1))]) :
    Q ∧ Piece 0 b1 bF ssC (some tC) ∧ Piece b1.newBlock.2.currentRef b2 bF ssA (some (.br bF.currentRef)) ∧
    OpenAt bF {} ∧ bF.currentRef = b2.currentRef + 1 ∧
    Sealed bF.code bF.currentRef (b1.currentRef + 1) bF.currentRef := by
  have k1 : Piece 0 b1 b2.newBlock.2 [] none := ((Piece.newBlock 0 hoC).mono w2.toExt).mono (newBlock_ext hoA)
  have k2 : Piece b1.newBlock.2.currentRef b2 b2.newBlock.2 [] none := Piece.newBlock _ hoA
  have h1 : b1.currentRef < b1.newBlock.2.currentRef := (Piece.newBlock 0 hoC).lt
  have hca : b1.currentRef < b2.currentRef := Nat.lt_of_lt_of_le h1 w2.cur_le
  obtain ⟨hQ, hP⟩ := hV (k1.exit_open hoC) (k2.exit_open hoA) hca
  have hcur : bF.currentRef = b2.currentRef + 1 := (currentRef_of_length hP.len).trans (newBlock_cur hoA)
  have p1 : Piece 0 b1 bF ssC (some tC) := k1.patch hoC hP (List.mem_cons_self ..) fun i _ hi =>
    forall_mem₂ (Nat.ne_of_gt hi) (Nat.ne_of_gt (Nat.lt_trans hi hca))
  have p2 : Piece b1.newBlock.2.currentRef b2 bF ssA (some (.br (b2.currentRef + 1))) :=
    k2.patch hoA hP (List.mem_cons_of_mem _ (List.mem_cons_self ..)) fun i hlo hi =>
      forall_mem₂ (Nat.ne_of_lt (Nat.lt_of_lt_of_le h1 hlo)) (Nat.ne_of_gt hi)
  rw [← hcur] at p2
  have c := p2.sealed w2 (Nat.le_refl _) (fun j hj => by injection hj with hj; exact Nat.le_of_eq hj.symm)
  rw [newBlock_cur hoC, ← hcur] at c
  refine ⟨hQ, p1, p2, ⟨?_, rfl⟩, hcur, c⟩
  rw [hcur, ← newBlock_cur hoA, hP.other _ (forall_mem₂ (Nat.ne_of_lt (Nat.lt_trans hca k2.lt)) (Nat.ne_of_lt k2.lt))]
  exact (newBlock_open hoA).1

/-- the same with an alternative (`?:`, `if`-`else`): a third walk to `b3` from a new block; both arms jump to the new
    current block -/
theorem wiring3 {Q : Prop} {b1 b2 b3 bF : Builder} {blkC blkA blkB : BasicBlock} {ssC ssA ssB : List Statement}
    {tC : Terminator} {tys : List TypeKind} (hoC : OpenAt b1 blkC) (w2 : Walked b1.newBlock.2 b2) (hoA : OpenAt b2 blkA)
    (w3 : Walked b2.newBlock.2 b3) (hoB : OpenAt b3 blkB)
    (hV : b3.newBlock.2.code.blocks[b1.currentRef]? = some blkC → b3.newBlock.2.code.blocks[b2.currentRef]? = some blkA →
      b3.newBlock.2.code.blocks[b3.currentRef]? = some blkB → b1.currentRef < b2.currentRef → b2.currentRef < b3.currentRef →
      Q ∧ Patched b3.newBlock.2 bF tys
        [(b1.currentRef, blkC, ssC, tC), (b2.currentRef, blkA, ssA, .br (b3.currentRef + 1)),
          (b3.currentRef, blkB, ssB, .br (b3.currentRef + 1))]) :
    Q ∧ Piece 0 b1 bF ssC (some tC) ∧ Piece b1.newBlock.2.currentRef b2 bF ssA (some (.br bF.currentRef)) ∧
    Piece b2.newBlock.2.currentRef b3 bF ssB (some (.br bF.currentRef)) ∧
    OpenAt bF {} ∧ bF.currentRef = b3.currentRef + 1 ∧
    Sealed bF.code bF.currentRef (b1.currentRef + 1) bF.currentRef := by
  -- the three walks as the builder the visitor is called on holds them
  have k1 : Piece 0 b1 b3.newBlock.2 [] none :=
    ((((Piece.newBlock 0 hoC).mono w2.toExt).mono (newBlock_ext hoA)).mono w3.toExt).mono (newBlock_ext hoB)
  have k2 : Piece b1.newBlock.2.currentRef b2 b3.newBlock.2 [] none :=
    ((Piece.newBlock _ hoA).mono w3.toExt).mono (newBlock_ext hoB)
  have k3 : Piece b2.newBlock.2.currentRef b3 b3.newBlock.2 [] none := Piece.newBlock _ hoB
  have h1 : b1.currentRef < b1.newBlock.2.currentRef := (Piece.newBlock 0 hoC).lt
  have h2 : b2.currentRef < b2.newBlock.2.currentRef := (Piece.newBlock 0 hoA).lt
  have hca : b1.currentRef < b2.currentRef := Nat.lt_of_lt_of_le h1 w2.cur_le
  have hab : b2.currentRef < b3.currentRef := Nat.lt_of_lt_of_le h2 w3.cur_le
  have hcb : b1.currentRef < b3.currentRef := Nat.lt_trans hca hab
  obtain ⟨hQ, hP⟩ := hV (k1.exit_open hoC) (k2.exit_open hoA) (k3.exit_open hoB) hca hab
  have hcur : bF.currentRef = b3.currentRef + 1 := (currentRef_of_length hP.len).trans (newBlock_cur hoB)
  -- the blocks of each walk other than its exit block are none of the three: below `c`, between `c` and `a`, between
  -- `a` and `b`
  have p1 : Piece 0 b1 bF ssC (some tC) := k1.patch hoC hP (List.mem_cons_self ..) fun i _ hi =>
    forall_mem₃ (Nat.ne_of_gt hi) (Nat.ne_of_gt (Nat.lt_trans hi hca)) (Nat.ne_of_gt (Nat.lt_trans hi hcb))
  have p2 : Piece b1.newBlock.2.currentRef b2 bF ssA (some (.br (b3.currentRef + 1))) :=
    k2.patch hoA hP (List.mem_cons_of_mem _ (List.mem_cons_self ..)) fun i hlo hi =>
      forall_mem₃ (Nat.ne_of_lt (Nat.lt_of_lt_of_le h1 hlo)) (Nat.ne_of_gt hi) (Nat.ne_of_gt (Nat.lt_trans hi hab))
  have p3 : Piece b2.newBlock.2.currentRef b3 bF ssB (some (.br (b3.currentRef + 1))) :=
    k3.patch hoB hP (List.mem_cons_of_mem _ (List.mem_cons_of_mem _ (List.mem_cons_self ..))) fun i hlo hi =>
      forall_mem₃ (Nat.ne_of_lt (Nat.lt_trans hca (Nat.lt_of_lt_of_le h2 hlo))) (Nat.ne_of_lt (Nat.lt_of_lt_of_le h2 hlo))
        (Nat.ne_of_gt hi)
  rw [← hcur] at p2 p3
  have hbr : ∀ j, Terminator.br bF.currentRef = .br j → j ≤ bF.currentRef :=
    fun j hj => by injection hj with hj; exact Nat.le_of_eq hj.symm
  have c2 := p2.sealed w2 (Nat.le_refl _) hbr
  have c3 := p3.sealed w3 (Nat.le_refl _) hbr
  rw [newBlock_cur hoC] at c2
  rw [newBlock_cur hoA] at c3
  have c := c2.append c3
  rw [← hcur] at c
  refine ⟨hQ, p1, p2, p3, ⟨?_, rfl⟩, hcur, c⟩
  rw [hcur, ← newBlock_cur hoB, hP.other _ (forall_mem₃ (Nat.ne_of_lt (Nat.lt_trans hcb k3.lt))
    (Nat.ne_of_lt (Nat.lt_trans hab k3.lt)) (Nat.ne_of_lt k3.lt))]
  exact (newBlock_open hoB).1

/-- the value that decides `&&` / `||` without the right operand; also the initial value of the sink -/
def logicInit : LogicOp → Bool
  | .and => false
  | .or => true

theorem spec_logical (c : QV.Spec.Sem.Ctx) (tok : BinaryToken) (lop : LogicOp) (l r : Expr) (s s' : QV.Spec.Sem.St) (v : Val)
    (htok : tok.toOp = some (.logical lop))
    (h : QV.Spec.Sem.evalExpr c (.binary tok l r) s = some (v, s')) :
    ∃ xl s1, QV.Spec.Sem.evalExpr c l s = some (.bool xl, s1) ∧
      ((xl = logicInit lop ∧ v = .bool xl ∧ s' = s1) ∨
       (xl ≠ logicInit lop ∧ ∃ xr, QV.Spec.Sem.evalExpr c r s1 = some (.bool xr, s') ∧ v = .bool xr)) := by
  rw [QV.Spec.Sem.evalExpr.eq_def] at h
  simp only [htok] at h
  -- `&&` and `||` are the same table with `false` and `true` exchanged: each row once for either
  cases lop <;> simp only at h <;> split at h
  case h_1 s1 h1 | h_1 s1 h1 =>
    injection h with h; injection h with hv hs
    exact ⟨_, s1, h1, Or.inl ⟨rfl, hv.symm, hs.symm⟩⟩
  case h_2 s1 h1 | h_2 s1 h1 =>
    split at h
    · rename_i xr s2 h2
      injection h with h; injection h with hv hs
      subst hs
      exact ⟨_, s1, h1, Or.inr ⟨by simp [logicInit], xr, h2, hv.symm⟩⟩
    · cases h
  case h_3 | h_3 => cases h

/-- `visit_binary_logical_expression` on two open blocks: the sink is a new `bool` local; the left block initialises it
    and branches on the left operand, the right block stores the right operand and jumps behind itself -/
theorem visitLogical_patched (b : Builder) (op : LogicOp) (left right : Operand) (lRef rRef : Nat) (bl br_ : BasicBlock)
    (hl : b.code.blocks[lRef]? = some bl) (hlt : bl.terminator = none)
    (hr : b.code.blocks[rRef]? = some br_) (hrt : br_.terminator = none) (hlr : lRef < rRef)
    (htl : left.typeDesc = .bool) (htr : right.typeDesc = .bool) (x : Operand) (bF : Builder)
    (h : visitBinaryLogicalExpression b op left lRef right rRef = (x, bF)) :
    (x = .local b.code.locals.length .bool ∧ bF.code.locals = b.code.locals ++ [.bool]) ∧
    Patched b bF [.bool]
      [(lRef, bl, [.assign b.code.locals.length (.copy (.const (.bool (logicInit op))))],
          .brCond left (if logicInit op then rRef + 1 else lRef + 1) (if logicInit op then lRef + 1 else rRef + 1)),
        (rRef, br_, [.assign b.code.locals.length (.copy right)], .br (rRef + 1))] := by
  rw [visitLogical_shape b op left right lRef rRef bl br_ hl hlt hr hrt (Nat.ne_of_lt hlr) htl htr] at h
  obtain ⟨rfl, rfl⟩ := Prod.mk.inj h
  refine ⟨⟨rfl, rfl⟩, Patched.of_eq (tys := [.bool]) (by cases op <;> rfl) ?_ ?_⟩
  · exact List.pairwise_pair.mpr (Nat.ne_of_lt hlr)
  · exact forall_mem₂ hl hr

theorem logic_target (lop : LogicOp) (xl : Bool) (l r : Nat) :
    (if xl then (if logicInit lop then r else l) else (if logicInit lop then l else r)) =
      if xl = logicInit lop then r else l := by
  cases lop <;> cases xl <;> rfl

/-- the CFG of `l && r` / `l || r`: the exit block of `l` initialises the sink and branches on `l` to the entry block of
    `r` or to the new current block, the exit block of `r` stores `r` in the sink and jumps there -/
theorem visitLogical_wiring (b1 b2 bF : Builder) (blkL blkR : BasicBlock) (op : LogicOp) (left right x : Operand)
    (hoL : OpenAt b1 blkL) (w2 : Walked b1.newBlock.2 b2) (hoR : OpenAt b2 blkR)
    (htl : left.typeDesc = .bool) (htr : right.typeDesc = .bool)
    (hF : visitBinaryLogicalExpression b2.newBlock.2 op left b1.currentRef right b2.currentRef = (x, bF)) :
    x = .local b2.code.locals.length .bool ∧ bF.code.locals = b2.code.locals ++ [.bool] ∧
    Piece 0 b1 bF [.assign b2.code.locals.length (.copy (.const (.bool (logicInit op))))]
      (some (.brCond left (if logicInit op then bF.currentRef else b1.newBlock.2.currentRef)
        (if logicInit op then b1.newBlock.2.currentRef else bF.currentRef))) ∧
    Piece b1.newBlock.2.currentRef b2 bF [.assign b2.code.locals.length (.copy right)] (some (.br bF.currentRef)) ∧
    OpenAt bF {} ∧ bF.currentRef = b2.currentRef + 1 ∧
    Sealed bF.code bF.currentRef (b1.currentRef + 1) bF.currentRef := by
  obtain ⟨⟨hx, hloc⟩, p1, p2, hoF, hcur, c⟩ := wiring2 hoL w2 hoR fun hl hr hlr =>
    visitLogical_patched b2.newBlock.2 op left right _ _ blkL blkR hl hoL.2 hr hoR.2 hlr htl htr x bF hF
  rw [← newBlock_cur hoL, ← hcur] at p1
  exact ⟨hx, hloc, p1, p2, hoF, hcur, c⟩

theorem cfg_logical (wc : Ctx) (sc : QV.Spec.Sem.Ctx) (ic : ICtx) (wl : QV.Model.Locals) (vars : List QV.Spec.Sem.Var)
    (tok : BinaryToken) (lop : LogicOp) (l r : Expr) (htok : tok.toOp = some (.logical lop))
    (ihl : WalkOk wc sc ic wl vars l) (ihr : WalkOk wc sc ic wl vars r) : WalkOk wc sc ic wl vars (.binary tok l r) := by
  intro s s' x h hl hvr ho
  cases rvalRun h with | mk h1 h2 _ =>
  cases h1 with
  | binary _ _ htok' hlog => exact absurd (Option.some.inj (htok'.symm.trans htok)) (hlog lop)
  | @logical _ _ _ _ left s1 right s2 lo _ bF hl' hr' htok' htl htr hvis =>
  cases htok.symm.trans htok'
  cases h2
  have hw1 := hl'.run_eq
  have hw2 := hr'.run_eq
  have r1 := ihl s s1 left hw1 hl hvr ho
  have w1 : Walked s.b s1.b := r1.walked
  obtain ⟨blkL, hoL⟩ := w1.exitOpen
  have r2 := ihr { s1 with b := s1.b.newBlock.2 } s2 right hw2 r1.locals (hvr.mono w1.locals) ⟨{}, newBlock_open hoL⟩
  have w2 : Walked s1.b.newBlock.2 s2.b := r2.walked
  obtain ⟨blkR, hoR⟩ := w2.exitOpen
  obtain ⟨rfl, f4, p1, p2, hoF, hcF, cF⟩ :=
    visitLogical_wiring s1.b s2.b bF blkL blkR lop left right x hoL w2 hoR htl htr hvis
  have hwalked : Walked s.b bF := p1.walked w1 nofun ⟨_, hoF⟩ cF
  have h01 : s.b.currentRef ≤ s1.b.currentRef := w1.cur_le
  have h12 : s1.b.currentRef < s2.b.currentRef := Ext.lt_of_newBlock hoL w2.toExt
  have hcm : s1.b.newBlock.2.currentRef = s1.b.currentRef + 1 := newBlock_cur hoL
  have hn01 : s.b.code.locals.length ≤ s1.b.code.locals.length := w1.locals_le
  have hn12 : s1.b.code.locals.length ≤ s2.b.code.locals.length := w2.locals_le
  refine ⟨r2.locals, hwalked, OperandOk.fresh f4,
    ⟨QV.Spec.Sem.sBool, by rw [sty_binary]; simp only [htok], Or.inr ⟨.bool, rfl, rfl, rfl⟩⟩, ?_, local_nv (by decide)⟩
  show Sim sc ic wl vars _ s.b bF _
  intro C hC st sst sst' v hvars hw hnc hval hspec
  rw [curLen_of_open hoF]
  obtain ⟨xl, sa, hsl, hcase⟩ := spec_logical sc tok lop l r sst sst' v htok hspec
  have hCn : C.locals[s2.b.code.locals.length]? = some .bool := prefix_getElem? hC.locals _ _ (by rw [f4]; simp)
  obtain ⟨rfl, d1, st1, hd1, hrun1, hv1, hp1, hw1', ht1, _⟩ :=
    r1.sim C (p1.covers hC (Nat.zero_le _) h01) st sst sa (.bool xl) hvars hw hnc hval hsl
  have hxl : evalOperand ic (upd st1.L s2.b.code.locals.length (.bool (logicInit lop))) left = some (.bool xl) :=
    (evalOperand_agree ic st1.L _ _ left r1.ok
      (fun m hm => upd_other _ _ _ _ (Nat.ne_of_lt (Nat.lt_of_lt_of_le hm hn12)))).trans hv1
  -- the LEFT block: the sink is initialised, then the left operand decides
  have stepL := p1.run_store_brCond hC h01 ic hCn st1 (.bool (logicInit lop)) (.bool (logicInit lop)) xl rfl rfl hxl
  rw [logic_target] at stepL
  rcases hcase with ⟨hxi, rfl, rfl⟩ | ⟨hxi, xr, hsr, rfl⟩
  · rw [if_pos hxi] at stepL
    exact ⟨rfl, d1 + 1, _, hcF ▸ fuel_short hd1 h01 (Nat.le_of_lt h12), Reaches.trans hrun1 stepL,
      by rw [hxi]; exact upd_same _ _ _, upd_frame hp1 (Nat.le_trans hn01 hn12), hw1', ht1, fun _ => rfl⟩
  · rw [if_neg hxi] at stepL
    have hn02 : s.b.code.locals.length ≤ s2.b.code.locals.length := Nat.le_trans hn01 hn12
    have hCr : Covers C s2.b s1.b.newBlock.2.currentRef :=
      p2.covers (hC.mono (Nat.le_trans h01 (Nat.le_of_lt (Piece.newBlock 0 hoL).lt))) (Nat.le_refl _) w2.cur_le
    obtain ⟨rfl, d2, st2, hd2, hrun2, hv2, hp2, hw2', ht2, _⟩ :=
      r2.sim C hCr { st1 with L := upd st1.L s2.b.code.locals.length (.bool (logicInit lop)) } sa sst' (.bool xr) hvars
        (hw.trans hw1'.symm) (fun x q u hu => hnc x q u (hw1' ▸ hu)) (hval.mono hvr (upd_frame hp1 hn02)) hsr
    -- the right operand starts at the head of a new block
    rw [curLen_of_open (newBlock_open hoL)] at hrun2
    rw [hcm] at hd2
    have stepR := p2.run_store_br hC (Nat.le_trans h01 (Nat.le_of_lt h12)) ic hCn st2 (.bool xr) (.bool xr) hv2 rfl
    have hfuel := fuel_arm hd1 h01 hd2 h12 (Nat.le_refl _)
    exact ⟨rfl, d1 + (1 + (d2 + 1)), _, hcF ▸ hfuel,
      Reaches.trans hrun1 (Reaches.trans stepL (Reaches.trans hrun2 stepR)), upd_same _ _ _,
      upd_frame (frame_trans (upd_frame hp1 hn02) hp2 hn01) hn02, hw2'.trans hw1', ht2.trans ht1, fun _ => rfl⟩

/-- `visit_ternary_expression` on three open blocks: the sink is a new local of the common type; the condition block
    branches, each arm's block stores its value and jumps behind the last -/
theorem visitTernary_patched (env : Env) (b : Builder) (cond cons alt : Operand) (cRef aRef bRef : Nat)
    (blkC blkA blkB : BasicBlock) (ty : TypeKind)
    (hC : b.code.blocks[cRef]? = some blkC) (hCt : blkC.terminator = none)
    (hA : b.code.blocks[aRef]? = some blkA) (hAt : blkA.terminator = none)
    (hB : b.code.blocks[bRef]? = some blkB) (hBt : blkB.terminator = none)
    (hca : cRef < aRef) (hab : aRef < bRef)
    (hea : ensureConcreteString cons = cons) (heb : ensureConcreteString alt = alt)
    (hded : deduceConcrete env "ternary" cons.typeDesc alt.typeDesc = .ok ty) (hty : ty ≠ .void)
    (x : Operand) (bF : Builder) (h : visitTernaryExpression env b cond cRef cons aRef alt bRef = .ok (x, bF)) :
    (x = .local b.code.locals.length ty ∧ bF.code.locals = b.code.locals ++ [ty]) ∧
    Patched b bF [ty]
      [(cRef, blkC, [], .brCond cond (cRef + 1) (aRef + 1)),
        (aRef, blkA, [.assign b.code.locals.length (.copy cons)], .br (bRef + 1)),
        (bRef, blkB, [.assign b.code.locals.length (.copy alt)], .br (bRef + 1))] := by
  have hcb : cRef < bRef := Nat.lt_trans hca hab
  simp only [visitTernaryExpression, hea, heb, hded, Builder.alloca, hty, ne_eq, not_false_eq_true, ↓reduceIte,
    Option.getD_some] at h
  rw [finalizeAt_open { b with code := { b.code with locals := b.code.locals ++ [ty] } } cRef blkC _ hC hCt,
    push_finalize_open _ aRef blkA _ _ ((List.getElem?_set_ne (Nat.ne_of_lt hca)).trans hA) hAt,
    push_finalize_open _ bRef blkB _ _ ((List.getElem?_set_ne (Nat.ne_of_lt hab)).trans
      ((List.getElem?_set_ne (Nat.ne_of_lt hcb)).trans hB)) hBt] at h
  obtain ⟨rfl, rfl⟩ := Prod.mk.inj (Except.ok.inj h)
  refine ⟨⟨rfl, rfl⟩, Patched.of_eq (tys := [ty]) ?_ ?_ ?_⟩
  · simp only [setAll, List.foldl, BlockPatch.block, List.append_nil]
  · exact List.pairwise_cons.mpr
      ⟨forall_mem₂ (Nat.ne_of_lt hca) (Nat.ne_of_lt hcb), List.pairwise_pair.mpr (Nat.ne_of_lt hab)⟩
  · exact forall_mem₃ hC hA hB

/-- the common type of the two branches of a ternary, against the reference semantics' `(x.unify y).concrete` -/
theorem deduce_tyrel_ternary (env : Env) (l r : Operand) (x y : STy) (k : TypeKind)
    (h : deduceConcreteType env l.typeDesc r.typeDesc = .ok k) (hx : TyRel l x) (hy : TyRel r y)
    (nvl : l.typeDesc ≠ .concrete .void) (nvr : r.typeDesc ≠ .concrete .void) :
    (x.unify y).concrete.ty = (styOf k).ty ∧ k ≠ .void := by
  by_cases hdyn : l.typeDesc ≠ .constInteger ∨ r.typeDesc ≠ .constInteger
  · obtain ⟨⟨_, ht⟩, hk⟩ := deduce_tyrel_side env l r x y k h hx hy hdyn
    refine ⟨ht, ?_⟩
    rintro rfl
    exact hk.elim nvl nvr
  · have hl : l.typeDesc = .constInteger := Classical.byContradiction fun h' => hdyn (.inl h')
    have hr : r.typeDesc = .constInteger := Classical.byContradiction fun h' => hdyn (.inr h')
    rw [hl, hr] at h
    simp [deduceConcreteType, deduceType, toConcreteType] at h
    subst h
    rcases hx with ⟨_, hxc, hxt⟩ | ⟨kl, hlk, _, _⟩
    · rcases hy with ⟨_, hyc, _⟩ | ⟨kr, hrk, _, _⟩
      · refine ⟨?_, by decide⟩
        simp [STy.unify, STy.concrete, hxc, hyc, hxt]
        rfl
      · rw [hr] at hrk; cases hrk
    · rw [hl] at hlk; cases hlk

theorem coerceTo_not_cint {t : Ty} {v v' : Val} (h : coerceTo t v = some v') : isCint v' = false := by
  unfold coerceTo at h
  split at h
  · -- an untyped constant becomes a `uint` if it fits, an `int` otherwise
    split at h
    · split at h
      · cases h; rfl
      · cases h
    · exact mkInt_not_cint h
  · rename_i hv
    cases h
    cases v with
    | cint k => exact absurd rfl (hv k)
    | _ => rfl

theorem spec_ternary (c : QV.Spec.Sem.Ctx) (cnd a b : Expr) (s s' : QV.Spec.Sem.St) (v : Val)
    (h : QV.Spec.Sem.evalExpr c (.ternary cnd a b) s = some (v, s')) :
    ∃ t xc s1 v0, staticTy c s.vars (.ternary cnd a b) = some t ∧
      QV.Spec.Sem.evalExpr c cnd s = some (.bool xc, s1) ∧
      QV.Spec.Sem.evalExpr c (if xc then a else b) s1 = some (v0, s') ∧ coerceTo t.ty v0 = some v := by
  rw [QV.Spec.Sem.evalExpr.eq_def] at h
  simp only at h
  split at h
  -- the two arms differ in the branch only, which `hc` and `hv` name
  case h_1 t s1 ht hc | h_2 t s1 ht hc =>
    obtain ⟨⟨v0, s2⟩, hv, h⟩ := Option.bind_eq_some_iff.mp h
    obtain ⟨v1, hco, heq⟩ := Option.map_eq_some_iff.mp h
    cases heq
    exact ⟨t, _, s1, v0, ht, hc, hv, hco⟩
  case h_3 => cases h

/-- the CFG of `c ? a : b`: the exit block of `c` branches to the entry blocks of `a` and `b`, whose exit blocks store
    their value in the sink and jump to the new current block -/
theorem visitTernary_wiring (env : Env) (b1 b2 b3 bF : Builder) (blkC blkA blkB : BasicBlock) (cop aop bop x : Operand)
    (k : TypeKind) (hoC : OpenAt b1 blkC) (w2 : Walked b1.newBlock.2 b2) (hoA : OpenAt b2 blkA)
    (w3 : Walked b2.newBlock.2 b3) (hoB : OpenAt b3 blkB)
    (hea : ensureConcreteString aop = aop) (heb : ensureConcreteString bop = bop)
    (hded : deduceConcrete env "ternary" aop.typeDesc bop.typeDesc = .ok k) (hk : k ≠ .void)
    (hF : visitTernaryExpression env b3.newBlock.2 cop b1.currentRef aop b2.currentRef bop b3.currentRef = .ok (x, bF)) :
    x = .local b3.code.locals.length k ∧ bF.code.locals = b3.code.locals ++ [k] ∧
    Piece 0 b1 bF [] (some (.brCond cop b1.newBlock.2.currentRef b2.newBlock.2.currentRef)) ∧
    Piece b1.newBlock.2.currentRef b2 bF [.assign b3.code.locals.length (.copy aop)] (some (.br bF.currentRef)) ∧
    Piece b2.newBlock.2.currentRef b3 bF [.assign b3.code.locals.length (.copy bop)] (some (.br bF.currentRef)) ∧
    OpenAt bF {} ∧ bF.currentRef = b3.currentRef + 1 ∧
    Sealed bF.code bF.currentRef (b1.currentRef + 1) bF.currentRef := by
  obtain ⟨⟨hx, hloc⟩, p1, p2, p3, hoF, hcur, c⟩ := wiring3 hoC w2 hoA w3 hoB fun hC hA hB hca hab =>
    visitTernary_patched env b3.newBlock.2 cop aop bop _ _ _ blkC blkA blkB k hC hoC.2 hA hoA.2 hB hoB.2 hca hab hea heb
      hded hk x bF hF
  rw [← newBlock_cur hoC, ← newBlock_cur hoA] at p1
  exact ⟨hx, hloc, p1, p2, p3, hoF, hcur, c⟩

theorem cfg_ternary (wc : Ctx) (sc : QV.Spec.Sem.Ctx) (ic : ICtx) (wl : QV.Model.Locals) (vars : List QV.Spec.Sem.Var)
    (cnd a b : Expr) (ihc : WalkOk wc sc ic wl vars cnd) (iha : WalkOk wc sc ic wl vars a)
    (ihb : WalkOk wc sc ic wl vars b)
    -- the reference semantics takes the static type over the RUN-TIME variable stack, the walk's result over `vars`:
    -- same shape, and the arms' types depend on the shape only
    (hsa : ∀ vars', shapeOf vars' = shapeOf vars → staticTy sc vars' a = staticTy sc vars a)
    (hsb : ∀ vars', shapeOf vars' = shapeOf vars → staticTy sc vars' b = staticTy sc vars b) :
    WalkOk wc sc ic wl vars (.ternary cnd a b) := by
  intro s s' x h hl hvr ho
  cases rvalRun h with | mk h1 h2 _ =>
  cases h1 with | @ternary _ _ _ _ cop s1 aop s2 bop s3 _ bF hc ha hb htc hvis =>
  cases h2
  have hw1 := hc.run_eq
  have hw2 := ha.run_eq
  have hw3 := hb.run_eq
  have r1 := ihc s s1 cop hw1 hl hvr ho
  have w1 : Walked s.b s1.b := r1.walked
  obtain ⟨blkC, hoC⟩ := w1.exitOpen
  have hvr1 : VarRel s1.b.newBlock.2.code.locals wl vars := hvr.mono w1.locals
  have r2 := iha { s1 with b := s1.b.newBlock.2 } s2 aop hw2 r1.locals hvr1 ⟨{}, newBlock_open hoC⟩
  have w2 : Walked s1.b.newBlock.2 s2.b := r2.walked
  obtain ⟨blkA, hoA⟩ := w2.exitOpen
  have r3 := ihb { s2 with b := s2.b.newBlock.2 } s3 bop hw3 r2.locals (hvr1.mono w2.locals) ⟨{}, newBlock_open hoA⟩
  have w3 : Walked s2.b.newBlock.2 s3.b := r3.walked
  obtain ⟨blkB, hoB⟩ := w3.exitOpen
  -- the common type
  obtain ⟨tx, hstx, htyx⟩ := r2.ty
  obtain ⟨ty_, hsty, htyy⟩ := r3.ty
  have hea := ensure_ok r2.ok
  have heb := ensure_ok r3.ok
  cases hded : deduceConcrete wc.env "ternary" aop.typeDesc bop.typeDesc with
  | error e => simp [visitTernaryExpression, hea, heb, hded] at hvis
  | ok k =>
    obtain ⟨hkt, hknv⟩ := deduce_tyrel_ternary wc.env aop bop tx ty_ k (deduceConcrete_ok hded) htyx htyy r2.nv r3.nv
    obtain ⟨rfl, f4, p1, p2, p3, hoF, hcF, cF⟩ := visitTernary_wiring wc.env s1.b s2.b s3.b bF blkC blkA blkB cop aop bop x
      k hoC w2 hoA w3 hoB hea heb hded hknv hvis
    have hwalked : Walked s.b bF := p1.walked w1 nofun ⟨_, hoF⟩ cF
    have hcm1 : s1.b.newBlock.2.currentRef = s1.b.currentRef + 1 := newBlock_cur hoC
    have hcm2 : s2.b.newBlock.2.currentRef = s2.b.currentRef + 1 := newBlock_cur hoA
    have h12 : s1.b.currentRef < s2.b.currentRef := Ext.lt_of_newBlock hoC w2.toExt
    have h23 : s2.b.currentRef < s3.b.currentRef := Ext.lt_of_newBlock hoA w3.toExt
    have hn01 : s.b.code.locals.length ≤ s1.b.code.locals.length := w1.locals_le
    have hn12 : s1.b.code.locals.length ≤ s2.b.code.locals.length := w2.locals_le
    have hn23 : s2.b.code.locals.length ≤ s3.b.code.locals.length := w3.locals_le
    have hn03 : s.b.code.locals.length ≤ s3.b.code.locals.length := Nat.le_trans hn01 (Nat.le_trans hn12 hn23)
    have hsty_t : staticTy sc vars (.ternary cnd a b) = some (tx.unify ty_).concrete := by
      rw [sty_ternary, hstx, hsty]
    refine ⟨r3.locals, hwalked, OperandOk.fresh f4, ⟨_, hsty_t, Or.inr ⟨k, rfl, rfl, hkt⟩⟩, ?_, local_nv hknv⟩
    show Sim sc ic wl vars _ s.b bF _
    intro C hC st sst sst' v hvars hw hnc hval hspec
    rw [curLen_of_open hoF]
    obtain ⟨t, xc, sa, v0, hst, hsc, hsv, hco⟩ := spec_ternary sc cnd a b sst sst' v hspec
    rw [sty_ternary, hsa _ hvars, hsb _ hvars, ← sty_ternary, hsty_t] at hst
    injection hst with hst
    subst hst
    rw [hkt] at hco
    have hCn : C.locals[s3.b.code.locals.length]? = some k := prefix_getElem? hC.locals _ _ (by rw [f4]; simp)
    have hvnc : isCint v = false := coerceTo_not_cint hco
    have h01 : s.b.currentRef ≤ s1.b.currentRef := w1.cur_le
    obtain ⟨rfl, d1, st1, hd1, hrun1, hv1, hp1, hw1', ht1, _⟩ :=
      r1.sim C (p1.covers hC (Nat.zero_le _) h01) st sst sa (.bool xc) hvars hw hnc hval hsc
    -- the CONDITION block branches to the head of one arm
    have stepC : Reaches ic C 1 s1.b.currentRef (curLen s1.b) st1
        (bif xc then s1.b.newBlock.2.currentRef else s2.b.newBlock.2.currentRef) 0 st1 :=
      p1.run_brCond hC h01 ic st1 xc hv1
    cases xc with
    | true =>
      have hCa : Covers C s2.b s1.b.newBlock.2.currentRef :=
        p2.covers (hC.mono (Nat.le_trans h01 (Nat.le_of_lt (Piece.newBlock 0 hoC).lt))) (Nat.le_refl _) w2.cur_le
      obtain ⟨rfl, d2, st2, hd2, hrun2, hv2, hp2, hw2', ht2, _⟩ :=
        r2.sim C hCa st1 sa sst' v0 hvars (hw.trans hw1'.symm) (fun x q u hu => hnc x q u (hw1' ▸ hu)) (hval.mono hvr hp1) hsv
      -- the arm starts at the head of a new block
      rw [curLen_of_open (newBlock_open hoC)] at hrun2
      rw [hcm1] at hd2
      have stepA := p2.run_store_br hC (Nat.le_trans h01 (Nat.le_of_lt h12)) ic hCn st2 v0 v hv2 hco
      have hfuel := fuel_arm hd1 h01 hd2 h12 (Nat.le_of_lt h23)
      exact ⟨rfl, d1 + (1 + (d2 + 1)), _, hcF ▸ hfuel,
        Reaches.trans hrun1 (Reaches.trans stepC (Reaches.trans hrun2 stepA)), upd_same _ _ _,
        upd_frame (frame_trans hp1 hp2 hn01) hn03, hw2'.trans hw1', ht2.trans ht1, fun _ => hvnc⟩
    | false =>
      have h02 : s.b.currentRef ≤ s2.b.currentRef := Nat.le_trans h01 (Nat.le_of_lt h12)
      have hCb : Covers C s3.b s2.b.newBlock.2.currentRef :=
        p3.covers (hC.mono (Nat.le_trans h02 (Nat.le_of_lt (Piece.newBlock 0 hoA).lt))) (Nat.le_refl _) w3.cur_le
      obtain ⟨rfl, d3, st3, hd3, hrun3, hv3, hp3, hw3', ht3, _⟩ :=
        r3.sim C hCb st1 sa sst' v0 hvars (hw.trans hw1'.symm) (fun x q u hu => hnc x q u (hw1' ▸ hu)) (hval.mono hvr hp1) hsv
      rw [curLen_of_open (newBlock_open hoA)] at hrun3
      rw [hcm2] at hd3
      have stepB := p3.run_store_br hC (Nat.le_trans h02 (Nat.le_of_lt h23)) ic hCn st3 v0 v hv3 hco
      -- the condition fragment ends before this arm begins
      have hfuel := fuel_arm (Nat.le_trans hd1 (Nat.sub_le_sub_right (Nat.le_of_lt h12) _)) h02 hd3 h23 (Nat.le_refl _)
      exact ⟨rfl, d1 + (1 + (d3 + 1)), _, hcF ▸ hfuel,
        Reaches.trans hrun1 (Reaches.trans stepC (Reaches.trans hrun3 stepB)), upd_same _ _ _,
        upd_frame (frame_trans hp1 hp3 (Nat.le_trans hn01 hn12)) hn03, hw3'.trans hw1', ht3.trans ht1, fun _ => hvnc⟩

/-- the expression fragment of the CFG-level induction, relative to the names `scope` of the variables in scope:
    the straight-line fragment, reads of variables in scope, closed under `&&`, `||` and `?:`; the object id of a
    property read must not be shadowed by a variable -/
inductive CfgFrag (wc : Ctx) (scope : List String) : Expr → Prop
  | int (v : Nat) : CfgFrag wc scope (.integer v)
  | bool (b : Bool) : CfgFrag wc scope (.bool b)
  | var (x : String) : x ∈ scope → CfgFrag wc scope (.ident x)
  | read (o p cls : String) (ci : ClassInfo) (pinfo : PropInfo) :
      wc.objects.find? (·.1 = o) = some (o, cls) → wc.env.findClass cls = some ci →
      ci.props.find? (·.name = p) = some pinfo → pinfo.ty ≠ .void → o ∉ scope → CfgFrag wc scope (.member (.ident o) p)
  | unary (tok : UnaryToken) (a : Expr) : CfgFrag wc scope a → CfgFrag wc scope (.unary tok a)
  | binary (tok : BinaryToken) (op : BinaryOp) (l r : Expr) : tok.toOp = some op → (∀ lop, op ≠ .logical lop) →
      CfgFrag wc scope l → CfgFrag wc scope r → CfgFrag wc scope (.binary tok l r)
  | logical (tok : BinaryToken) (lop : LogicOp) (l r : Expr) : tok.toOp = some (.logical lop) →
      CfgFrag wc scope l → CfgFrag wc scope r → CfgFrag wc scope (.binary tok l r)
  | ternary (c a b : Expr) : CfgFrag wc scope c → CfgFrag wc scope a → CfgFrag wc scope b →
      CfgFrag wc scope (.ternary c a b)

/-- every arithmetic and every comparison operator is admitted (`tokOfArith`, `tokOfCmp` name the operator's token) -/
theorem CfgFrag.arith {wc : Ctx} {scope : List String} (o : ArithOp) {l r : Expr} (hl : CfgFrag wc scope l)
    (hr : CfgFrag wc scope r) : CfgFrag wc scope (.binary (QV.Spec.Sem.tokOfArith o) l r) :=
  .binary _ (.arith o) l r (QV.Proofs.SemFold.tokOf_toOp (.arith o)) nofun hl hr

theorem CfgFrag.cmp {wc : Ctx} {scope : List String} (o : CmpOp) {l r : Expr} (hl : CfgFrag wc scope l)
    (hr : CfgFrag wc scope r) : CfgFrag wc scope (.binary (QV.Spec.Sem.tokOfCmp o) l r) :=
  .binary _ (.cmp o) l r (QV.Proofs.SemFold.tokOf_toOp (.cmp o)) nofun hl hr

theorem straight_cfgFrag {wc : Ctx} {e : Expr} (h : Straight wc e) : CfgFrag wc [] e := by
  induction h with
  | int v => exact .int v
  | bool b => exact .bool b
  | read o p cls ci pinfo h1 h2 h3 h5 => exact .read o p cls ci pinfo h1 h2 h3 h5 (by simp)
  | unary tok a _ ih => exact .unary tok a ih
  | binary tok op l r htok hlog _ _ ihl ihr => exact .binary tok op l r htok hlog ihl ihr

/-- the static type of an expression of the fragment depends on the variables' names and types only -/
theorem sty_shape (wc : Ctx) (sc : QV.Spec.Sem.Ctx) (scope : List String) (vars vars' : List QV.Spec.Sem.Var)
    (hsh : shapeOf vars' = shapeOf vars) (e : Expr) (hf : CfgFrag wc scope e) :
    staticTy sc vars' e = staticTy sc vars e := by
  have hvt : ∀ x, QV.Spec.Sem.varTy vars' x = QV.Spec.Sem.varTy vars x := by
    intro x
    have := find?_shape hsh x
    simp only [QV.Spec.Sem.varTy]
    cases h1 : vars'.find? (·.name = x) <;> cases h2 : vars.find? (·.name = x) <;> simp_all
  induction hf with
  | int v => rfl
  | bool v => rfl
  | var x _ => rw [sty_ident, sty_ident, hvt]
  | read o p cls ci pinfo _ _ _ _ _ => rw [sty_member_ident, sty_member_ident, sty_ident, sty_ident, hvt]
  | unary tok a _ ih => rw [sty_unary, sty_unary, ih]
  | binary tok op l r _ _ _ _ ihl ihr => rw [sty_binary, sty_binary, ihl, ihr]
  | logical tok lop l r _ _ _ ihl ihr => rw [sty_binary, sty_binary, ihl, ihr]
  | ternary c a b _ _ _ _ iha ihb => rw [sty_ternary, sty_ternary, iha, ihb]

/-- `scope` lists exactly the names the walk's name map binds -/
def ScopeOf (scope : List String) (wl : QV.Model.Locals) : Prop := ∀ x, x ∈ scope ↔ (wl.get? x).isSome = true

theorem ScopeOf.nil : ScopeOf [] [] := by
  intro x; simp [QV.Model.Locals.get?]

theorem scopeOf_get {scope : List String} {wl : QV.Model.Locals} {x : String} (h : ScopeOf scope wl) (hx : x ∈ scope) :
    ∃ n k, wl.get? x = some (n, k) := by
  have := (h x).mp hx
  cases hg : wl.get? x with
  | none => rw [hg] at this; cases this
  | some nk => exact ⟨nk.1, nk.2, rfl⟩

/-- the induction over the AST walk at CFG level: `WalkOk`, hence `CResult`, for every expression of the fragment -/
theorem walk_cfg (wc : Ctx) (sc : QV.Spec.Sem.Ctx) (ic : ICtx) (hag : Agree wc sc ic)
    (scope : List String) (wl : QV.Model.Locals) (vars : List QV.Spec.Sem.Var) (hsc : ScopeOf scope wl)
    (e : Expr) (hf : CfgFrag wc scope e) : WalkOk wc sc ic wl vars e := by
  induction hf with
  | int v => exact cfg_int wc sc ic wl vars v
  | bool v => exact cfg_bool wc sc ic wl vars v
  | var x hx =>
    obtain ⟨n, k, hg⟩ := scopeOf_get hsc hx
    exact cfg_var wc sc ic wl vars x n k hg
  | read o p cls ci pinfo h1 h2 h3 h5 hno =>
    have hnone : wl.get? o = none := by
      cases hg : wl.get? o with
      | none => rfl
      | some nk => exact absurd ((hsc o).mpr (by rw [hg]; rfl)) hno
    exact cfg_read wc sc ic hag wl vars o p cls ci pinfo h1 h2 h3 h5 hnone
  | unary tok a _ ih => exact cfg_unary wc sc ic hag wl vars tok a ih
  | binary tok op l r htok hlog _ _ ihl ihr => exact cfg_binary wc sc ic hag wl vars tok op l r htok hlog ihl ihr
  | logical tok lop l r htok _ _ ihl ihr => exact cfg_logical wc sc ic wl vars tok lop l r htok ihl ihr
  | ternary c a b _ ha hb ihc iha ihb =>
    exact cfg_ternary wc sc ic wl vars c a b ihc iha ihb (fun vars' h => sty_shape wc sc scope vars vars' h a ha)
      (fun vars' h => sty_shape wc sc scope vars vars' h b hb)

end QV.Proofs.SemCfgCtl

namespace QV.Proofs.SemStraight
open QV.Model QV.Model.IrSem QV.Proofs.SemIr QV.Proofs.SemVisit QV.Proofs.SemWalk QV.Proofs.SemCfg
open QV.Proofs.SemCfgWalk QV.Proofs.SemCfgCtl
open QV.Spec.Sem (Val)

/-- a walk of the straight-line fragment opens no block: it only appends to the current one -/
theorem straight_grows (wc : Ctx) (e : Expr) (hs : Straight wc e) :
    ∀ s s' op, (walkRvalue wc e).run s = (some op, s') → s.locals = [] → (∃ blk, OpenAt s.b blk) →
      s'.locals = [] ∧ ∃ ss, Grows s.b ss s'.b := by
  induction hs with
  | int v =>
    intro s s' op h hl ⟨blk, ho⟩
    rw [(run_integer wc v s s' op h).2.1]
    exact ⟨hl, [], Grows.refl s.b blk ho⟩
  | bool v =>
    intro s s' op h hl ⟨blk, ho⟩
    rw [run_bool] at h
    cases h
    exact ⟨hl, [], Grows.refl s.b blk ho⟩
  | read o p cls ci pinfo h1 h2 h3 h5 =>
    intro s s' op h hl ⟨blk, ho⟩
    rw [(run_read wc o p cls ci pinfo s s' op (by rw [hl]; rfl) h1 h2 h3 h).2]
    exact ⟨hl, _, (grows_emit s.b blk pinfo.ty _ h5 ho).2.1⟩
  | unary tok a _ ih =>
    intro s s' x h hl ho
    obtain ⟨arg, s1, u, b, hw, _, hv, rfl⟩ := run_unary_some h
    obtain ⟨hl1, ss1, hg1⟩ := ih s s1 arg hw hl ho
    refine ⟨hl1, ?_⟩
    by_cases hc : ∃ c, arg = .const c
    · obtain ⟨c, rfl⟩ := hc
      rw [(QV.Proofs.SemFold.visitUnary_const hv).1]
      exact ⟨ss1, hg1⟩
    · rw [QV.Proofs.TypingConst.visitUnary_dynamic _ _ _ _ hc] at hv
      obtain ⟨blk1, ho1⟩ := hg1.open
      obtain ⟨ty', hty', _, hshape⟩ := emitUnary_ty s1.b u arg x b hv
      exact ⟨_, hg1.trans (emit_step hty' ho1 hshape).2.1⟩
  | binary tok op l r htok hlog _ _ ihl ihr =>
    intro s s' x h hl ho
    obtain ⟨left, s1, right, s2, b, hw1, hw2, hv, rfl⟩ := run_binary_some htok hlog h
    obtain ⟨hl1, ss1, hg1⟩ := ihl s s1 left hw1 hl ho
    obtain ⟨hl2, ss2, hg2⟩ := ihr s1 s2 right hw2 hl1 hg1.open
    refine ⟨hl2, ?_⟩
    by_cases hc : (∃ cl, left = .const cl) ∧ ∃ cr, right = .const cr
    · obtain ⟨⟨cl, rfl⟩, cr, rfl⟩ := hc
      rw [(QV.Proofs.TypingConst.visitBinary_const_ok hlog hv).1]
      exact ⟨_, hg1.trans hg2⟩
    · rw [QV.Proofs.TypingConst.visitBinary_dynamic _ _ _ _ _ _ hc] at hv
      obtain ⟨blk2, ho2⟩ := hg2.open
      obtain ⟨ty', hty', hshape, _⟩ := emitBinary_ty wc.env s2.b op left right x b hlog hv
      exact ⟨_, (hg1.trans hg2).trans (emit_step hty' ho2 hshape).2.1⟩

/-- within one block the simulation is the execution of the appended statements: seen over the final code that has the
    locals `LL` and closes the block with `return` -/
theorem sound_of_sim {sc : QV.Spec.Sem.Ctx} {ic : ICtx} {e : Expr} {b b' : Builder} {ss : List Statement} {op : Operand}
    (hg : Grows b ss b') (hsim : Sim sc ic [] [] e b b' op) :
    Sound sc ic e b.code.locals.length ss op b'.code.locals := by
  intro LL hLL st sst sst' v hvars hw hnc hspec
  obtain ⟨blk, hb, ht, hbl⟩ := hg.blocks
  have hcur := hg.currentRef
  have hb' : b'.code.blocks[b.currentRef]? = some { blk with statements := blk.statements ++ ss } := by
    rw [hbl]; exact getElem?_set_self' _ _ _ _ hb
  have hlen : curLen b = blk.statements.length := curLen_of_open ⟨hb, ht⟩
  have hlen' : curLen b' = (blk.statements ++ ss).length := by simp only [curLen, hcur, hb']
  obtain ⟨blkF, hblkF⟩ : ∃ blkF : BasicBlock,
      blkF = { blk with statements := blk.statements ++ ss, terminator := some (.ret .void) } := ⟨_, rfl⟩
  obtain ⟨C, hCl, hCb⟩ : ∃ C : CodeBody, C.locals = LL ∧ C.blocks = b'.code.blocks.set b.currentRef blkF :=
    ⟨{ b'.code with locals := LL, blocks := b'.code.blocks.set b.currentRef blkF }, rfl, rfl⟩
  have hF : C.blocks[b.currentRef]? = some blkF := by rw [hCb]; exact getElem?_set_self' _ _ _ _ hb'
  have hC : Covers C b' b.currentRef := by
    refine ⟨hCl ▸ hLL, fun i h1 h2 => absurd h2 (by rw [hcur]; exact Nat.not_lt.mpr h1),
      { blk with statements := blk.statements ++ ss }, blkF, ?_, ?_, ?_⟩
    · rw [hcur]; exact hb'
    · rw [hcur]; exact hF
    · rw [hblkF]; exact List.prefix_refl _
  obtain ⟨rfl, d, st', hd, hrun, hv, hp, hw', ht', hnc'⟩ :=
    hsim C hC st sst sst' v (by rw [hvars]) hw hnc (ValRel.nil _ _) hspec
  have hd0 : d = 0 := by rw [hcur, Nat.sub_self] at hd; exact Nat.le_zero.mp hd
  subst hd0
  have h0 := hrun 0
  rw [hcur, runAt_ret ic C 0 _ _ blkF .void st' hF (by rw [hlen', hblkF]; exact Nat.le_refl _) (by rw [hblkF]), hlen] at h0
  simp only [runAt, hF, hblkF, List.drop_left, afterBlock, evalOperand, Option.map_some, hCl] at h0
  refine ⟨rfl, st', ?_, hv, hp, hw', ht', hnc'⟩
  cases hex : execStatements ic LL ss st with
  | none => rw [hex] at h0; cases h0
  | some st1 =>
    rw [hex] at h0
    simp only [Option.some.injEq, Prod.mk.injEq, true_and] at h0
    rw [h0]

/-- for every expression built from integer and bool literals, reads `o.p` of object ids, unary and non-logical binary
    operators, a successful walk from any builder state with an open current block and no variables in scope only
    appends statements and fresh locals (`Grows`), and executing those statements in ANY state yields the reference
    value in the returned operand (`Result`) -/
theorem walk_straight (wc : Ctx) (sc : QV.Spec.Sem.Ctx) (ic : ICtx) (hag : Agree wc sc ic) (e : Expr)
    (hs : Straight wc e) :
    ∀ s s' op, (walkRvalue wc e).run s = (some op, s') → s.locals = [] → (∃ blk, OpenAt s.b blk) →
      Result sc ic e s s' op := by
  intro s s' op h hl ho
  obtain ⟨hl', ss, hg⟩ := straight_grows wc e hs s s' op h hl ho
  have r := walk_cfg wc sc ic hag [] [] [] ScopeOf.nil e (straight_cfgFrag hs) s s' op h hl (VarRel.nil _) ho
  exact ⟨ss, hl', hg, r.ok, sound_of_sim hg r.sim⟩

end QV.Proofs.SemStraight
