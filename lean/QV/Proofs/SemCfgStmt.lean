/-
  QV.Props.C01 — the induction over statement lists at CFG level: its conclusion, and the step for an assignment `x = e;`
  to a declared `let` variable.  The conclusion is stated once, with what remains to be shown of the run as a parameter
  (`Tail`, `GOk`); `SOk` is `GOk` at "the run reaches the exit position with the value in the operand" (`sTail`).
  A store into one variable's local leaves the other variables related only if different names have different locals:
  `VarInj`, the invariant `SOk`/`GOk` have and `BlockOk` has not.
  The steps (`g_`) are for every `Tail`; the induction is `SemCfgStmtIf.walk_i` (`SFrag` is part of `IFrag`).
-/
import QV.Proofs.SemCfgBlock

namespace QV.Proofs.SemCfgStmt
open QV.Model QV.Model.IrSem QV.Proofs.SemIr QV.Proofs.SemVisit QV.Proofs.SemWalk QV.Proofs.SemStraight
open QV.Proofs.SemCfg QV.Proofs.SemCfgWalk QV.Proofs.SemCfgCtl QV.Proofs.SemCfgBlock
open QV.Spec.Sem (Val World Host Ev Ty STy coerceTo binop unop staticTy)

/-- `x = e;` on a variable in scope as a successful walk: the walk of `e`, `visit_local_assignment`, the operand it
    answers as completion value -/
theorem run_assign_stmt (wc : Ctx) (x : String) (n : Nat) (k : DeclKind) (e : Expr) (s s' : WState)
    (hx : s.locals.get? x = some (n, k))
    (h : BuilderInv.StmtRun wc none (.expr (.assign (.ident x) e)) s s') :
    ∃ v s1, (walkRvalue wc e).run s = (some v, s1) ∧
      ∃ a b1, visitLocalAssignment wc.env s1.b n v = .ok (a, b1) ∧
        s' = { s1 with b := visitExpressionStatement b1 a } := by
  cases h with | expr hr =>
  cases hr with | mk h1 h2 _ =>
  -- the left side is the variable: not a property, not a subscript
  cases h1 with
  | assignLocal hl hr hv =>
    cases hl with | ident hp =>
    rw [run_ident_local hx] at hp
    cases hp
    cases h2
    exact ⟨_, _, hr.run_eq, _, _, hv, rfl⟩
  | assignProperty hl => cases hl with | ident hp => rw [run_ident_local hx] at hp; cases hp
  | assignSubscript hl => cases hl with | ident hp => rw [run_ident_local hx] at hp; cases hp

theorem grows_push (b : Builder) (blk : BasicBlock) (stmt : Statement) (ho : OpenAt b blk) :
    Grows b [stmt] (b.pushStatement stmt) := by
  rw [Builder.pushStatement, pushStatementAt_open b _ blk stmt ho.1 ho.2]
  exact ⟨rfl, ⟨[], by simp⟩, ⟨blk, ho.1, ho.2, rfl⟩, rfl, rfl, rfl⟩

theorem setCompletion_eq (b : Builder) (blk : BasicBlock) (v : Operand) (ho : OpenAt b blk) :
    b.setCompletionValue v =
      { b with code := { b.code with blocks := b.code.blocks.set b.currentRef { blk with completionValue := some v } } } := by
  simp only [Builder.setCompletionValue, Builder.blockHasTerminator, Builder.modifyBlock, ho.1, ho.2, Option.isSome_none,
    Bool.false_eq_true, ↓reduceIte]

/-- `set_completion_value` changes one field of the open current block, which no part of `Walked` reads -/
theorem walked_completion (b : Builder) (blk : BasicBlock) (v : Operand) (ho : OpenAt b blk) :
    Walked b (b.setCompletionValue v) ∧ (b.setCompletionValue v).currentRef = b.currentRef ∧
    curLen (b.setCompletionValue v) = curLen b := by
  rw [setCompletion_eq b blk v ho]
  have hcur : ({ b with code := { b.code with
      blocks := b.code.blocks.set b.currentRef { blk with completionValue := some v } } } : Builder).currentRef = b.currentRef := by
    simp [Builder.currentRef]
  have hget := getElem?_set_self' _ _ { blk with completionValue := some v } _ ho.1
  -- no block lies between the entry block and the exit block: they are the same
  refine ⟨Walked.of_sealed ⟨rfl, ⟨[], by simp⟩, rfl, by simp, fun i hi => ?_, blk, _, ho.1, ho.2, hget, [], by simp⟩
    (fun i hlo hhi => absurd hhi (by rw [hcur]; exact Nat.not_lt.mpr hlo)) ⟨_, by rw [OpenAt, hcur]; exact ⟨hget, ho.2⟩⟩,
    hcur, ?_⟩
  · show (b.code.blocks.set b.currentRef _)[i]? = _
    rw [List.getElem?_set_ne (Nat.ne_of_gt hi)]
  · simp only [curLen, hcur, ho.1]
    show (match (b.code.blocks.set b.currentRef _)[b.currentRef]? with | some blk => _ | none => 0) = _
    rw [hget]

theorem afterVal_outOf (u : Val) (isRet : Bool) (v : Val) : afterVal u (outOf isRet v) = outOf isRet v := by
  cases isRet <;> rfl

theorem spec_stmts_assign (c : QV.Spec.Sem.Ctx) (x : String) (e : Expr) (rest : List Stmt)
    (s : QV.Spec.Sem.St) (var : QV.Spec.Sem.Var) (out : QV.Spec.Sem.Outcome) (s' : QV.Spec.Sem.St)
    (hl : s.lookup x = some var)
    (h : QV.Spec.Sem.execStmts c (.expr (.assign (.ident x) e) :: rest) s = some (out, s')) :
    ∃ v s1 v', var.const = false ∧ QV.Spec.Sem.evalExpr c e s = some (v, s1) ∧ coerceTo var.sty.ty v = some v' ∧
      ∃ out', QV.Spec.Sem.execStmts c rest { s1 with vars := QV.Spec.Sem.assignVar x v' s1.vars } = some (out', s') ∧
        out = afterVal .void out' := by
  obtain ⟨o1, sd, h, hk⟩ := execStmts_cons_inv h
  rw [QV.Spec.Sem.execStmt.eq_def] at h
  simp only at h
  rw [QV.Spec.Sem.evalExpr.eq_def] at h
  simp only [hl] at h
  cases hc : var.const with
  | true => simp [hc] at h
  | false =>
    simp only [hc, Bool.false_eq_true, ↓reduceIte] at h
    cases he : QV.Spec.Sem.evalExpr c e s with
    | none => simp [he] at h
    | some p =>
      obtain ⟨v, s1⟩ := p
      simp only [he] at h
      cases hco : coerceTo var.sty.ty v with
      | none => simp [hco] at h
      | some v' =>
        simp only [hco, Option.map_some, Option.some.injEq, Prod.mk.injEq] at h
        obtain ⟨rfl, rfl⟩ := h
        obtain ⟨out', hrs, rfl⟩ := hk
        exact ⟨v, s1, v', rfl, rfl, hco, out', hrs, rfl⟩

theorem shapeOf_assignVar (x : String) (v : Val) (vars : List QV.Spec.Sem.Var) :
    shapeOf (QV.Spec.Sem.assignVar x v vars) = shapeOf vars := by
  induction vars with
  | nil => rfl
  | cons a as ih =>
    simp only [QV.Spec.Sem.assignVar]
    split
    · simp [shapeOf]
    · simp only [shapeOf, List.map_cons, List.cons.injEq, true_and]
      exact ih

theorem find?_assignVar_self (x : String) (v : Val) (vars : List QV.Spec.Sem.Var) (var : QV.Spec.Sem.Var)
    (h : vars.find? (·.name = x) = some var) :
    (QV.Spec.Sem.assignVar x v vars).find? (·.name = x) = some { var with val := some v } := by
  induction vars with
  | nil => simp at h
  | cons a as ih =>
    simp only [QV.Spec.Sem.assignVar]
    by_cases ha : a.name = x
    · simp only [List.find?_cons, ha, decide_true, Option.some.injEq] at h
      subst h
      simp [ha]
    · simp only [List.find?_cons, ha, decide_false] at h
      simp only [ha, ↓reduceIte, List.find?_cons, decide_false]
      exact ih h

theorem find?_assignVar_ne (x y : String) (v : Val) (hne : y ≠ x) (vars : List QV.Spec.Sem.Var) :
    (QV.Spec.Sem.assignVar x v vars).find? (·.name = y) = vars.find? (·.name = y) := by
  induction vars with
  | nil => rfl
  | cons a as ih =>
    simp only [QV.Spec.Sem.assignVar]
    by_cases ha : a.name = x
    · have hxy : ¬ x = y := fun h => hne h.symm
      simp [ha, hxy]
    · simp only [ha, ↓reduceIte, List.find?_cons]
      by_cases hy : a.name = y
      · simp [hy]
      · simp only [hy, decide_false]
        exact ih

/-- different names in scope are bound to different IR locals -/
def VarInj (wl : QV.Model.Locals) : Prop :=
  ∀ x y n k n' k', wl.get? x = some (n, k) → wl.get? y = some (n', k') → n = n' → x = y

theorem VarInj.nil : VarInj [] := by
  intro x y n k n' k' h
  simp [QV.Model.Locals.get?] at h

/-- statement lists `S ::= e | return e | let x = e; S | const x = e; S | x = e; S` (`x` a variable in scope), every
    expression in `CfgFrag` relative to the variables declared before it.  `assign` asks only for `x ∈ scope`: on a
    `const` there is no derivation (`ExprRun.assignLocal` asks for a `.let_` local), so the theorems, which start from a successful walk, are silent there. -/
inductive SFrag (wc : Ctx) : Bool → List String → List Stmt → Prop
  | expr (scope : List String) (e : Expr) : CfgFrag wc scope e → SFrag wc false scope [.expr e]
  | ret (scope : List String) (e : Expr) : CfgFrag wc scope e → SFrag wc true scope [.return_ (some e)]
  | decl (isRet : Bool) (scope : List String) (kind : DeclKind) (x : String) (e : Expr) (rest : List Stmt) :
      CfgFrag wc scope e → SFrag wc isRet (x :: scope) rest →
      SFrag wc isRet scope (.lexical kind [{ name := x, ty := none, value := some e }] :: rest)
  | assign (isRet : Bool) (scope : List String) (x : String) (e : Expr) (rest : List Stmt) :
      x ∈ scope → CfgFrag wc scope e → SFrag wc isRet scope rest →
      SFrag wc isRet scope (.expr (.assign (.ident x) e) :: rest)

theorem blockFrag_sFrag {wc : Ctx} {isRet : Bool} {scope : List String} {stmts : List Stmt}
    (h : BlockFrag wc isRet scope stmts) : SFrag wc isRet scope stmts := by
  induction h with
  | expr scope e he => exact .expr scope e he
  | ret scope e he => exact .ret scope e he
  | decl isRet scope kind x e rest he _ ih => exact .decl isRet scope kind x e rest he ih

/-- `BlockOk` with the injectivity of the name map as an additional invariant -/
def SOk (wc : Ctx) (sc : QV.Spec.Sem.Ctx) (ic : ICtx) (isRet : Bool) (wl : QV.Model.Locals)
    (vars : List QV.Spec.Sem.Var) (stmts : List Stmt) : Prop :=
  ∀ s s', (walkStmts wc none stmts).run s = (some true, s') → s.locals = wl → VarRel s.b.code.locals wl vars →
    VarInj wl → (∃ blk, OpenAt s.b blk) →
    ∃ (s1 : WState) (op : Operand), s'.b = finish isRet s1.b op ∧ Walked s.b s1.b ∧ OperandOk s1.b.code.locals.length op ∧
      ∀ C, Covers C s1.b s.b.currentRef →
      ∀ (st : State) (sst : QV.Spec.Sem.St) (out : QV.Spec.Sem.Outcome) (sst' : QV.Spec.Sem.St),
        shapeOf sst.vars = shapeOf vars → sst.w = st.w → (∀ x q u, st.w.prop x q = some u → isCint u = false) →
        ValRel wl sst.vars st.L →
        QV.Spec.Sem.execStmts sc stmts sst = some (out, sst') →
        ∃ v, out = outOf isRet v ∧ ∃ d st', d ≤ s1.b.currentRef - s.b.currentRef ∧
          (∀ fuel, runAt ic C (fuel + d) s.b.currentRef (curLen s.b) st =
            runAt ic C fuel s1.b.currentRef (curLen s1.b) st') ∧
          evalOperand ic st'.L op = some v

theorem sOk_of_blockOk {wc : Ctx} {sc : QV.Spec.Sem.Ctx} {ic : ICtx} {isRet : Bool} {wl : QV.Model.Locals}
    {vars : List QV.Spec.Sem.Var} {stmts : List Stmt} (h : BlockOk wc sc ic isRet wl vars stmts) :
    SOk wc sc ic isRet wl vars stmts :=
  fun s s' hr hl hvr _ ho => h s s' hr hl hvr ho

/-- what is to be shown of a run (fuel ↦ result) that starts inside the walked code: given the final code, the builder
    and the operand at the exit of the walk, the outcome of the reference semantics, and a bound on the transitions -/
abbrev Tail := CodeBody → Builder → Operand → QV.Spec.Sem.Outcome → Nat → (Nat → Option (Val × State)) → Prop

/-- a `Tail` can be the conclusion of the induction over statement lists if it is stable under `d` transitions in front
    of the run and under a statement that completed with a value in front of the outcome -/
structure TailOk (T : Tail) : Prop where
  step : ∀ {C b1 op out n n' d} {run run' : Nat → Option (Val × State)},
    (∀ fuel, run (fuel + d) = run' fuel) → d + n' ≤ n → T C b1 op out n' run' → T C b1 op out n run
  after : ∀ {C b1 op out n run} (u : Val), T C b1 op out n run → T C b1 op (afterVal u out) n run

/-- the induction hypothesis / conclusion for a statement list, for any `Tail`: the walk up to the operand of the final
    expression is a CFG walk, and over any covering final code, between related states, the run from the entry position
    has the property `T` -/
def GOk (T : Tail) (wc : Ctx) (sc : QV.Spec.Sem.Ctx) (ic : ICtx) (isRet : Bool) (wl : QV.Model.Locals)
    (vars : List QV.Spec.Sem.Var) (stmts : List Stmt) : Prop :=
  ∀ s s', (walkStmts wc none stmts).run s = (some true, s') → s.locals = wl → VarRel s.b.code.locals wl vars →
    VarInj wl → (∃ blk, OpenAt s.b blk) →
    ∃ (s1 : WState) (op : Operand), s'.b = finish isRet s1.b op ∧ Walked s.b s1.b ∧ OperandOk s1.b.code.locals.length op ∧
      ∀ C, Covers C s1.b s.b.currentRef →
      ∀ (st : State) (sst : QV.Spec.Sem.St) (out : QV.Spec.Sem.Outcome) (sst' : QV.Spec.Sem.St),
        Rel wl vars sst st → QV.Spec.Sem.execStmts sc stmts sst = some (out, sst') →
        T C s1.b op out (s1.b.currentRef - s.b.currentRef) fun fuel => runAt ic C fuel s.b.currentRef (curLen s.b) st

/-- the `Tail` of `SOk`: the run reaches the exit position with the value of the statement list in the operand -/
def sTail (ic : ICtx) (isRet : Bool) : Tail := fun C b1 op out n run =>
  ∃ v, out = outOf isRet v ∧ ∃ d st', d ≤ n ∧
    (∀ fuel, run (fuel + d) = runAt ic C fuel b1.currentRef (curLen b1) st') ∧ evalOperand ic st'.L op = some v

theorem sTail_ok (ic : ICtx) (isRet : Bool) : TailOk (sTail ic isRet) where
  step := by
    intro C b1 op out n n' d run run' hrun hle ⟨v, hout, d', st', hd', hr', hv⟩
    exact ⟨v, hout, d' + d, st', by omega, fun fuel => by rw [← Nat.add_assoc, hrun, hr'], hv⟩
  after := by
    intro C b1 op out n run u ⟨v, hout, h⟩
    exact ⟨v, by rw [hout, afterVal_outOf], h⟩

theorem sOk_iff_gOk {wc : Ctx} {sc : QV.Spec.Sem.Ctx} {ic : ICtx} {isRet : Bool} {wl : QV.Model.Locals}
    {vars : List QV.Spec.Sem.Var} {stmts : List Stmt} :
    SOk wc sc ic isRet wl vars stmts ↔ GOk (sTail ic isRet) wc sc ic isRet wl vars stmts := by
  constructor
  · intro h s s' hr hl hvr hinj ho
    obtain ⟨s1, op, hfin, w, hok, hsim⟩ := h s s' hr hl hvr hinj ho
    exact ⟨s1, op, hfin, w, hok, fun C hC st sst out sst' hrel hsp =>
      hsim C hC st sst out sst' hrel.shape hrel.world hrel.nc hrel.vals hsp⟩
  · intro h s s' hr hl hvr hinj ho
    obtain ⟨s1, op, hfin, w, hok, hsim⟩ := h s s' hr hl hvr hinj ho
    exact ⟨s1, op, hfin, w, hok, fun C hC st sst out sst' hvars hw hnc hval hsp =>
      hsim C hC st sst out sst' ⟨hvars, hw, hnc, hval⟩ hsp⟩

/-- the store `x = v'`: the other variables' locals are different ones (`VarInj`) -/
theorem valRel_assign {wl : QV.Model.Locals} {vars : List QV.Spec.Sem.Var} {L : IrSem.Locals} {x : String} {n : Nat}
    {k : DeclKind} {var : QV.Spec.Sem.Var} {v' : Val} (hv : ValRel wl vars L) (hinj : VarInj wl)
    (hx : wl.get? x = some (n, k)) (hf : vars.find? (·.name = x) = some var) (hnc : isCint v' = false) :
    ValRel wl (QV.Spec.Sem.assignVar x v' vars) (upd L n v') := by
  intro y ny ky hy
  by_cases hyx : y = x
  · subst hyx
    rw [hx] at hy
    injection hy with hy
    injection hy with h1 h2
    subst h1
    exact ⟨{ var with val := some v' }, v', find?_assignVar_self y v' _ var hf, rfl, upd_same _ _ _, hnc⟩
  · obtain ⟨vy, valy, g1, g2, g3, g4⟩ := hv y ny ky hy
    have hne : ny ≠ n := fun hc => hyx (hinj y x ny ky n k hy hx hc)
    exact ⟨vy, valy, by rw [find?_assignVar_ne x y v' hyx]; exact g1, g2, by rw [upd_other _ _ _ _ hne]; exact g3, g4⟩

theorem varInj_insert {wl : QV.Model.Locals} (hinj : VarInj wl) (x : String) (n : Nat) (k : DeclKind)
    (hfresh : ∀ y ny ky, wl.get? y = some (ny, ky) → ny ≠ n) : VarInj (wl.insert x (n, k)) := by
  intro y z ny ky nz kz hy hz hnn
  by_cases hyx : y = x
  · by_cases hzx : z = x
    · rw [hyx, hzx]
    · rw [hyx, get?_insert_self] at hy
      rw [get?_insert_ne _ _ _ _ hzx] at hz
      injection hy with hy; injection hy with hy _
      exact absurd (hnn.symm.trans hy.symm) (hfresh z nz kz hz)
  · by_cases hzx : z = x
    · rw [hzx, get?_insert_self] at hz
      rw [get?_insert_ne _ _ _ _ hyx] at hy
      injection hz with hz; injection hz with hz _
      exact absurd (hnn.trans hz.symm) (hfresh y ny ky hy)
    · rw [get?_insert_ne _ _ _ _ hyx] at hy
      rw [get?_insert_ne _ _ _ _ hzx] at hz
      exact hinj y z ny ky nz kz hy hz hnn

/-- the statement `x = e;` on its own: the walk of `e`, one store into the variable's local (converted to its type — the
    conversion the reference semantics applies: `VarRel`), `void` as completion value; the other variables stay related
    because different names have different locals (`VarInj`) -/
theorem assign_step (wc : Ctx) (sc : QV.Spec.Sem.Ctx) (ic : ICtx) (wl : QV.Model.Locals)
    (vars : List QV.Spec.Sem.Var) (x : String) (n : Nat) (k : DeclKind) (e : Expr)
    (hx : wl.get? x = some (n, k)) (he : WalkOk wc sc ic wl vars e) (s sd : WState)
    (hd : BuilderInv.StmtRun wc none (.expr (.assign (.ident x) e)) s sd)
    (hl : s.locals = wl) (hvr : VarRel s.b.code.locals wl vars) (hinj : VarInj wl) (ho : ∃ blk, OpenAt s.b blk) :
    sd.locals = wl ∧ Walked s.b sd.b ∧
    ∀ C, Covers C sd.b s.b.currentRef →
    ∀ (st : State) (sst : QV.Spec.Sem.St) (rest : List Stmt) (out : QV.Spec.Sem.Outcome) (sst' : QV.Spec.Sem.St),
      Rel wl vars sst st → QV.Spec.Sem.execStmts sc (.expr (.assign (.ident x) e) :: rest) sst = some (out, sst') →
      ∃ sst1 st1 out', Rel wl vars sst1 st1 ∧ st1.w = st.w ∧ QV.Spec.Sem.execStmts sc rest sst1 = some (out', sst') ∧
        out = afterVal .void out' ∧ ∃ d, d ≤ sd.b.currentRef - s.b.currentRef ∧
          ∀ fuel, runAt ic C (fuel + d) s.b.currentRef (curLen s.b) st = runAt ic C fuel sd.b.currentRef (curLen sd.b) st1 := by
  obtain ⟨v, s1, hw, a, b1, hvis, hsd⟩ := run_assign_stmt wc x n k e s sd (by rw [hl]; exact hx) hd
  have r1 := he s s1 v hw hl hvr ho
  obtain ⟨blk1, ho1⟩ := r1.walked.exitOpen
  have w1 : Walked s.b s1.b := r1.walked
  obtain ⟨var0, ty, hfind0, hty0, htynv, _, hsty0⟩ := hvr.some x n k hx
  have hty1 : s1.b.code.locals[n]? = some ty := by
    obtain ⟨tys, ht⟩ := w1.locals
    rw [ht]; exact prefix_getElem? (List.prefix_append _ _) n ty hty0
  simp only [visitLocalAssignment, hty1] at hvis
  split at hvis
  · cases hvis
  · injection hvis with hvis
    injection hvis with ha hb1
    subst ha hb1
    have hg := grows_push s1.b blk1 (.assign n (.copy (ensureConcreteString v))) ho1
    have hsdb : sd.b = (s1.b.pushStatement (.assign n (.copy (ensureConcreteString v)))).setCompletionValue .void := by
      rw [hsd]
      simp only [visitExpressionStatement, ensureConcreteString]
    generalize s1.b.pushStatement (.assign n (.copy (ensureConcreteString v))) = bp at hg hsdb
    obtain ⟨blk1', ho1'⟩ := hg.open
    have wp : Walked s1.b bp := Walked.of_grows hg
    obtain ⟨wc', hcur', hlen'⟩ := walked_completion bp blk1' .void ho1'
    rw [← hsdb] at wc' hcur' hlen'
    refine ⟨by rw [hsd]; exact r1.locals, (w1.trans wp).trans wc', ?_⟩
    intro C hC st sst rest out sst' hrel hsp
    obtain ⟨var, hf', hsty', _⟩ := find?_some_of_shape hrel.shape x var0 hfind0
    obtain ⟨v0, sA, v', _, hev, hco, out', hrs, hout⟩ := spec_stmts_assign sc x e rest sst var out sst' hf' hsp
    have hCp : Covers C bp s.b.currentRef := Covers.of_ext wc'.toExt hC (w1.trans wp).cur_le
    have hC1 : Covers C s1.b s.b.currentRef := Covers.of_ext wp.toExt hCp w1.cur_le
    obtain ⟨hsA, d1, st1, hd1, hrun1, hv1, hw1', hrel1⟩ := expr_run r1 hvr hC1 hrel hev
    subst hsA
    rw [hsty', hsty0] at hco
    have hex := exec_store ic C.locals n (ensureConcreteString v) ty st1 v0 v' (prefix_getElem? hC1.locals n ty hty1)
      ((evalOperand_ensure ic st1.L v).trans hv1) hco
    have hval' := valRel_assign (v' := v') hrel1.vals hinj hx hf' (coerceTo_not_cint hco)
    have hshape : shapeOf (QV.Spec.Sem.assignVar x v' sA.vars) = shapeOf vars := by
      rw [shapeOf_assignVar]
      exact hrel.shape
    refine ⟨{ sA with vars := QV.Spec.Sem.assignVar x v' sA.vars }, { st1 with L := upd st1.L n v' }, out',
      ⟨hshape, hrel1.world, hrel1.nc, hval'⟩, hw1', hrs, hout, d1, by rw [hcur', hg.currentRef]; exact hd1, ?_⟩
    intro fuel
    rw [hrun1, hcur', hlen']
    exact runAt_emit ic C s1.b bp _ _ hg hCp st1 _ hex fuel

theorem g_assign {T : Tail} (hT : TailOk T) (wc : Ctx) (sc : QV.Spec.Sem.Ctx) (ic : ICtx) (isRet : Bool)
    (wl : QV.Model.Locals) (vars : List QV.Spec.Sem.Var) (x : String) (n : Nat) (k : DeclKind) (e : Expr)
    (rest : List Stmt) (hx : wl.get? x = some (n, k)) (he : WalkOk wc sc ic wl vars e)
    (hrest : GOk T wc sc ic isRet wl vars rest) :
    GOk T wc sc ic isRet wl vars (.expr (.assign (.ident x) e) :: rest) := by
  intro s s' h hl hvr hinj ho
  obtain ⟨sd, hd, h⟩ := run_stmts_cons_ok wc _ rest s s' h
  obtain ⟨hsdl, wd, hstep⟩ := assign_step wc sc ic wl vars x n k e hx he s sd hd hl hvr hinj ho
  obtain ⟨s2, op2, hfin, w2, hok2, hsim2⟩ := hrest sd s' h hsdl (hvr.mono wd.locals) hinj wd.exitOpen
  refine ⟨s2, op2, hfin, wd.trans w2, hok2, ?_⟩
  intro C hC st sst out sst' hrel hsp
  obtain ⟨sst1, st1, out', hrel1, _, hrs, hout, d, hd1, hrun⟩ :=
    hstep C (Covers.of_ext w2.toExt hC wd.cur_le) st sst rest out sst' hrel hsp
  rw [hout]
  exact hT.after .void (hT.step hrun (fuel_seq hd1 wd.cur_le (Nat.le_refl _) w2.cur_le)
    (hsim2 C (hC.mono wd.cur_le) st1 sst1 out' sst' hrel1 hrs))

theorem g_decl {T : Tail} (hT : TailOk T) (wc : Ctx) (sc : QV.Spec.Sem.Ctx) (ic : ICtx) (isRet : Bool)
    (wl : QV.Model.Locals) (vars : List QV.Spec.Sem.Var) (kind : DeclKind) (x : String) (e : Expr) (rest : List Stmt)
    (he : WalkOk wc sc ic wl vars e)
    (hse : ∀ vars', shapeOf vars' = shapeOf vars → staticTy sc vars' e = staticTy sc vars e)
    (hrest : ∀ (n : Nat) (sty : STy), GOk T wc sc ic isRet (wl.insert x (n, kind))
      ({ name := x, sty := sty, const := kind = .const_, val := none } :: vars) rest) :
    GOk T wc sc ic isRet wl vars (.lexical kind [{ name := x, ty := none, value := some e }] :: rest) := by
  intro s s' h hl hvr hinj ho
  obtain ⟨sd, hd, h⟩ := run_stmts_cons_ok wc _ rest s s' h
  obtain ⟨n, sty, hloc, wd, hvr', hfresh, hstep⟩ := decl_step wc sc ic wl vars kind x e he hse s sd hd hl hvr ho
  obtain ⟨s2, op2, hfin, w2, hok2, hsim2⟩ :=
    hrest n sty sd s' h hloc hvr' (varInj_insert hinj x n kind hfresh) wd.exitOpen
  refine ⟨s2, op2, hfin, wd.trans w2, hok2, ?_⟩
  intro C hC st sst out sst' hrel hsp
  obtain ⟨sst1, st1, hrel1, hrs, d1, hd1, hrun1⟩ :=
    hstep C (Covers.of_ext w2.toExt hC wd.cur_le) st sst rest out sst' hrel hsp
  exact hT.step hrun1 (fuel_seq hd1 wd.cur_le (Nat.le_refl _) w2.cur_le)
    (hsim2 C (hC.mono wd.cur_le) st1 sst1 out sst' hrel1 hrs)

end QV.Proofs.SemCfgStmt
