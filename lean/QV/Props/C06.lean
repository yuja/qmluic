/-
  C06 — Generated function bodies have sound control flow and define before use.

  Model : QV.Model.{Builder,Walk,Finalize} (the IR builder; tied by the exact-IR stream `ir`),
          QV.Model.Cfg.checkCfg (a certificate checker for one function body).
  Tie   : every IR observed in the REAL pipeline (hook) is (a) compared with the model's IR exactly and (b) run
          through `QV.Model.Cfg.checkExempting` by the Lean driver (kind=pred `cfgcheck`, Driver/Ir.lean), that is
          `check` on the body in which the reads of the variables the user declared without initialiser are erased
          (`eraseExempt`); a failing check on a real IR is a violation with the program as replay.  No theorem
          relates `check (eraseExempt ex c) = true` to a statement about `c`: applied to such a run,
          `checkCfg_sound` speaks of the erased body.
  Theorems: soundness of the checker — if it accepts a body then, for EVERY path from the entry (not a bound
  on length, not a sample of paths): every jump target exists, control never reaches a block without terminator or
  the `unreachable` marker, and every read of a local (compiler temporary or declared variable) is preceded on that
  path by an assignment (parameters count as assigned).  In `Reaches c i A` (Proofs/Cfg) the list `A` is what has
  been assigned when the path ENTERS block `i`.  Then the same conclusion for every output of the model compiler,
  without running a check (`build_passes_check_semantic`), and for the body the property-dependency pass returns.
-/
import QV.Proofs.Cfg
import QV.Model.Finalize
import QV.Proofs.BuilderBuild
import QV.Proofs.PropDepShape

namespace QV.Props.C06
open QV.Model QV.Model.Cfg QV.Proofs.Cfg

theorem targets_exist {c : CodeBody} {reach : List Bool} {ins : List (List Nat)} (h : checkCfg c reach ins = true) :
    ∀ (i : Nat) (b : BasicBlock), c.blocks[i]? = some b → ∀ j ∈ successors b.terminator, j < c.blocks.length := by
  simp only [checkCfg, Bool.and_eq_true] at h
  have ht := h.1.2
  intro i b hb j hj
  simp only [targetsOk, List.all_eq_true] at ht
  have := ht b (List.mem_of_getElem? hb) j hj
  simpa using this

/-- **Soundness of the CFG check, for every path.** -/
theorem checkCfg_sound {c : CodeBody} {reach : List Bool} {ins : List (List Nat)} (h : checkCfg c reach ins = true) :
    ∀ (i : Nat) (A : List Nat), Reaches c i A →
      ∃ (b : BasicBlock) (t : Terminator), c.blocks[i]? = some b ∧ b.terminator = some t ∧
        t ≠ Terminator.unreachable ∧
        (∀ j ∈ successors b.terminator, j < c.blocks.length) ∧
        (∀ (k : Nat) (s : Statement), b.statements[k]? = some s →
          ∀ x ∈ stmtReads s, x ∈ defsOf (b.statements.take k) ++ A) ∧
        (∀ x ∈ termReads t, x ∈ defsOf b.statements ++ A) := by
  intro i A hr
  have hh := h
  simp only [checkCfg, Bool.and_eq_true, decide_eq_true_eq] at hh
  obtain ⟨⟨⟨⟨hpos, _⟩, _⟩, _⟩, hblocks⟩ := hh
  have hlt := hr.lt hpos (targets_exist h)
  obtain ⟨hri, hsub⟩ := reaches_inv h hr
  have hb : c.blocks[i]? = some c.blocks[i] := List.getElem?_eq_getElem hlt
  have hbo := blocksOk_get c.blocks 0 hblocks i _ hb
  rw [Nat.zero_add] at hbo
  obtain ⟨t, ht, hne, hst, htr, _⟩ := blockOk_reached hri hbo
  refine ⟨c.blocks[i], t, hb, ht, hne, targets_exist h i _ hb, ?_, ?_⟩
  · intro k s hk x hx
    exact stmtsOk_reads _ A (stmtsOk_mono _ _ A hsub hst) k s hk x hx
  · intro x hx
    rcases List.mem_append.1 (htr x hx) with h1 | h1
    · exact List.mem_append_left _ h1
    · exact List.mem_append_right _ (hsub x h1)

/-- the control-flow conjuncts for `check` = `checkCfg` on the certificates that the untrusted producers `computeReach` /
    `computeIns` compute (the driver runs it on the erased body, see the head of the file) -/
theorem check_sound {c : CodeBody} (h : check c = true) :
    ∀ (i : Nat) (A : List Nat), Reaches c i A →
      ∃ (b : BasicBlock) (t : Terminator), c.blocks[i]? = some b ∧ b.terminator = some t ∧
        t ≠ Terminator.unreachable ∧ (∀ j ∈ successors b.terminator, j < c.blocks.length) :=
  fun i A hr =>
    let ⟨b, t, h1, h2, h3, h4, _, _⟩ := checkCfg_sound (c := c) h i A hr
    ⟨b, t, h1, h2, h3, h4⟩

/-- **A value-returning body returns a value on every reachable path**: a body that passes `checkFn true` has no
    `return` without a value in any block that some execution path reaches.  A statement about the CHECKER (the
    driver runs `checkFn` on the function bodies re-read from the real C++ support header, exempt reads erased), not about `build`. -/
theorem returns_value_on_every_path {c : CodeBody} (h : checkFn true c = true) :
    ∀ (i : Nat) (A : List Nat), Reaches c i A → ∀ b, c.blocks[i]? = some b → b.terminator ≠ some (.ret .void) := by
  intro i A hr b hb
  simp only [checkFn, Bool.and_eq_true, Bool.not_true, Bool.false_or] at h
  have hri := (reaches_inv h.1 hr).1
  have := retsOk_get c.blocks 0 h.2 i b hb (by simpa using hri)
  exact this

/-- `check_sound` applies to a body that passes `checkFn` -/
theorem checkFn_check {v : Bool} {c : CodeBody} (h : checkFn v c = true) : check c = true := by
  simp only [checkFn, Bool.and_eq_true] at h
  exact h.1

/-- `check code = true` for every output of the builder.  This proposition is FALSE, and is written down as the statement
    not to aim at: `check` has no exemption, and for the accepted program `{ let v: int; return v }` the builder
    returns, without panic, a body that reads `v` unassigned (the user's error), which `check` rejects.  What the
    driver decides per output is `checkExempting`; what is proved is `build_passes_check_semantic`. -/
def build_passes_check_full_statement : Prop :=
  ∀ (ctx : Ctx) (callback : Bool) (p : Program) (code : CodeBody),
    (build ctx callback p).code = some code → (build ctx callback p).panic = none → check code = true

/-! ### non-vacuity: a ternary-shaped body passes; the F1 shape (non-empty tail block marked unreachable
    although it is branched to) and a read of an unassigned temporary are rejected -/

private def ternaryBody : CodeBody :=
  { blocks := [
      { statements := [.assign 0 (.readProperty (.namedObject "a" "VBase") default)],
        terminator := some (.brCond (.local 0 .bool) 1 2) },
      { statements := [.assign 1 (.copy (.const (.integer 1)))], terminator := some (.br 3) },
      { statements := [.assign 1 (.copy (.const (.integer 2)))], terminator := some (.br 3) },
      { statements := [], terminator := some (.ret (.local 1 .int)) }],
    locals := [.bool, .int] }

example : check ternaryBody = true := by decide

private def f1Body : CodeBody :=
  { blocks := [
      { statements := [], terminator := some (.brCond (.const (.bool true)) 1 2) },
      { statements := [], terminator := some (.br 3) },
      { statements := [], terminator := some (.br 3) },
      { statements := [.assign 0 (.copy (.const (.integer 1)))], terminator := some .unreachable }],
    locals := [.int] }

example : check f1Body = false := by decide

private def undefinedRead : CodeBody :=
  { blocks := [
      { statements := [], terminator := some (.brCond (.const (.bool true)) 1 2) },
      { statements := [.assign 0 (.copy (.const (.integer 1)))], terminator := some (.br 2) },
      { statements := [], terminator := some (.ret (.local 0 .int)) }],
    locals := [.int] }

example : check undefinedRead = false := by decide

end QV.Props.C06

/-! ## The builder itself, for ALL programs

  The theorems below speak about the model COMPILER `QV.Model.build` (= `tir::build` / `tir::build_callback`, tied
  to the real code by the exact-IR stream): they hold for every context and every program (all expression and
  statement forms, bindings and callback functions, accepted or not, any nesting depth).  They state the conjuncts of
  `checkCfg_sound`'s conclusion for every `Reaches` path, not `check code = true`, which would in addition need
  the untrusted certificate producers `computeReach` / `computeIns` to be complete.  `build_targets_exist`,
  `build_blocks_terminated`, `build_unreachable_isolated`, `build_no_reachable_unreachable`,
  `build_control_flow_sound` and `build_defines_before_use` are this property's names for the theorems of the same
  names in `QV.Proofs.BuilderInv`.

  The hypothesis `panic = none` excludes the `assert!`s of the real code and also the panic sites that only the
  MODEL of `finalize_completion_values` has ("fuel exhausted", "block index out of range", "start block out of
  range", Model/Finalize); that the fuel the model gives its loop suffices is not proved.

  Finding F100.  With one name map shared by all clauses of a `switch`, define-before-use fails: a clause is entered
  by a jump from the switch head, so a variable declared WITH initialiser in an earlier clause can be read in a
  later clause without having been assigned.  `switch (a.value) { case 1: let v = a.value + 10; case 2: return v; }`
  was accepted with exit status 0, and the emitted C++ reached `return a5;` from the head with `a5` never assigned.
  In /repo (since 0aff63c) and in the model (`walkBodies`) every clause starts from the name map before the switch;
  `f100BodyOld` is an output of the compiler without that. -/

namespace QV.Props.C06
open QV.Model QV.Model.Cfg QV.Proofs.Cfg

/-- **Every jump of a built body targets an existing block** — all blocks, reachable or not; no hypothesis
    on diagnostics or panics. -/
theorem build_targets_exist (ctx : Ctx) (callback : Bool) (p : Program) (code : CodeBody)
    (h : (build ctx callback p).code = some code) :
    ∀ (i : Nat) (b : BasicBlock), code.blocks[i]? = some b →
      ∀ j ∈ successors b.terminator, j < code.blocks.length :=
  QV.Proofs.BuilderInv.build_targets_exist ctx callback p code h

/-- **A built body has an entry block and every block has a terminator** (possibly the marker). -/
theorem build_blocks_terminated (ctx : Ctx) (callback : Bool) (p : Program) (code : CodeBody)
    (h : (build ctx callback p).code = some code) :
    0 < code.blocks.length ∧ ∀ (i : Nat) (b : BasicBlock), code.blocks[i]? = some b → b.terminator.isSome = true :=
  QV.Proofs.BuilderInv.build_blocks_terminated ctx callback p code h

/-- **The exact invariant behind "no reachable block is `unreachable`"**: if `build` reports no panic, a
    block carrying the marker is not the entry and NO block at all (reachable or not) jumps to it. -/
theorem build_unreachable_isolated (ctx : Ctx) (callback : Bool) (p : Program) (code : CodeBody)
    (h : (build ctx callback p).code = some code) (hp : (build ctx callback p).panic = none) :
    ∀ (i : Nat) (b : BasicBlock), code.blocks[i]? = some b → b.terminator = some .unreachable →
      i ≠ 0 ∧ ∀ (j : Nat) (bj : BasicBlock), code.blocks[j]? = some bj → i ∉ successors bj.terminator :=
  QV.Proofs.BuilderInv.build_unreachable_isolated ctx callback p code h hp

/-- **No execution path arrives at a block that carries the `unreachable` marker**, if `build` reports no panic. -/
theorem build_no_reachable_unreachable (ctx : Ctx) (callback : Bool) (p : Program) (code : CodeBody)
    (h : (build ctx callback p).code = some code) (hp : (build ctx callback p).panic = none) :
    ∀ (i : Nat) (A : List Nat), Reaches code i A →
      ∀ b, code.blocks[i]? = some b → b.terminator ≠ some .unreachable :=
  QV.Proofs.BuilderInv.build_no_reachable_unreachable ctx callback p code h hp

/-- **The first four conjuncts of `checkCfg_sound`'s conclusion hold for every output of
    the builder, on every path** — exactly the conclusion of `check_sound`, without running any check. -/
theorem build_control_flow_sound (ctx : Ctx) (callback : Bool) (p : Program) (code : CodeBody)
    (h : (build ctx callback p).code = some code) (hp : (build ctx callback p).panic = none) :
    ∀ (i : Nat) (A : List Nat), Reaches code i A →
      ∃ (b : BasicBlock) (t : Terminator), code.blocks[i]? = some b ∧ b.terminator = some t ∧
        t ≠ Terminator.unreachable ∧ (∀ j ∈ successors b.terminator, j < code.blocks.length) :=
  QV.Proofs.BuilderInv.build_control_flow_sound ctx callback p code h hp

/-- define before use as a closed proposition: on every path, every read of a local that the user did not declare
    without initialiser is preceded by an assignment.  Its hypothesis `panic = none` is not needed
    (`build_defines_before_use`).  It fails for a compiler that shares one name map among the clauses of a `switch`
    (F100, `f100BodyOld`). -/
def build_defines_before_use_full_statement : Prop :=
  ∀ (ctx : Ctx) (callback : Bool) (p : Program) (code : CodeBody),
    (build ctx callback p).code = some code → (build ctx callback p).panic = none →
    ∀ (i : Nat) (A : List Nat), Reaches code i A → ∀ b, code.blocks[i]? = some b →
      (∀ (k : Nat) (s : Statement), b.statements[k]? = some s →
        ∀ x ∈ stmtReads s, x ∉ (build ctx callback p).userUninit → x ∈ defsOf (b.statements.take k) ++ A) ∧
      (∀ t, b.terminator = some t →
        ∀ x ∈ termReads t, x ∉ (build ctx callback p).userUninit → x ∈ defsOf b.statements ++ A)

/-- the whole conclusion of `checkCfg_sound` for every output of the builder, the reads of the variables declared
    without initialiser exempt: `SemOk (· ∈ userUninit) code` in the terms of `QV.Proofs.PropDepShape` -/
def build_passes_check_semantic_full_statement : Prop :=
  ∀ (ctx : Ctx) (callback : Bool) (p : Program) (code : CodeBody),
    (build ctx callback p).code = some code → (build ctx callback p).panic = none →
    ∀ (i : Nat) (A : List Nat), Reaches code i A →
      ∃ (b : BasicBlock) (t : Terminator), code.blocks[i]? = some b ∧ b.terminator = some t ∧
        t ≠ Terminator.unreachable ∧
        (∀ j ∈ successors b.terminator, j < code.blocks.length) ∧
        (∀ (k : Nat) (s : Statement), b.statements[k]? = some s →
          ∀ x ∈ stmtReads s, x ∉ (build ctx callback p).userUninit → x ∈ defsOf (b.statements.take k) ++ A) ∧
        (∀ x ∈ termReads t, x ∉ (build ctx callback p).userUninit → x ∈ defsOf b.statements ++ A)

/-- **Define before use, for every output of the builder and every path** — no hypothesis on diagnostics or
    panics: a read of a local (compiler temporary or variable declared with initialiser) is preceded, on the path,
    by an assignment; parameters count as assigned; variables declared without initialiser are exempt.
    Proved in `QV.Proofs.BuilderClaims`, `BuilderDefExpr` and `BuilderDefStmt` by building, along the walk, a
    certificate `ins` ("assigned whenever control arrives at block i"); the name map only holds variables that are
    assigned at the current point or were declared without initialiser; `finalize_completion_values` keeps statements
    and installs only `return`s of completion values that were covered when they were set. -/
theorem build_defines_before_use (ctx : Ctx) (callback : Bool) (p : Program) (code : CodeBody)
    (h : (build ctx callback p).code = some code) :
    ∀ (i : Nat) (A : List Nat), Reaches code i A → ∀ b, code.blocks[i]? = some b →
      (∀ (k : Nat) (s : Statement), b.statements[k]? = some s →
        ∀ x ∈ stmtReads s, x ∉ (build ctx callback p).userUninit → x ∈ defsOf (b.statements.take k) ++ A) ∧
      (∀ t, b.terminator = some t →
        ∀ x ∈ termReads t, x ∉ (build ctx callback p).userUninit → x ∈ defsOf b.statements ++ A) :=
  QV.Proofs.BuilderInv.build_defines_before_use ctx callback p code h

theorem build_defines_before_use_full : build_defines_before_use_full_statement :=
  fun ctx callback p code h _ => build_defines_before_use ctx callback p code h

/-- **Every output of the builder satisfies the whole conclusion of `checkCfg_sound`, on every path** (semantic
    form; reads of user-uninitialised variables exempt) -/
theorem build_passes_check_semantic : build_passes_check_semantic_full_statement := by
  intro ctx callback p code h hp i A hr
  obtain ⟨b, t, hb, ht, hne, htg⟩ := build_control_flow_sound ctx callback p code h hp i A hr
  obtain ⟨h1, h2⟩ := build_defines_before_use ctx callback p code h i A hr b hb
  exact ⟨b, t, hb, ht, hne, htg, h1, h2 t ht⟩

/-- the (pre-analysis) body that the REAL compiler before 0aff63c emitted for
    `switch (b.i) { case 1: let v = b.j; case 2: return v; } return 0` (finding F100; blocks, terminators, locals
    and the assigned/read locals as emitted; the property record of the two property reads replaced by the default one):
    block 5 (`case 2`) is entered from block 1 and returns local 4, which only block 4 (`case 1`) assigns. -/
def f100BodyOld : CodeBody :=
  { blocks := [
      { statements := [.assign 0 (.readProperty (.namedObject "b" "VBase") default),
                       .assign 1 (.binary (.cmp .eq) (.local 0 .int) (.const (.integer 1)))],
        terminator := some (.brCond (.local 1 .bool) 4 1) },
      { statements := [.assign 2 (.binary (.cmp .eq) (.local 0 .int) (.const (.integer 2)))],
        terminator := some (.brCond (.local 2 .bool) 5 7) },
      { statements := [], terminator := some (.br 4) },
      { statements := [], terminator := some (.br 7) },
      { statements := [.assign 3 (.readProperty (.namedObject "b" "VBase") default),
                       .assign 4 (.copy (.local 3 .int))],
        terminator := some (.br 5) },
      { statements := [], terminator := some (.ret (.local 4 .int)) },
      { statements := [], terminator := some (.br 7) },
      { statements := [], terminator := some (.ret (.const (.integer 0))) },
      { statements := [], terminator := some .unreachable }],
    locals := [.int, .bool, .bool, .int, .int] }

/-- that output is rejected by the check, and rightly so: a path entry → block 1 → block 5 exists on
    which local 4, which block 5 returns, has not been assigned -/
theorem f100_defines_before_use_old_refuted :
    check f100BodyOld = false ∧
    ∃ A, Reaches f100BodyOld 5 A ∧ f100BodyOld.blocks[5]?.bind (·.terminator) = some (.ret (.local 4 .int)) ∧ 4 ∉ A :=
  ⟨by decide,
   _, .step (j := 5) (b := f100BodyOld.blocks[1])
        (.step (j := 1) (b := f100BodyOld.blocks[0]) .entry rfl (by decide)) rfl (by decide),
   by decide, by decide⟩

end QV.Props.C06

/-! ## After `analyze_code_property_dependency` (tir/propdep.rs), for ALL programs

  `tir::build` is followed, for property bindings, by the pass that inserts the `observeProperty` statements
  (`QV.Model.analyzePropertyDependency`, the model of propdep.rs used by C02 and compared with the real IR by the
  exact-IR stream).  The pass keeps every block's terminator and inserts only observe statements, each directly
  before a statement that reads the observed local itself (`QV.Proofs.PropDepShape`).  Hence, for EVERY body, the
  whole conclusion of `checkCfg_sound` carries over from the body the pass is given to the body it returns — on
  every path, including the reads of the inserted statements (the sender local of an observe statement is assigned
  on every path before it).  Composed with `build_passes_check_semantic`: the body that the C++ emitter receives
  satisfies the C06 conclusion, for all programs. -/

namespace QV.Props.C06
open QV.Model QV.Model.Cfg QV.Proofs.Cfg QV.Proofs.PropDepShape

/-- the pass changes neither the number of blocks nor any terminator, and defines no local -/
theorem analysis_keeps_skeleton (code : CodeBody) :
    (analyzePropertyDependency code).1.blocks.length = code.blocks.length ∧
    (analyzePropertyDependency code).1.parameterCount = code.parameterCount ∧
    ∀ (i : Nat) (b' : BasicBlock), (analyzePropertyDependency code).1.blocks[i]? = some b' →
      ∃ b, code.blocks[i]? = some b ∧ b'.terminator = b.terminator ∧ defsOf b'.statements = defsOf b.statements := by
  obtain ⟨hrel, hnp⟩ := analyze_blocks code
  refine ⟨hrel.1, hnp, fun i b' hb' => ?_⟩
  obtain ⟨b, hb, hann⟩ := hrel.2 i b' hb'
  exact ⟨b, hb, hann.term, hann.defs⟩

/-- **The pass preserves the C06 conclusion, for every body and every path** (`SemOk U c` = the conclusion of
    `checkCfg_sound` for `c` with the reads of the locals in `U` exempt) -/
theorem analysis_preserves_cfg_conclusion (U : Nat → Prop) (code : CodeBody) (h : SemOk U code) :
    SemOk U (analyzePropertyDependency code).1 :=
  analyze_keeps_semOk U code h

/-- **The analysed body of every program satisfies the whole conclusion of `checkCfg_sound` on every path** -/
theorem build_analyze_passes_check_semantic (ctx : Ctx) (callback : Bool) (p : Program) (code : CodeBody)
    (h : (build ctx callback p).code = some code) (hp : (build ctx callback p).panic = none) :
    ∀ (i : Nat) (A : List Nat), Reaches (analyzePropertyDependency code).1 i A →
      ∃ (b : BasicBlock) (t : Terminator), (analyzePropertyDependency code).1.blocks[i]? = some b ∧ b.terminator = some t ∧
        t ≠ Terminator.unreachable ∧
        (∀ j ∈ successors b.terminator, j < (analyzePropertyDependency code).1.blocks.length) ∧
        (∀ (k : Nat) (s : Statement), b.statements[k]? = some s →
          ∀ x ∈ stmtReads s, x ∉ (build ctx callback p).userUninit → x ∈ defsOf (b.statements.take k) ++ A) ∧
        (∀ x ∈ termReads t, x ∉ (build ctx callback p).userUninit → x ∈ defsOf b.statements ++ A) :=
  analyze_keeps_semOk (fun x => x ∈ (build ctx callback p).userUninit) code
    (build_passes_check_semantic ctx callback p code h hp)

/-- in particular: **the sender local of every inserted observe statement is assigned on every path before it** -/
theorem build_analyze_observe_sender_assigned (ctx : Ctx) (callback : Bool) (p : Program) (code : CodeBody)
    (h : (build ctx callback p).code = some code) (hp : (build ctx callback p).panic = none)
    (i : Nat) (A : List Nat) (hr : Reaches (analyzePropertyDependency code).1 i A) (b : BasicBlock)
    (hb : (analyzePropertyDependency code).1.blocks[i]? = some b) (k : Nat) (o l : Nat) (sig : MethodInfo)
    (hk : b.statements[k]? = some (.observeProperty o l sig)) (hu : l ∉ (build ctx callback p).userUninit) :
    l ∈ defsOf (b.statements.take k) ++ A := by
  obtain ⟨b0, t, hb0, _, _, _, hst, _⟩ := build_analyze_passes_check_semantic ctx callback p code h hp i A hr
  rw [hb] at hb0
  cases hb0
  exact hst k _ hk l (by simp [stmtReads]) hu

end QV.Props.C06
