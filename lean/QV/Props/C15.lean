/-
  C15 — `qmluic generate-ui` writes only where it should, atomically, and only when needed.

  Model : QV.Model.Cli   (its head names the Rust units mirrored) — an op trace over the abstract file system
  Spec  : QV.Spec.Fs     (paths = component lists; FS = Path → Option Node; five ops, `rename` atomic;
                          `CrashState` = state after any prefix of the trace or inside a `write`;
                          `specNames`, `specRefused` = what the documentation promises)
  Tie   : harness stream `c15` runs the REAL binary built from /repo's working tree in throw-away directories:
          exit status, strace'd mkdir/open(O_CREAT)/write/fchmod/rename sequence, changed inodes/mtimes and the
          final tree are compared with this model (kind=model), output names with `specNames`/`specRefused`
          (kind=spec); SIGKILL is injected at every state-changing syscall and the surviving tree inspected
          (kind=oracle); after every regenerate step of every history the outputs are compared byte for byte with a
          fresh run, untouched-ness (inode, mtime, mode) and the complete listing inside and outside the output
          directory are checked (kind=oracle `cli-fresh-oracle`).

  Vocabulary used in the statements (definitions in QV.Proofs.Cli / QV.Model.Cli):
    sourceOutputs opts src  the (path, content) pairs generate_ui_file writes for `src` (ui, then header unless
                            --no-dynamic-binding); empty if `src` is not translated
    allOutputs opts srcs    all of them;   execOutputs opts srcs   those of the sources the run gets to (a source ending in
                            diagnostics is skipped; a source that is not loaded ends the run)
    IsTempName n            n = ".tmp" ++ r with no '.' in r     (tempfile's names; assumption on that crate)
    NoCollision J           no path occurs in J with two different contents
    key p                   p without `.` components (identity of a file)
    AllNormal p             every component of p is `Normal`
    st.isIo                 `st` is one of the four I/O statuses (`Status.isIo`, defined in QV.Proofs.Cli)

  PARTIAL BY NATURE.  The theorems are about the model over an abstract file system.  That the operating
  system's rename(2) is atomic, that a SIGKILL'ed process leaves exactly the effects of the syscalls it
  completed, durability after power loss, permissions, symlinks and `..` aliasing are assumptions.

  One clause is false of the code as stated and is refuted below (`rerun_noop_refuted`): two sources whose names
  differ only in letter case (`Foo.qml`, `foo.qml`) are both written to `foo.ui`; every run rewrites it.
-/
import QV.Proofs.Cli

namespace QV.Props.C15
open QV.Spec.Fs QV.Model.Cli QV.Proofs.Cli

/-- `FileNameRules` produces the documented names: `x.ui` and `uisupport_x.h`, the stem lower-cased (ASCII)
    unless `--no-lowercase-file-name`; lower-casing the whole file name only ever changes the stem. -/
theorem names_documented (o : Options) (stem : Name) :
    (o.rules.typeNameToUiName stem, o.rules.typeNameToUiSupportCxxHeaderName stem)
      = specNames (!o.noLowercaseFileName) stem :=
  names_eq_spec o stem

/-- For every source `dir/STEM.EXT` (EXT = `qml` in any letter case, STEM non-empty, may
    contain dots) that translates, generate_ui_file plans exactly two outputs: the documented ui name and the
    documented header name, in `dir` itself, or in `join outdir dir` when `--output-directory` is given. -/
theorem paths_correct (opts : Options) (dir : Path) (stem ext : Name) (hs : stem ≠ []) (hdot : '.' ∉ ext)
    (hq : ext.map asciiLower = ['q', 'm', 'l']) (ui header : Bytes) :
    let names := specNames (!opts.noLowercaseFileName) stem
    let place : Path → Path := fun p => match opts.outputDirectory with
      | none => p
      | some d => join d p
    planFile opts ⟨dir ++ [.normal (stem ++ '.' :: ext)], .ok ui header⟩ =
      .ok ((key (place (dir ++ [.normal names.1])), ui), (key (place (dir ++ [.normal names.2])), header)) := by
  intro names place
  rw [planFile_qml opts dir stem ext hs hdot hq]
  have hn := names_documented opts stem
  simp only [Prod.ext_iff] at hn
  simp only [outputPaths, withFileName_snoc, hn.1, hn.2, place, names]
  cases opts.outputDirectory <;> rfl

/-- The header is among the written outputs iff `--no-dynamic-binding` is absent. -/
theorem outputs_exact (opts : Options) (src : Source) (u h : Path × Bytes) (hp : planFile opts src = .ok (u, h)) :
    sourceOutputs opts src = if opts.noDynamicBinding then [u] else [u, h] := by
  simp only [sourceOutputs, hp]
  cases opts.noDynamicBinding <;> rfl

/-- The identity (`key`) of a path `dir/n` is that of `dir` followed by `n`: with `paths_correct`, an output planned
    without `--output-directory` lies in the source's directory. -/
theorem beside_source (dir : Path) (n : Name) : key (dir ++ [.normal n]) = key dir ++ [.normal n] :=
  key_snoc dir n

/-- "the same relative path inside the output directory": for an accepted source directory part. -/
theorem same_relative_path (d dir : Path) (n : Name) (h : dir.all acceptedComponent = true) :
    key (join d (dir ++ [.normal n])) = key d ++ key dir ++ [.normal n] :=
  place_inside d dir n h

/-- **Exactly which sources are refused**: with `--output-directory`, a run is refused iff some source has a
    `RootDir` or `ParentDir` component — any `..`, escaping or not (`a/../b.qml` is refused too). -/
theorem refusal_exact (opts : Options) (ps : List Path) :
    refuses opts ps = true ↔
      opts.outputDirectory.isSome = true ∧ ∃ p ∈ ps, ∃ c ∈ p, c = Component.rootDir ∨ c = Component.parentDir := by
  have hc : ∀ c, ¬ acceptedComponent c = true ↔ c = .rootDir ∨ c = .parentDir := fun c => by
    cases c <;> simp [acceptedComponent]
  simp only [refuses, Bool.and_eq_true, List.any_eq_true, Bool.not_eq_true', List.all_eq_false, hc]

/-- On path *texts*: the components of `s` are all accepted iff `s` does not start with `/` and none of its
    `/`-separated segments is `..` — the documented rule (`specRefused`). -/
theorem refusal_on_text (s : List Char) : (parsePath s).all acceptedComponent = !specRefused s :=
  parse_accepted s

theorem refused_writes_nothing (opts : Options) (tmp : Nat → Name) (fs : FS) (srcs : List Source)
    (h : refuses opts (srcs.map (·.path)) = true) : generateUi opts tmp fs srcs = ([], .refused) := by
  simp [generateUi, h]

/-- **One unsafe source anywhere refuses the whole command line**: with `--output-directory`, if SOME source — first,
    in the middle or last, whatever the others look like — has a `RootDir` or `ParentDir` component, the run is
    refused and performs no operation at all (so no source, safe or not, gets an output, inside or outside). -/
theorem mixed_sources_refused (opts : Options) (d : Path) (hd : opts.outputDirectory = some d) (tmp : Nat → Name) (fs : FS)
    (pre post : List Source) (bad : Source)
    (hbad : ∃ c ∈ bad.path, c = Component.rootDir ∨ c = Component.parentDir) :
    generateUi opts tmp fs (pre ++ bad :: post) = ([], .refused) := by
  apply refused_writes_nothing
  rw [refusal_exact]
  refine ⟨by simp [hd], bad.path, ?_, hbad⟩
  simp

/-- A command line is accepted iff EVERY source is safe. -/
theorem accepted_iff_all_safe (opts : Options) (d : Path) (hd : opts.outputDirectory = some d) (ps : List Path) :
    refuses opts ps = false ↔ ∀ p ∈ ps, p.all acceptedComponent = true :=
  refuses_false hd

/-- With `--output-directory d`, whatever the sources, options, temp names and file system:
    every path any operation of the run creates, writes, chmods, renames from or renames to is
    `d` followed by one or more `Normal` components; the only other operations are `mkdir`s of `d` itself and
    its ancestors (prefixes of `d`). -/
theorem no_escape (opts : Options) (d : Path) (hd : opts.outputDirectory = some d) (tmp : Nat → Name) (fs : FS)
    (srcs : List Source) :
    ∀ op ∈ (generateUi opts tmp fs srcs).1, ∀ p ∈ op.targets,
      (∃ rest, p = key d ++ rest ∧ AllNormal rest ∧ rest ≠ []) ∨ ((∃ q, op = .mkdir q) ∧ p <+: key d) := by
  intro op hop
  obtain ⟨href, x, hx, hfor⟩ := generateUi_ops op hop
  obtain ⟨src, hsrc, hx⟩ := List.mem_flatMap.1 hx
  have hacc := (refuses_false hd).1 href src.path (List.mem_map_of_mem hsrc)
  obtain ⟨r, e, hr, hne⟩ := plan_inside hd hacc x hx
  rw [e] at hfor
  exact opFor_inside hr hne hfor

/-- The clause as the property states it: a second run on unchanged inputs performs no operation. -/
def rerun_noop_full_statement : Prop :=
  ∀ (opts : Options) (tmp tmp' : Nat → Name) (fs : FS) (srcs : List Source), (∀ k, IsTempName (tmp k)) →
    (generateUi opts tmp fs srcs).2 = .ok →
    (generateUi opts tmp' (run fs (generateUi opts tmp fs srcs).1) srcs).1 = []

def witnessTmp (k : Nat) : Name := ['.', 't', 'm', 'p'] ++ List.replicate (k + 1) 'a'

theorem witnessTmp_isTemp (k : Nat) : IsTempName (witnessTmp k) :=
  ⟨_, rfl, by simp⟩

def fooUpper : Source := ⟨[.normal ['F', 'o', 'o', '.', 'q', 'm', 'l']], .ok [1] [2]⟩
def fooLower : Source := ⟨[.normal ['f', 'o', 'o', '.', 'q', 'm', 'l']], .ok [3] [4]⟩

/-- REFUTED (finding F16, replayed on the real binary by corpus/C15/case_collision.c15.req): `Foo.qml` and
    `foo.qml` both map to `foo.ui` / `uisupport_foo.h`; the second run rewrites both files again. -/
theorem rerun_noop_refuted : ¬ rerun_noop_full_statement := by
  intro h
  have := h {} witnessTmp witnessTmp (fun _ => none) [fooUpper, fooLower] witnessTmp_isTemp (by decide +kernel)
  revert this
  decide +kernel

/-- What holds of re-running.  If no two sources are written to the same path with different contents,
    then after any run that did not end in an I/O error (success, or failure because some sources do not
    translate), running again on the resulting file system — same sources, same translation results, any temp
    names — performs NO operation (no mkdir, no temp file, no write, no rename: inode and mtime of every
    output are untouched) and ends with the same status. -/
theorem rerun_noop_partial (opts : Options) (tmp tmp' : Nat → Name) (fs : FS) (srcs : List Source)
    (htmp : ∀ k, IsTempName (tmp k)) (hio : (generateUi opts tmp fs srcs).2.isIo = false)
    (hnc : NoCollision (execOutputs opts srcs)) :
    generateUi opts tmp' (run fs (generateUi opts tmp fs srcs).1) srcs = ([], (generateUi opts tmp fs srcs).2) :=
  generateUi_rerun htmp hio hnc

/-- ONE compare-then-write: if the destination already holds the content, the trace is empty. -/
theorem unchanged_output_untouched (fs : FS) (nm : Name) (o : Path) (b : Bytes) (h : fs o = some (.file b)) :
    writeIfChanged fs nm o b = ([], .ok) :=
  writeIfChanged_skip h

/-- **Only when needed, and nothing else** (histories of edit/regenerate steps).  Whatever file system a run
    starts from — outputs of earlier runs, some of them stale, removed, or left over from other sources — an
    existing file `p` is the target of NO operation of the run (no create, write, chmod, rename from or onto it:
    same inode, same mtime) unless the run plans a different content for exactly that path.  In particular:
    an output whose content would not change is untouched even if the other output of the same source, or other
    sources, are rewritten; sources and all unrelated files are untouched. -/
theorem existing_file_untouched_unless_changed (opts : Options) (tmp : Nat → Name) (htmp : ∀ k, IsTempName (tmp k))
    (fs : FS) (srcs : List Source) (hnc : NoCollision (execOutputs opts srcs)) (p : Path) (c : Bytes)
    (hp : fs p = some (.file c)) (hall : ∀ b, (p, b) ∈ execOutputs opts srcs → b = c) :
    ∀ op ∈ (generateUi opts tmp fs srcs).1, p ∉ op.targets :=
  generateUi_avoids hp hall

/-- A WHOLE run: an output that already holds its planned content is the target of no op of the run (instance of
    `existing_file_untouched_unless_changed`). -/
theorem unchanged_outputs_untouched (opts : Options) (tmp : Nat → Name) (htmp : ∀ k, IsTempName (tmp k))
    (fs : FS) (srcs : List Source) (hnc : NoCollision (execOutputs opts srcs)) (o : Path) (b : Bytes)
    (ho : (o, b) ∈ execOutputs opts srcs) (h : fs o = some (.file b)) :
    ∀ op ∈ (generateUi opts tmp fs srcs).1, o ∉ op.targets :=
  generateUi_avoids h (fun b' hb' => hnc o b' b hb' ho)

/-- Kill the run at any moment (after any prefix of its trace, or inside a `write`): compared
    with the file system `fs` it started from, a path `p` of the surviving state `s`
    1. is untouched, or
    2. holds the COMPLETE content the run was to write at exactly that path, or
    3. is a temp file (a `.tmp…` name) in the directory of one of the outputs, or
    4. is a directory created, where nothing existed, on the way down to one of the outputs.
    No hypothesis on the sources, the options or the initial file system. -/
theorem crash_atomic (opts : Options) (tmp : Nat → Name) (htmp : ∀ k, IsTempName (tmp k)) (fs : FS)
    (srcs : List Source) (s : FS) (h : CrashState fs (generateUi opts tmp fs srcs).1 s) :
    ∀ p, s p = fs p
      ∨ (∃ b, (p, b) ∈ allOutputs opts srcs ∧ s p = some (.file b))
      ∨ (∃ o b nm, (o, b) ∈ allOutputs opts srcs ∧ IsTempName nm ∧ p = o.dropLast ++ [.normal nm])
      ∨ (fs p = none ∧ s p = some .dir ∧ ∃ o b, (o, b) ∈ allOutputs opts srcs ∧ p ∈ prefixes o.dropLast) :=
  generateUi_crash htmp h

/-- "every prefix of the op trace" of DESIGN §3 is a kill point in the sense of `CrashState` -/
theorem prefix_is_crash_state (fs : FS) (pre t : List Op) (h : pre <+: t) : CrashState fs t (run fs pre) :=
  crash_mono h (crash_run fs pre)

/-- **Old or new, nothing in between**: an output path that existed as a file before the run holds, at every
    kill point, its complete old content or the complete new content of a source mapped to it. -/
theorem output_old_or_new (opts : Options) (tmp : Nat → Name) (htmp : ∀ k, IsTempName (tmp k)) (fs : FS)
    (srcs : List Source) (s : FS) (h : CrashState fs (generateUi opts tmp fs srcs).1 s)
    (o : Path) (b : Bytes) (ho : (o, b) ∈ allOutputs opts srcs) (old : Bytes) (hold : fs o = some (.file old)) :
    s o = some (.file old) ∨ ∃ b', (o, b') ∈ allOutputs opts srcs ∧ s o = some (.file b') := by
  rcases crash_atomic opts tmp htmp fs srcs s h o with e | ⟨b', h1, h2⟩ | ⟨o', b', nm, _, hnm, e⟩ | ⟨e, _⟩
  · exact .inl (e.trans hold)
  · exact .inr ⟨b', h1, h2⟩
  · exact absurd e.symm (output_temp_ne ho hnm _)
  · rw [hold] at e; cases e

/-- After a run that completed without I/O error every output of every source the run got to holds its
    complete planned content.  (A run that fails in `persist` leaves its temp file behind — the model mirrors
    that, see `withOutputFile`.) -/
theorem output_written (opts : Options) (tmp : Nat → Name) (htmp : ∀ k, IsTempName (tmp k)) (fs : FS)
    (srcs : List Source) (hio : (generateUi opts tmp fs srcs).2.isIo = false)
    (hnc : NoCollision (execOutputs opts srcs)) (href : refuses opts (srcs.map (·.path)) = false)
    (hrd : (srcs.any fun s => isUnreadable s.outcome) = false) :
    ∀ x ∈ execOutputs opts srcs, run fs (generateUi opts tmp fs srcs).1 x.1 = some (.file x.2) := by
  unfold generateUi at hio ⊢
  simp only [href, hrd, Bool.false_eq_true, if_false] at hio ⊢
  exact loop_establish htmp hio hnc

/-- **Every regenerate step converges to the fresh result.**  Start the same command from ANY two file systems
    (`fs`: whatever earlier edits, runs, removals, stale files or a killed run left behind; `fs0`: e.g. the empty
    directory of a fresh checkout): if neither run ends in an I/O error, every output path of every translated
    source holds the same content afterwards — the planned one.  So a removed output is re-created, a stale one
    is replaced, and the support header follows an edit that leaves the `.ui` unchanged. -/
theorem regenerate_equals_fresh (opts : Options) (tmp tmp0 : Nat → Name) (htmp : ∀ k, IsTempName (tmp k))
    (htmp0 : ∀ k, IsTempName (tmp0 k)) (fs fs0 : FS) (srcs : List Source)
    (hio : (generateUi opts tmp fs srcs).2.isIo = false) (hio0 : (generateUi opts tmp0 fs0 srcs).2.isIo = false)
    (hnc : NoCollision (execOutputs opts srcs)) (href : refuses opts (srcs.map (·.path)) = false)
    (hrd : (srcs.any fun s => isUnreadable s.outcome) = false) :
    ∀ x ∈ execOutputs opts srcs,
      run fs (generateUi opts tmp fs srcs).1 x.1 = some (.file x.2) ∧
      run fs (generateUi opts tmp fs srcs).1 x.1 = run fs0 (generateUi opts tmp0 fs0 srcs).1 x.1 := by
  intro x hx
  have h1 := output_written opts tmp htmp fs srcs hio hnc href hrd x hx
  have h2 := output_written opts tmp0 htmp0 fs0 srcs hio0 hnc href hrd x hx
  exact ⟨h1, h1.trans h2.symm⟩

/-- **Recovery after a kill**: `output_written` at the state `s` a killed run left behind.  Nothing of `s` is used (the
    hypothesis `CrashState` is idle): a run from ANY state that meets no I/O error leaves every output complete. -/
theorem rerun_after_kill_completes (opts : Options) (tmp tmp' : Nat → Name) (htmp' : ∀ k, IsTempName (tmp' k))
    (fs s : FS) (srcs : List Source) (_hs : CrashState fs (generateUi opts tmp fs srcs).1 s)
    (hio : (generateUi opts tmp' s srcs).2.isIo = false) (hnc : NoCollision (execOutputs opts srcs))
    (href : refuses opts (srcs.map (·.path)) = false) (hrd : (srcs.any fun s => isUnreadable s.outcome) = false) :
    ∀ x ∈ execOutputs opts srcs, run s (generateUi opts tmp' s srcs).1 x.1 = some (.file x.2) :=
  output_written opts tmp' htmp' s srcs hio hnc href hrd

/-! concrete runs of the model (path texts are spelled as character lists so that the kernel evaluates them
    directly) -/

def ex_tmp := witnessTmp
def ex_src : Source :=
  ⟨parsePath ['s', 'u', 'b', '/', 'D', 'e', 'e', 'p', '/', 'M', 'y', 'D', 'l', 'g', '.', 'q', 'm', 'l'], .ok [10, 11] [20]⟩
def ex_opts : Options := { outputDirectory := some (parsePath ['o', 'u', 't']) }

/-- a first run creates out, out/sub, out/sub/Deep and both files through temp + rename; exit ok -/
example : (generateUi ex_opts ex_tmp (fun _ => none) [ex_src]).2 = .ok
    ∧ ((generateUi ex_opts ex_tmp (fun _ => none) [ex_src]).1.length = 11) := by decide +kernel

/-- the planned paths are the documented ones -/
example : sourceOutputs ex_opts ex_src =
    [(parsePath ['o', 'u', 't', '/', 's', 'u', 'b', '/', 'D', 'e', 'e', 'p', '/', 'm', 'y', 'd', 'l', 'g', '.', 'u', 'i'], [10, 11]),
     (parsePath ['o', 'u', 't', '/', 's', 'u', 'b', '/', 'D', 'e', 'e', 'p', '/',
        'u', 'i', 's', 'u', 'p', 'p', 'o', 'r', 't', '_', 'm', 'y', 'd', 'l', 'g', '.', 'h'], [20])] := by
  decide +kernel

/-- the second run is empty (hypotheses of `rerun_noop_partial` are satisfiable and its conclusion is not trivial) -/
example : generateUi ex_opts ex_tmp (run (fun _ => none) (generateUi ex_opts ex_tmp (fun _ => none) [ex_src]).1) [ex_src]
    = ([], .ok) := by decide +kernel

/-- boundary cases of the refusal rule, on path texts:
    a/../b.qml  ./x.qml  /abs/x.qml  sub/../../x.qml  sub/./y.qml  sub//y.qml  ..qml  x..qml  ../x.qml  (empty) -/
example : ([['a', '/', '.', '.', '/', 'b', '.', 'q', 'm', 'l'],
    ['.', '/', 'x', '.', 'q', 'm', 'l'],
    ['/', 'a', 'b', 's', '/', 'x', '.', 'q', 'm', 'l'],
    ['s', 'u', 'b', '/', '.', '.', '/', '.', '.', '/', 'x', '.', 'q', 'm', 'l'],
    ['s', 'u', 'b', '/', '.', '/', 'y', '.', 'q', 'm', 'l'],
    ['s', 'u', 'b', '/', '/', 'y', '.', 'q', 'm', 'l'],
    ['.', '.', 'q', 'm', 'l'],
    ['x', '.', '.', 'q', 'm', 'l'],
    ['.', '.', '/', 'x', '.', 'q', 'm', 'l'],
    []].map specRefused)
    = [true, false, true, true, false, false, false, false, true, false] := by decide +kernel
example : parsePath ['.', '/', 's', 'u', 'b', '/', '/', 'a', '/', '.', '/', 'Z', '.', 'W', '.', 'q', 'm', 'l']
    = [.curDir, .normal ['s', 'u', 'b'], .normal ['a'], .normal ['Z', '.', 'W', '.', 'q', 'm', 'l']] := by decide +kernel
example : refuses ex_opts [parsePath ['a', '/', '.', '.', '/', 'b', '.', 'q', 'm', 'l']] = true ∧
    refuses {} [parsePath ['a', '/', '.', '.', '/', 'b', '.', 'q', 'm', 'l']] = false := by
  decide +kernel

/-- `--no-lowercase-file-name` and `--no-dynamic-binding` -/
example : sourceOutputs { noLowercaseFileName := true, noDynamicBinding := true }
      ⟨parsePath ['.', '/', 'U', 'p', '.', 'Q', 'M', 'L'], .ok [1] [2]⟩
    = [(parsePath ['U', 'p', '.', 'u', 'i'], [1])] := by decide +kernel

/-- an I/O failure: the ui path is a directory → temp file created, written, never renamed, status ioPersist -/
example : generateUi {} ex_tmp (fun p => if p = parsePath ['x', '.', 'u', 'i'] then some .dir else none)
      [⟨parsePath ['X', '.', 'q', 'm', 'l'], .ok [1] [2]⟩]
    = ([.createTemp (parsePath ['.', 't', 'm', 'p', 'a']), .write (parsePath ['.', 't', 'm', 'p', 'a']) [1],
        .chmod (parsePath ['.', 't', 'm', 'p', 'a'])],
       .ioPersist) := by decide +kernel

def ex_good : Source := ⟨parsePath ['G', 'o', 'o', 'd', '.', 'q', 'm', 'l'], .ok [1] [2]⟩
def ex_evil : Source := ⟨parsePath ['.', '.', '/', 'E', 'v', 'i', 'l', '.', 'q', 'm', 'l'], .ok [3] [4]⟩
def ex_abs : Source := ⟨parsePath ['/', 't', '/', 'E', 'v', 'i', 'l', '.', 'q', 'm', 'l'], .ok [3] [4]⟩
-- mixed command line `-O out Good.qml ../Evil.qml` (either order) and `Good.qml /abs/Evil.qml`: refused, no op
example : generateUi ex_opts ex_tmp (fun _ => none) [ex_good, ex_evil] = ([], .refused)
    ∧ generateUi ex_opts ex_tmp (fun _ => none) [ex_evil, ex_good] = ([], .refused)
    ∧ generateUi ex_opts ex_tmp (fun _ => none) [ex_good, ex_abs, ex_good] = ([], .refused)
    ∧ (generateUi ex_opts ex_tmp (fun _ => none) [ex_good]).2 = .ok := by decide +kernel

def ex_x1 : Source := ⟨parsePath ['X', '.', 'q', 'm', 'l'], .ok [1] [2]⟩
def ex_x2 : Source := ⟨parsePath ['X', '.', 'q', 'm', 'l'], .ok [1] [3]⟩
def ex_xui : Path := parsePath ['x', '.', 'u', 'i']
def ex_xh : Path := parsePath ['u', 'i', 's', 'u', 'p', 'p', 'o', 'r', 't', '_', 'x', '.', 'h']
def ex_after1 : FS := run (fun _ => none) (generateUi {} ex_tmp (fun _ => none) [ex_x1]).1
-- edit only the binding expression (ui bytes the same, header bytes differ): the second run rewrites the header
-- (4 ops on `uisupport_x.h` and its temp file) and performs no op on `x.ui`; a removed header is re-created
example : (generateUi {} ex_tmp ex_after1 [ex_x2]).1.length = 4
    ∧ (∀ op ∈ (generateUi {} ex_tmp ex_after1 [ex_x2]).1, ex_xui ∉ op.targets)
    ∧ run ex_after1 (generateUi {} ex_tmp ex_after1 [ex_x2]).1 ex_xh = some (.file [3])
    ∧ run ex_after1 (generateUi {} ex_tmp ex_after1 [ex_x2]).1 ex_xui = some (.file [1]) := by decide +kernel
example : run (ex_after1.set ex_xh none) (generateUi {} ex_tmp (ex_after1.set ex_xh none) [ex_x1]).1 ex_xh = some (.file [2]) := by
  decide +kernel

end QV.Props.C15
