/-
  C04 — Every binding is embedded, generated, or diagnosed; errors write nothing.

  Model : QV.Model.Passes — the pass structure of `uigen::build` at the level of binding fates (code maps, constant
          pass with the lazily initialised evaluation cells, left-over attached check, mode switch) and
          `generate_ui_file`.
  Tables: QV.Gen.PseudoProps — the exclude lists and special look-ups, regenerated from the source on every run.
  Tie   : stream `c04` (per-binding fate, diagnostics and evaluated-constant flags of the real pipeline vs the model;
          ledger oracle on the real .ui and header; CLI runs for the error clause).
-/
import QV.Proofs.Passes
import QV.Proofs.PassesOwnership
import QV.Gen.PseudoProps

namespace QV.Props.C04
open QV.Model.Passes QV.Proofs.Passes

/-- the exclude lists of `Model.Passes` are the ones written in the source; three consumers exclude nothing in the model,
    so their lists must stay empty.  The routing spells the names out itself (`tagOf`, `gadgetMembers`,
    `sizePolicyMember`): only the three widget lists are tied to it, by `widget_route_excludes`. -/
theorem pseudo_tables_agree :
    QV.Gen.PseudoProps.widgetPseudo.map String.toList = widgetPseudo
    ∧ QV.Gen.PseudoProps.tableViewPseudo.map String.toList = tableViewPseudo
    ∧ QV.Gen.PseudoProps.treeViewPseudo.map String.toList = treeViewPseudo
    ∧ QV.Gen.PseudoProps.actionPseudo.map String.toList = actionPseudo
    ∧ QV.Gen.PseudoProps.gridLayoutPseudo.map String.toList = gridLayoutPseudo
    ∧ QV.Gen.PseudoProps.otherLayoutPseudo = []
    ∧ QV.Gen.PseudoProps.spacerPseudo = []
    ∧ QV.Gen.PseudoProps.genericGadgetExcludes = []
    ∧ QV.Gen.PseudoProps.sizePolicyKnown.map String.toList = sizePolicyKnown
    ∧ QV.Gen.PseudoProps.brushExcludes.map String.toList = brushExcludes
    ∧ QV.Gen.PseudoProps.iconExcludes.map String.toList = iconExcludes :=
  ⟨rfl, rfl, rfl, rfl, rfl, rfl, rfl, rfl, rfl, rfl, rfl⟩

/-- every name excluded from the generic pass of a widget / grid layout is looked up by a special consumer -/
theorem excluded_names_are_looked_up :
    (∀ n ∈ QV.Gen.PseudoProps.widgetPseudo, n ∈ QV.Gen.PseudoProps.widgetLookups)
    ∧ (∀ n ∈ QV.Gen.PseudoProps.tableViewPseudo ++ QV.Gen.PseudoProps.treeViewPseudo, n ∈ QV.Gen.PseudoProps.headerLookups)
    ∧ (∀ n ∈ QV.Gen.PseudoProps.gridLayoutPseudo, n ∈ QV.Gen.PseudoProps.layoutFlowLookups) := by
  decide +kernel

/-- the routing of the model excludes exactly the listed names from the generic pass of a widget -/
theorem widget_route_excludes (o : Obj) (sole : Bool) (l : Leaf) :
    propLeafRoute .widget o sole l ≠ .ser ↔
      (l.name ∈ widgetPseudo ∨ (o.tableView = true ∧ l.name ∈ tableViewPseudo) ∨ (o.treeView = true ∧ l.name ∈ treeViewPseudo)) := by
  have name_iff (t : Tag) (s : Str) (h : tagName? t = some s) : l.name = s ↔ tagOf l.name = t := (tagOf_eq_iff h).symm
  simp only [widgetPseudo, tableViewPseudo, treeViewPseudo, List.mem_cons, List.not_mem_nil, or_false,
    name_iff .actions _ rfl, name_iff .model _ rfl, name_iff .hHeader _ rfl, name_iff .vHeader _ rfl,
    name_iff .header _ rfl, propLeafRoute]
  cases tagOf l.name
  case model => cases o.comboOrList <;> simp
  all_goals simp

/-- the cached evaluation flag partitions the top-level property bindings: the C++ pass and the reject pass take
    exactly the ones that are not evaluated constants, and every one they take yields a binding or a diagnostic -/
theorem cache_partitions (e : EntryOut) :
    (e.evalConst = true → cxxEntry e = {}) ∧
    (e.evalConst = false → (cxxEntry e).bindings ≠ [] ∨ (cxxEntry e).diags ≠ []) ∧
    (rejectEntry e = [] ↔ e.evalConst = true) :=
  ⟨cxxEntry_of_evalConst e, cxxEntry_trace e, rejectEntry_nil_iff e⟩

/-- the two places where the constant pass evaluates a constant, converts it, and then uses it nowhere without a
    diagnostic: `QAction { separator: false }` as the action's only binding, and an `actions` value that is not an
    object list -/
def NoSilentDrop (doc : Forest) : Prop :=
  ∀ o ∈ objs doc, ∀ l, Entry.leaf l ∈ o.entries →
    ¬ (o.isAction = true ∧ tagOf l.name = .separator ∧ l.const = some (.ok 0)) ∧
    ¬ (tagOf l.name = .actions ∧ l.shapeOk = false)

theorem noSilentDrop_iff (doc : Forest) : NoSilentDrop doc ↔ ∀ o ∈ objs doc, ObjNoSilentDrop o := Iff.rfl

/-- in generate mode every scalar binding that entered a code map is embedded in the form, or has update code in the
    header, or has an error diagnostic attributed to it or to its enclosing group (or the run panics) -/
theorem diagnosed_not_silently_dropped (doc : Forest) (hd : NoSilentDrop doc) (s : Support)
    (hs : (run .generate doc).support = some s) :
    ∀ p ∈ (run .generate doc).objects,
      (∀ e ∈ p.props, ∀ x ∈ e.leafOuts,
          x.2.panic = true ∨ x.2.emb.isSome = true ∨ x ∈ s.generated ∨
          ∃ d ∈ (run .generate doc).diags, d.subj = x.1.id ∨ d.subj = entryId e)
      ∧ (∀ e ∈ p.attached.flatten, ∀ x ∈ e.leafOuts,
          x.2.panic = true ∨ x.2.emb.isSome = true ∨
          ∃ d ∈ (run .generate doc).diags, d.subj = x.1.id ∨ d.subj = entryId e) := by
  obtain ⟨hgen, -, hcxx⟩ := support_spec hs
  intro p hp
  obtain ⟨reach', kids, o, ho, rfl⟩ := run_objects_mem hp
  -- `Fate` is `Accounted` with "diagnosed in the entry, or left to the mode switch": say who picks up what is left
  refine ⟨fun e he x hx => Accounted.imp (placeOne_props_fate reach' o kids ((noSilentDrop_iff doc).1 hd o ho) e he x hx) ?_,
    fun e he x hx => Accounted.imp (placeOne_attached_fate reach' o kids e he x hx) ?_⟩
  · rintro (⟨d, hd', hsub⟩ | ⟨hec, hxc⟩)
    · exact .inr ⟨d, run_diag_of_entry hp (List.mem_append_left _ he) hd', hsub⟩
    · exact (cxxEntry_fate e hec x hx hxc).imp (fun h => (hgen x).2 ⟨_, hp, e, he, h⟩)
        fun ⟨d, hd', hsub⟩ => ⟨d, hcxx _ hp e he d hd', hsub⟩
  · rintro (⟨d, hd', hsub⟩ | ⟨hec, _⟩)
    · exact ⟨d, run_diag_of_entry hp (List.mem_append_right _ he) hd', hsub⟩
    · exact ⟨_, run_diag_of_leftover hp he hec, .inr rfl⟩

/-- a constant member is repeated in the header only with the value that is embedded in the form, and only when its
    group has a dynamic member that has update code -/
theorem repeated_sound (doc : Forest) (s : Support) (hs : (run .generate doc).support = some s)
    (hacc : (run .generate doc).accepted = true) :
    ∀ x ∈ s.repeated,
      x.2.emb.isSome = true ∧ (∃ v, x.1.const = some (.ok v) ∧ x.2.emb = some v) ∧
      ∃ p' ∈ (run .generate doc).objects, ∃ e ∈ p'.props, x ∈ e.leafOuts ∧
        ∃ y ∈ e.leafOuts, y ∈ s.generated ∧ y.1.const = none := by
  obtain ⟨hgen, hrep, hcxx⟩ := support_spec hs
  obtain ⟨_, hpan, hdg⟩ := accepted_parts _ hacc
  intro x hx
  obtain ⟨p', hp', e, he, hxe⟩ := (hrep x).1 hx
  obtain ⟨hec, hxl, hxc⟩ := mem_cxxEntry_repeated e x hxe
  have heo : e ∈ p'.allOuts := List.mem_append_left _ he
  have hed : ∀ d, d ∉ e.diags := fun d hd' => List.ne_nil_of_mem (run_diag_of_entry hp' heo hd') hdg
  have hcd : ∀ d, d ∉ (cxxEntry e).diags := fun d hd' => List.ne_nil_of_mem (hcxx _ hp' e he d hd') hdg
  have hnp : ∀ y ∈ e.leafOuts, y.2.panic = false := fun y hy => run_no_panic hpan hp' heo hy
  obtain ⟨reach', kids, o, ho, rfl⟩ := run_objects_mem hp'
  cases placeOne_props_produced reach' o kids e he with
  | leaf r l extra =>
    obtain rfl := List.mem_singleton.1 hxl
    cases hec.symm.trans hxc
  | group gr g =>
    have hemb : x.2.emb.isSome = true := by
      rcases group_fate gr g x hxl with h | h | ⟨d, hd', _⟩ | ⟨_, h⟩
      · rw [hnp x hxl] at h; cases h
      · exact h
      · exact absurd hd' (hed d)
      · rw [hxc] at h; cases h
    obtain ⟨v, hv⟩ := Option.isSome_iff_exists.1 hemb
    obtain ⟨hxev, hxconst⟩ := Produced.emb (.group gr g) hxl v hv
    refine ⟨hemb, ⟨v, hxconst, hv⟩, _, hp', _, he, hxl, ?_⟩
    obtain ⟨y, hyl, hyc⟩ := List.all_eq_false.1 hec
    have hyc : y.2.evalConst y.1 = false := Bool.eq_false_iff.2 hyc
    refine ⟨y, hyl, ?_, ?_⟩
    · rcases cxxEntry_fate _ hec y hyl hyc with h | ⟨d, hd', _⟩
      · exact (hgen y).2 ⟨_, hp', _, he, h⟩
      · exact absurd hd' (hcd d)
    · -- the group has no diagnostic, so `y` was evaluated like `x`: it is not an evaluated constant for being dynamic
      have hu := quiet_group_evaluated gr g (List.eq_nil_iff_forall_not_mem.2 hed) x hxl y hyl
      rw [hxev] at hu
      simp only [cell_evaluated_const, ← hu, Bool.true_and] at hyc
      cases hcst : y.1.const with
      | none => rfl
      | some c => rw [hcst] at hyc; cases hyc

/-- a scalar binding is never both embedded and generated (neither `NoSilentDrop` nor acceptance is assumed) -/
theorem embedded_generated_exclusive (doc : Forest) (s : Support) (hs : (run .generate doc).support = some s) :
    ∀ p ∈ (run .generate doc).objects, ∀ e ∈ p.allOuts, ∀ x ∈ e.leafOuts,
      ¬ (x.2.emb.isSome = true ∧ x ∈ s.generated) := by
  intro p hp e he x hx ⟨hemb, hg⟩
  obtain ⟨reach', kids, o, ho, rfl⟩ := run_objects_mem hp
  obtain ⟨v, hv⟩ := Option.isSome_iff_exists.1 hemb
  obtain ⟨h1, h2⟩ := (placeOne_produced reach' o kids e he).emb hx v hv
  obtain ⟨p', _, e', _, hxe'⟩ := ((support_spec hs).1 x).1 hg
  have := (mem_cxxEntry_generated e' x hxe').2
  simp [cell_evaluated_const, h1, h2] at this

/-- ownership, total on documents without the two silent drops: in an accepted generate-mode run every scalar
    binding of a top-level property is in exactly one place — embedded in the form or generated in the header, never in
    neither and never in both; a constant is repeated in the header only next to a dynamic member of its group and with
    the embedded value; every attached binding is embedded -/
theorem ownership_total_partial (doc : Forest) (hd : NoSilentDrop doc) (s : Support)
    (hs : (run .generate doc).support = some s) (hacc : (run .generate doc).accepted = true) :
    ∀ p ∈ (run .generate doc).objects,
      (∀ e ∈ p.props, ∀ x ∈ e.leafOuts,
          (x.2.emb.isSome = true ∨ x ∈ s.generated) ∧ ¬ (x.2.emb.isSome = true ∧ x ∈ s.generated))
      ∧ (∀ e ∈ p.props, ∀ x ∈ e.leafOuts, x ∈ s.repeated →
          x.2.emb.isSome = true ∧ (∃ v, x.1.const = some (.ok v) ∧ x.2.emb = some v) ∧
          ∃ p' ∈ (run .generate doc).objects, ∃ e' ∈ p'.props, x ∈ e'.leafOuts ∧
            ∃ y ∈ e'.leafOuts, y ∈ s.generated ∧ y.1.const = none)
      ∧ (∀ e ∈ p.attached.flatten, ∀ x ∈ e.leafOuts, x.2.emb.isSome = true) := by
  intro p hp
  obtain ⟨_, hpan, hdg⟩ := accepted_parts _ hacc
  obtain ⟨hprops, hatt⟩ := diagnosed_not_silently_dropped doc hd s hs p hp
  have hnp : ∀ e ∈ p.allOuts, ∀ x ∈ e.leafOuts, x.2.panic = false := fun e he x hx => run_no_panic hpan hp he hx
  refine ⟨fun e he x hx => ⟨?_, ?_⟩, fun e _ x _ hr => repeated_sound doc s hs hacc x hr, fun e he x hx => ?_⟩
  · exact (Accounted.of_no_panic (hprops e he x hx) (hnp e (List.mem_append_left _ he) x hx)).imp_right
      fun h => h.resolve_right fun ⟨d, hd', _⟩ => by rw [hdg] at hd'; cases hd'
  · exact embedded_generated_exclusive doc s hs p hp e (List.mem_append_left _ he) x hx
  · exact (Accounted.of_no_panic (hatt e he x hx) (hnp e (List.mem_append_right _ he) x hx)).resolve_right
      fun ⟨d, hd', _⟩ => by rw [hdg] at hd'; cases hd'

/-- the first clause of `ownership_total_partial` without the hypothesis `NoSilentDrop` -/
def ownership_full_statement : Prop :=
  ∀ (doc : Forest) (s : Support), (run .generate doc).support = some s → (run .generate doc).accepted = true →
    ∀ p ∈ (run .generate doc).objects, ∀ e ∈ p.props, ∀ x ∈ e.leafOuts,
      (x.2.emb.isSome = true ∨ x ∈ s.generated) ∧ ¬ (x.2.emb.isSome = true ∧ x ∈ s.generated)

/-- `QWidget { QAction { separator: false } }` -/
def separatorFalseDoc : Forest :=
  .cons { oid := 0, isWidget := true }
    (.cons { oid := 1, isAction := true,
             entries := [.leaf { id := 10, name := "separator".toList, const := some (.ok 0) }] } .nil .nil)
    .nil

/-- the witness is accepted, its binding is evaluated, not embedded, and nothing is generated -/
theorem separatorFalse_facts :
    (run .generate separatorFalseDoc).accepted = true
    ∧ (run .generate separatorFalseDoc).support = some ⟨[], [], [], []⟩
    ∧ (run .generate separatorFalseDoc).objects.map (fun p => p.props.flatMap (·.leafOuts))
        = [[], [({ id := 10, name := "separator".toList, const := some (.ok 0) },
                 { id := 10, evaluated := true, emb := none, diags := [], panic := false })]] := by
  decide +kernel

/-- the ownership statement is false without `NoSilentDrop` (finding F18): `separator: false` as the sole binding of
    an action is evaluated, not embedded, not generated and not diagnosed -/
theorem ownership_full_refuted : ¬ ownership_full_statement := by
  intro h
  have h' := h separatorFalseDoc ⟨[], [], [], []⟩ separatorFalse_facts.2.1 separatorFalse_facts.1
    (placeOne .obj { oid := 1, isAction := true,
                     entries := [.leaf { id := 10, name := "separator".toList, const := some (.ok 0) }] } false)
    (by decide +kernel)
    (.leaf { id := 10, name := "separator".toList, const := some (.ok 0) }
           { id := 10, evaluated := true, emb := none, diags := [], panic := false } [])
    (by decide +kernel)
    ({ id := 10, name := "separator".toList, const := some (.ok 0) },
     { id := 10, evaluated := true, emb := none, diags := [], panic := false })
    (List.mem_singleton.2 rfl)
  exact absurd h'.1 (by decide)

/-- `QWidget { actions: 1 }`: a constant `actions` value that is not an object list -/
def actionsNotListDoc : Forest :=
  .cons { oid := 0, isWidget := true,
          entries := [.leaf { id := 10, name := "actions".toList, const := some (.ok 1), shapeOk := false }] }
        .nil .nil

/-- the second silent drop occurs as well: the document is accepted, its binding is evaluated, not embedded, not
    generated and not diagnosed (facts only: no refutation is derived from this witness) -/
theorem actionsNotList_facts :
    (run .generate actionsNotListDoc).accepted = true
    ∧ (run .generate actionsNotListDoc).support = some ⟨[], [], [], []⟩
    ∧ (run .generate actionsNotListDoc).objects.map
          (fun p => (leafOutsOf p).map fun x => (x.1.id, x.2.evaluated, x.2.emb))
        = [[(10, true, none)]] := by
  decide +kernel

/-- a constant, a dynamic binding and a font group with one dynamic and one constant member -/
def mixedDoc : Forest :=
  .cons { oid := 0, isWidget := true,
          entries := [ .leaf { id := 10, name := "windowTitle".toList, const := some (.ok 7) },
                       .leaf { id := 11, name := "enabled".toList },
                       .group { id := 12, name := "font".toList, kind := .generic,
                                members := [ { id := 13, name := "pointSize".toList },
                                             { id := 14, name := "bold".toList, const := some (.ok 1) } ] } ] }
        .nil .nil

example : NoSilentDrop mixedDoc := by
  intro o ho l hl
  simp only [mixedDoc, objs, List.append_nil, List.mem_singleton] at ho
  subst ho
  simp only [List.mem_cons, List.not_mem_nil, or_false, Entry.leaf.injEq, reduceCtorEq] at hl
  -- the object is no action and both values have the expected shape: the names play no part
  rcases hl with rfl | rfl <;> exact ⟨fun h => Bool.noConfusion h.1, fun h => Bool.noConfusion h.2⟩

/-- accepted; the constant is embedded, the dynamic binding and the dynamic member are generated, the constant member is
    both embedded and repeated -/
example :
    (run .generate mixedDoc).accepted = true
    ∧ (run .generate mixedDoc).objects.map (fun p => (leafOutsOf p).map fun x => (x.1.id, x.2.emb))
        = [[(10, some 7), (11, none), (13, none), (14, some 1)]]
    ∧ (run .generate mixedDoc).support.map (fun s => (s.bindings, s.generated.map (·.1.id), s.repeated.map (·.1.id)))
        = some ([11, 12], [11, 13], [14]) := by
  decide +kernel

/-- a constant whose conversion fails: diagnosed, not accepted, nothing written -/
def failDoc : Forest :=
  .cons { oid := 0, isWidget := true,
          entries := [ .leaf { id := 10, name := "windowTitle".toList, const := some .fail } ] } .nil .nil

example :
    (run .generate failDoc).accepted = false ∧ (run .generate failDoc).diags = [⟨10, .convert⟩]
    ∧ generateUiFile 0 (run .generate failDoc) = ([], false) := by
  decide +kernel

/-- a dynamic binding in reject mode -/
example :
    (run .reject (.cons { oid := 0, isWidget := true, entries := [.leaf { id := 10, name := "enabled".toList }] }
        .nil .nil)).accepted = false := by
  decide +kernel

/-- the error clause of C04 for one source: a result with a diagnostic writes nothing and reports failure -/
theorem error_writes_nothing (source : Nat) (r : Result) (h : r.diags ≠ []) : generateUiFile source r = ([], false) := by
  simp [generateUiFile, h]

theorem generateUi_writes_only_accepted (srcs : List (Nat × Result)) :
    ∀ op ∈ (generateUi srcs).1, ∃ sr ∈ srcs, sr.2.accepted = true ∧ (op = .ui sr.1 ∨ op = .header sr.1) := by
  induction srcs with
  | nil => simp [generateUi]
  | cons sr rest ih =>
    obtain ⟨s, r⟩ := sr
    intro op hop
    unfold generateUi at hop
    split at hop
    · cases hop
    · rcases List.mem_append.1 hop with hop | hop
      · exact ⟨(s, r), List.mem_cons_self, mem_generateUiFile s r op hop⟩
      · obtain ⟨sr, hsr, h⟩ := ih op hop
        exact ⟨sr, List.mem_cons_of_mem _ hsr, h⟩

theorem generateUi_exit_status (srcs : List (Nat × Result)) :
    (∃ sr ∈ srcs, sr.2.accepted = false) → (generateUi srcs).2 = false := by
  induction srcs with
  | nil => simp
  | cons sr rest ih =>
    obtain ⟨s, r⟩ := sr
    rintro ⟨sr, hsr, hacc⟩
    unfold generateUi
    split
    · rfl
    · rcases List.mem_cons.1 hsr with rfl | hsr
      · simp [generateUiFile_snd, hacc]
      · simp [ih ⟨sr, hsr, hacc⟩]

#print axioms widget_route_excludes
#print axioms cache_partitions
#print axioms diagnosed_not_silently_dropped
#print axioms repeated_sound
#print axioms embedded_generated_exclusive
#print axioms ownership_total_partial
#print axioms ownership_full_refuted
#print axioms error_writes_nothing
#print axioms generateUi_writes_only_accepted
#print axioms generateUi_exit_status

end QV.Props.C04
