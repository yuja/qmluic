/-
  C13 — signal callbacks are wired to the right signal and do what the source says.

  Model: `QV.Model.Callback` (`callback_to_signal_name` from QV.Model.Names, `uniquify_methods`,
  `build_properties_callbacks`, `verify_callback_parameter_type`, the connect + lambda text of `CxxCallback`), tied to the
  real code by stream c13 (`c13-body`: exact text of the real `setup…()` / `on…()` functions, or the exact rejection
  messages).  Effects: `QV.Spec.Sem` (trace of property writes, method calls, log calls in JavaScript evaluation order) vs
  the trace recorded by the runtime mock when the real header is compiled and the signal is emitted (`spec-c13`).

  Proved for every input:
  * `signal_name_some_iff`, `signal_name_rejects`   the name mapping is defined exactly on `on[A-Z]…` and yields the
                                                    rest with its first letter lower-cased;
    `signal_name_injective`                         it is injective on its domain;
  * `uniquify_single`                               a unique method is itself;
    `chain_some`, `chain_none_iff`                  the pop loop returns the LAST overload iff every overload extends its
                                                    predecessor (same kind, same return type, leading arguments equal);
    `sortDesc_mem`, `sortDesc_sorted`               the loop runs over the overloads by increasing argument count;
    `uniquify_most_arguments`                       an accepted overload is one of the overloads and has the most arguments;
    `uniquify_ambiguous_iff`                        AMBIGUOUS (exactly): in the order of increasing argument count some
                                                    overload is not an extension of the one before it;
    `compat_trans`, `chain_all_compat`              (so in an accepted family the first overload is a prefix of every later one);
  * `callback_is_signal`                            an accepted callback is a signal found under the mapped name; a property
                                                    of that name wins; `rejected_has_message`: every other decision
                                                    but `panic` carries a message (a reading of `Decision.message`);
  * `params_accepted_iff`                           parameters are accepted iff there are at most as many as the signal has
                                                    arguments and the k-th parameter type is assignable FROM the k-th
                                                    argument type (`is_concrete_assignable(param, arg)`: equal, compatible
                                                    enum, or pointer to a base class) — parameters bind the LEADING arguments;
    `too_many_rejected`
  * `callback_trace_full_statement` (def) and `callback_trace_partial`: for the ONE handler shape `o.p = true|false`,
                                                    without parameters and run without arguments, the IR built by the
                                                    model compiler, executed in any world, performs exactly the write the
                                                    reference semantics prescribes; handlers with parameters are decided
                                                    per program by the streams.
  One handler per accepted `on<Signal>`: the text model writes ONE `QObject::connect` per callback (compared exactly with
  the real header); the executed check counts the live connections after `setup()` (exactly one, on the declaring object).
-/
import QV.Model.Callback
import QV.Props.C01

namespace QV.Props.C13
open QV.Model QV.Model.Callback QV.Model.Names
open QV.Model.IrSem QV.Proofs.SemIr
open QV.Spec.Sem (Val World Host Ev Ty STy coerceTo)

theorem signal_name_some_iff (name s : Str) :
    callbackToSignalName name = some s ↔
      ∃ c rest, name = 'o' :: 'n' :: c :: rest ∧ isAsciiUpper c = true ∧ s = toAsciiLower c :: rest := by
  constructor
  · intro h
    unfold callbackToSignalName at h
    split at h
    · rename_i c rest
      split at h
      · rename_i hc
        exact ⟨c, rest, rfl, hc, (Option.some.inj h).symm⟩
      · cases h
    · cases h
  · rintro ⟨c, rest, rfl, hc, rfl⟩
    simp only [callbackToSignalName, hc, if_true]

/-- names that are not `on` + an ASCII capital are not callbacks -/
theorem signal_name_rejects (name : Str)
    (h : ¬ ∃ c rest, name = 'o' :: 'n' :: c :: rest ∧ isAsciiUpper c = true) : callbackToSignalName name = none := by
  cases hr : callbackToSignalName name with
  | none => rfl
  | some s =>
    obtain ⟨c, rest, h1, h2, _⟩ := (signal_name_some_iff name s).mp hr
    exact absurd ⟨c, rest, h1, h2⟩ h

/-- the bound is arbitrary below 0xD800 (scalar values); `lower_injective` needs 65 … 122 -/
theorem ofNat_inj (m n : Nat) (hm : m < 1000) (hn : n < 1000) (h : Char.ofNat m = Char.ofNat n) : m = n := by
  have vm : m.isValidChar := .inl (by omega)
  have vn : n.isValidChar := .inl (by omega)
  have := congrArg Char.toNat h
  simp [Char.toNat, Char.ofNat, vm, vn, Char.ofNatAux] at this
  omega

theorem lower_injective (a b : Char) (ha : isAsciiUpper a = true) (hb : isAsciiUpper b = true)
    (h : toAsciiLower a = toAsciiLower b) : a = b := by
  simp only [toAsciiLower, ha, hb, ↓reduceIte] at h
  simp only [isAsciiUpper, Bool.and_eq_true, decide_eq_true_eq] at ha hb
  exact Char.toNat_inj.mp (Nat.add_right_cancel (ofNat_inj _ _ (by omega) (by omega) h))

/-- `onFooBar ↦ fooBar` is injective on its domain -/
theorem signal_name_injective (a b s : Str) (ha : callbackToSignalName a = some s) (hb : callbackToSignalName b = some s) :
    a = b := by
  obtain ⟨c, r, rfl, hc, rfl⟩ := (signal_name_some_iff a s).mp ha
  obtain ⟨d, q, rfl, hd, he⟩ := (signal_name_some_iff _ _).mp hb
  injection he with h1 h2
  rw [lower_injective c d hc hd h1, h2]

theorem uniquify_single (m : MethodInfo) : uniquifyMethods [m] = some (some m) := rfl

/-- consecutive overloads extend each other -/
def Extends : List MethodInfo → Prop
  | [] => True
  | [_] => True
  | a :: b :: rest => compat a b = true ∧ Extends (b :: rest)

/-- `uniquify_methods` sorts the overloads by argument count, descending, and pops from the end, keeping the last popped
    as long as it extends the one before: `chain known rest` is that loop on the popped sequence -/
theorem chain_some (known : MethodInfo) (rest : List MethodInfo) (m : MethodInfo) (h : chain known rest = some m) :
    Extends (known :: rest) ∧ (known :: rest).getLast? = some m := by
  induction rest generalizing known with
  | nil =>
    cases h
    exact ⟨trivial, rfl⟩
  | cons x xs ih =>
    simp only [chain] at h
    split at h
    · rename_i hc
      obtain ⟨h1, h2⟩ := ih x h
      rw [List.getLast?_cons_cons]
      exact ⟨⟨hc, h1⟩, h2⟩
    · cases h

theorem chain_none_iff (known : MethodInfo) (rest : List MethodInfo) :
    chain known rest = none ↔ ¬ Extends (known :: rest) := by
  induction rest generalizing known with
  | nil => exact iff_of_false (fun h => nomatch h) (fun h => h trivial)
  | cons x xs ih =>
    simp only [chain, Extends]
    split
    · rename_i hc
      rw [ih x, and_iff_right hc]
    · rename_i hc
      exact iff_of_true rfl (fun h => hc h.1)

theorem compat_trans (a b c : MethodInfo) (h1 : compat a b = true) (h2 : compat b c = true) : compat a c = true := by
  simp only [compat, Bool.and_eq_true, decide_eq_true_eq, List.isPrefixOf_iff_prefix] at h1 h2 ⊢
  exact ⟨⟨h1.1.1.trans h2.1.1, h1.1.2.trans h2.1.2⟩, h1.2.trans h2.2⟩

/-- in an accepted family the first overload is extended by every later one -/
theorem chain_all_compat (known : MethodInfo) (rest : List MethodInfo) (h : Extends (known :: rest)) :
    ∀ m ∈ rest, compat known m = true := by
  induction rest generalizing known with
  | nil => simp
  | cons x xs ih =>
    obtain ⟨h1, h2⟩ := h
    intro m hm
    rcases List.mem_cons.mp hm with rfl | hm
    · exact h1
    · exact compat_trans known x m h1 (ih x h2 m hm)

theorem insertDesc_perm (m : MethodInfo) (l : List MethodInfo) : (insertDesc m l).Perm (m :: l) := by
  induction l with
  | nil => exact .refl _
  | cons y ys ih =>
    simp only [insertDesc]
    split
    · exact (ih.cons y).trans (.swap m y ys)
    · exact .refl _

theorem sortDesc_perm (ms : List MethodInfo) : (sortDesc ms).Perm ms := by
  have gen : ∀ (l acc : List MethodInfo), (l.foldl (fun acc m => insertDesc m acc) acc).Perm (l ++ acc) := by
    intro l
    induction l with
    | nil => exact fun acc => .refl acc
    | cons y ys ih => exact fun acc => (ih _).trans (((insertDesc_perm y acc).append_left ys).trans List.perm_middle)
  have := gen ms []
  rwa [List.append_nil] at this

theorem sortDesc_mem (ms : List MethodInfo) (x : MethodInfo) : x ∈ sortDesc ms ↔ x ∈ ms :=
  (sortDesc_perm ms).mem_iff

/-- sorted by decreasing argument count -/
def SortedDesc : List MethodInfo → Prop
  | [] => True
  | a :: rest => (∀ b ∈ rest, b.args.length ≤ a.args.length) ∧ SortedDesc rest

theorem insertDesc_sorted (m : MethodInfo) (l : List MethodInfo) (h : SortedDesc l) : SortedDesc (insertDesc m l) := by
  induction l with
  | nil => exact ⟨fun _ hb => (nomatch hb), trivial⟩
  | cons y ys ih =>
    obtain ⟨h1, h2⟩ := h
    simp only [insertDesc]
    split
    · rename_i hge
      refine ⟨?_, ih h2⟩
      intro b hb
      rcases List.mem_cons.mp ((insertDesc_perm m ys).mem_iff.mp hb) with rfl | hb
      · exact hge
      · exact h1 b hb
    · rename_i hlt
      have hle : y.args.length ≤ m.args.length := Nat.le_of_lt (Nat.lt_of_not_ge hlt)
      refine ⟨?_, h1, h2⟩
      intro b hb
      rcases List.mem_cons.mp hb with rfl | hb
      · exact hle
      · exact Nat.le_trans (h1 b hb) hle

theorem sortDesc_sorted (ms : List MethodInfo) : SortedDesc (sortDesc ms) := by
  have gen : ∀ (l acc : List MethodInfo), SortedDesc acc → SortedDesc (l.foldl (fun acc m => insertDesc m acc) acc) := by
    intro l
    induction l with
    | nil => exact fun _ h => h
    | cons y ys ih => exact fun acc h => ih _ (insertDesc_sorted y acc h)
  exact gen ms [] trivial

/-- the accepted overload is one of the overloads and carries the most arguments -/
theorem uniquify_most_arguments (ms : List MethodInfo) (m : MethodInfo) (h : uniquifyMethods ms = some (some m)) :
    m ∈ ms ∧ ∀ x ∈ ms, x.args.length ≤ m.args.length := by
  unfold uniquifyMethods at h
  split at h
  · cases h
  · rename_i known rest hrev
    obtain ⟨_, hlast⟩ := chain_some known rest m (Option.some.inj h)
    -- the last one popped is the head of the sorted list
    rw [← hrev, List.getLast?_reverse] at hlast
    have hs := sortDesc_sorted ms
    cases hsd : sortDesc ms with
    | nil =>
      rw [hsd] at hlast
      cases hlast
    | cons y ys =>
      rw [hsd] at hlast hs
      cases hlast
      refine ⟨(sortDesc_mem ms m).mp (hsd ▸ List.mem_cons_self), ?_⟩
      intro x hx
      rcases List.mem_cons.mp (hsd ▸ (sortDesc_mem ms x).mpr hx) with rfl | hx'
      · exact Nat.le_refl _
      · exact hs.1 x hx'

/-- AMBIGUOUS, exactly: taken by increasing number of arguments (ties in reverse table order), some overload does not
    extend the one before it (other kind, other return type, or different leading arguments) -/
theorem uniquify_ambiguous_iff (ms : List MethodInfo) (hne : ms ≠ []) :
    uniquifyMethods ms = some none ↔ ¬ Extends (sortDesc ms).reverse := by
  unfold uniquifyMethods
  split
  · rename_i hrev
    have hperm := sortDesc_perm ms
    rw [List.reverse_eq_nil_iff.mp hrev] at hperm
    exact absurd hperm.symm.eq_nil hne
  · rename_i known rest hrev
    rw [hrev, Option.some.injEq]
    exact chain_none_iff known rest

/-- an accepted callback is a SIGNAL found under the name `on<Signal>` maps to, and no property has the binding's name -/
theorem callback_is_signal (ci : ClassInfo) (name : String) (m : MethodInfo)
    (h : resolveBinding ci name = .callback m) :
    m.kind = .signal ∧ ci.props.find? (·.name = name) = none ∧
    ∃ sn ms, callbackToSignalName name.toList = some sn ∧ ci.methods.find? (·.1 = String.ofList sn) = some (String.ofList sn, ms) ∧
      uniquifyMethods ms = some (some m) := by
  unfold resolveBinding at h
  -- each `split` opens the next `match` of `resolveBinding`; every arm but the last is another decision
  split at h  -- the property lookup
  next => cases h
  next hprop =>
    split at h  -- `callbackToSignalName`
    next => cases h
    next sn hsn =>
      dsimp only at h
      split at h  -- the method lookup
      next => cases h
      next k ms hfind =>
        have hk : k = String.ofList sn := by simpa using List.find?_some hfind
        subst hk
        split at h  -- `uniquifyMethods`
        next => cases h
        next => cases h
        next m' huniq =>
          split at h  -- the kind of the overload
          next hkind =>
            cases h
            exact ⟨hkind, hprop, sn, ms, hsn, hfind, huniq⟩
          next => cases h

/-- a decision that is neither `property`, `callback` nor `panic` carries a message: the table `Decision.message`;
    nothing about `resolveBinding` is used -/
theorem rejected_has_message (ci : ClassInfo) (cls name : String)
    (hp : ∀ p, resolveBinding ci name ≠ .property p) (hc : ∀ m, resolveBinding ci name ≠ .callback m)
    (hpanic : resolveBinding ci name ≠ .panic) :
    ((resolveBinding ci name).message cls name).isSome = true := by
  cases h : resolveBinding ci name with
  | property p => exact absurd h (hp p)
  | callback m => exact absurd h (hc m)
  | panic => exact absurd h hpanic
  | _ => rfl

/-- parameters bind the LEADING signal arguments: accepted iff not more parameters than arguments and each parameter
    type is assignable from the argument type at the same position -/
theorem params_accepted_iff (env : Env) (sig : MethodInfo) (code : CodeBody) :
    verifyCallbackParameterType env sig code = [] ↔
      code.parameterCount ≤ sig.args.length ∧
      ∀ p ∈ sig.args.zip (code.locals.take code.parameterCount), isConcreteAssignable env p.2 p.1 = true := by
  unfold verifyCallbackParameterType
  split
  · rename_i hgt
    constructor
    · intro hnil
      cases hnil
    · intro hacc
      exact absurd hacc.1 (Nat.not_le_of_gt hgt)
  · rename_i hle
    simp only [List.map_eq_nil_iff, List.filter_eq_nil_iff, Bool.not_eq_eq_eq_not, Bool.not_true, Bool.not_eq_false]
    exact ⟨fun hall => ⟨Nat.le_of_not_gt hle, hall⟩, fun hacc => hacc.2⟩

theorem too_many_rejected (env : Env) (sig : MethodInfo) (code : CodeBody) (h : sig.args.length < code.parameterCount) :
    verifyCallbackParameterType env sig code ≠ [] :=
  fun hnil => absurd ((params_accepted_iff env sig code).mp hnil).1 (Nat.not_le_of_gt h)

/-- C13's effect clause at full strength: for every handler the model compiler accepts for a signal, in every world and
    for all signal arguments where the reference semantics is defined, executing the built IR performs exactly the
    prescribed trace.  The statement concludes the trace only; `callback_trace_partial` also gives the world. -/
def callback_trace_full_statement : Prop :=
  ∀ (wc : QV.Model.Ctx) (sc : QV.Spec.Sem.Ctx) (ic : QV.Model.IrSem.ICtx), QV.Props.C01.CtxAgree wc sc ic →
  ∀ (p : Program) (code : CodeBody),
    (build wc true p).code = some code → (build wc true p).diags = [] → (build wc true p).panic = none →
  ∀ (w : QV.Spec.Sem.World) (args : List QV.Spec.Sem.Val) (r : QV.Spec.Sem.Result),
    QV.Spec.Sem.run sc p w args = some r →
    ∃ v st, QV.Model.IrSem.run ic code w args = some (v, st) ∧ st.trace = r.trace

/-- the IR the model compiler builds for the handler `o.p = true|false` -/
theorem build_property_write (wc : QV.Model.Ctx) (o p cls : String) (ci : ClassInfo) (pinfo : PropInfo) (v : Bool)
    (h1 : wc.objects.find? (·.1 = o) = some (o, cls))
    (h2 : wc.env.findClass cls = some ci)
    (h3 : ci.props.find? (·.name = p) = some pinfo)
    (h4 : pinfo.writable = true) (h5 : pinfo.ty = .bool) :
    (build wc true (.stmt (.expr (.assign (.member (.ident o) p) (.bool v))))).code =
      some { blocks := [{ statements := [.exec (.writeProperty (.namedObject o cls) pinfo (.const (.bool v)))],
                          terminator := some (.ret .void) }],
             locals := [] } := by
  refine QV.Props.C01.build_expr_stmt wc true _ .void [] _ ?_
  simp [walkRvalue, walkExpr, processIdentifier, getLocals, Locals.get?, Ctx.getRef, h1,
    processRef, processItemProperty, toConcreteType, Operand.typeDesc, Ctx.classOfType, h2, h3, TypeKind.isPointer,
    interToRvalue, getB, consume, visitObjectPropertyAssignment, h4, h5, ensureConcreteString, Builder.emitResult, Builder.alloca,
    isAssignable, pickTypeCast, pickConcreteTypeCast, ConstantValue.typeDesc, TypeDesc.bool, setB,
    bind, OptionT.bind, OptionT.mk, StateT.bind, pure, OptionT.pure, StateT.pure, get, getThe, MonadStateOf.get, StateT.get,
    modify, modifyGet, MonadStateOf.modifyGet, StateT.modifyGet, OptionT.lift, liftM, monadLift, MonadLift.monadLift,
    OptionT.run]

/-- the reference semantics of `o.p = true|false` -/
theorem spec_assign_member_bool (c : QV.Spec.Sem.Ctx) (o p : String) (v : Bool) (s : QV.Spec.Sem.St) (oid : Nat)
    (hr : QV.Spec.Sem.resolveIdent c o s = some (.val (.ptr (some oid)))) :
    QV.Spec.Sem.evalExpr c (.assign (.member (.ident o) p) (.bool v)) s =
      (QV.Spec.Sem.writeProp s oid p (.bool v)).map fun s => (.void, s) := by
  rw [QV.Spec.Sem.evalExpr.eq_def]
  simp only
  rw [QV.Spec.Sem.evalExpr.eq_def]
  simp only [hr]
  rw [QV.Spec.Sem.evalExpr.eq_def]

/-- C13's effect clause, proved END-TO-END for the handler fragment  H ::= `o.p = true | false`  (`o` an object id, `p` a
    writable bool property): the IR the model compiler builds performs, in every world, exactly the property write the
    reference semantics prescribes, and leaves the same world -/
theorem callback_trace_partial (wc : QV.Model.Ctx) (sc : QV.Spec.Sem.Ctx) (ic : ICtx) (hag : QV.Props.C01.CtxAgree wc sc ic)
    (o p cls : String) (ci : ClassInfo) (pinfo : PropInfo) (v : Bool)
    (h1 : wc.objects.find? (·.1 = o) = some (o, cls))
    (h2 : wc.env.findClass cls = some ci)
    (h3 : ci.props.find? (·.name = p) = some pinfo)
    (h4 : pinfo.writable = true) (h5 : pinfo.ty = .bool)
    (code : CodeBody)
    (hcode : (build wc true (.stmt (.expr (.assign (.member (.ident o) p) (.bool v))))).code = some code)
    (w : World) (r : QV.Spec.Sem.Result)
    (hspec : QV.Spec.Sem.run sc (.stmt (.expr (.assign (.member (.ident o) p) (.bool v)))) w [] = some r) :
    ∃ val st, IrSem.run ic code w [] = some (val, st) ∧ st.trace = r.trace ∧ st.w = r.world := by
  rw [build_property_write wc o p cls ci pinfo v h1 h2 h3 h4 h5] at hcode
  injection hcode with hcode
  subst hcode
  obtain ⟨oid, hso, hnamed⟩ := hag.objects o cls h1
  have hname : pinfo.name = p := by simpa using List.find?_some h3
  have hr : QV.Spec.Sem.resolveIdent sc o { w := w } = some (.val (.ptr (some oid))) := by
    simp [QV.Spec.Sem.resolveIdent, QV.Spec.Sem.St.lookup, hso]
  simp only [QV.Spec.Sem.run, QV.Spec.Sem.runStmt] at hspec
  rw [QV.Spec.Sem.execStmt.eq_def] at hspec
  simp only [spec_assign_member_bool sc o p v _ oid hr, QV.Spec.Sem.writeProp] at hspec
  cases hp : w.prop oid p with
  | none => simp [hp] at hspec
  | some old =>
    simp [hp, coerceTo, QV.Spec.Sem.St.emit] at hspec
    subst hspec
    -- one step of `runFrom`: the block's statement performs the write, its terminator returns `void`
    rw [IrSem.run]
    generalize initLocals _ [] = L
    rw [runFrom_step ic _ _ 0 _ ⟨w.set oid p (.bool v), L, [.write oid p (.bool v)]⟩ _ rfl]
    · exact ⟨_, _, rfl, rfl, rfl⟩
    · simp [execStatements, execStatement, evalRvalue, evalOperand, hnamed, hname, hp, coerceTo, State.emit]

example : uniquifyMethods
    [ { cls := "B", name := "clicked", args := [], ret := .void, kind := .signal },
      { cls := "B", name := "clicked", args := [.bool], ret := .void, kind := .signal } ] =
    some (some { cls := "B", name := "clicked", args := [.bool], ret := .void, kind := .signal }) := rfl

example : uniquifyMethods
    [ { cls := "V", name := "over", args := [.int], ret := .void, kind := .signal },
      { cls := "V", name := "over", args := [.string], ret := .void, kind := .signal } ] = some none := rfl

end QV.Props.C13
