/-
  C05 — static typing discipline: what the checker's model accepts is typed by the specification (soundness), and each
  type rule of the model is the specification's rule (both directions, per rule).

  The specification is `QV.Spec.Typing` (the rules of docs/language.md as a declarative checker; its header lists the
  20 decisions D1–D20 taken where the documentation is silent) and `QV.Spec.IrTyping` (typing of the IR).

  (a) PER-RULE equations between the checker's model (QV.Model.Types/Builder/Ceval = typeutil.rs, tir/builder.rs,
      tir/ceval.rs; QV.Model.TypeCheck = the checks of uigen after tir::build) and the specification, for all inputs.
  (b) SOUNDNESS of the model w.r.t. the specification (accepted ⇒ typed), one direction only: expressions with exactly the
      type of the operand produced; statements, with the walk's name map agreeing with the specification's scope
      afterwards (D15; the model mirrors typedexpr.rs as of /repo a011e08, 2a702d4 and 0aff63c); from the top, for programs that
      are one statement.  "Accepted" means `code.isSome` / `acceptsBinding` / `acceptsCallback`; none of them looks at
      `Builder.panic`, so a run the Rust code would abort counts as accepted.  There is no theorem "well-typed ⇒ accepted".
      `model_sound_full_statement` is a `def : Prop`, the statement aimed at, not proved.  Open are (i) the result clause
      of a binding — the checker decides it on the return terminators of the IR (`verify_code_return_type_iff`), the
      specification on the `return`s and tail expressions of the source; no theorem connects the two — and (ii) the
      parameters of a callback FUNCTION against the signal (D18).  Both are left to the c05 stream.
  (c) examples: the specification's checker on a small world.
-/
import QV.Proofs.TypingRules
import QV.Proofs.TypingConst
import QV.Proofs.TypingChecks
import QV.Proofs.TypingSound2
import QV.Proofs.TypingStmt

namespace QV.Props.C05
open QV.Model QV.Spec.Typing QV.Proofs.TypingRules QV.Proofs.TypingConst QV.Proofs.TypingChecks QV.Proofs.TypingSound

/-- `is_assignable` admits exactly: the same type; a pointer to a derived class where a pointer to a base is expected;
    an enum and its QFlags alias; an integer literal for int/uint; a string literal for QString; `null` for a pointer;
    `[]` for a list -/
theorem is_assignable_iff (env : Env) (e : TypeKind) (a : TypeDesc) :
    isAssignable env e a = true ↔
      a = .concrete e ∨
      (∃ d b, a = .concrete (.pointer (.cls d)) ∧ e = .pointer (.cls b) ∧ env.derives d b = true) ∨
      (∃ x y, a = .concrete (.just (.enum x)) ∧ e = .just (.enum y) ∧ env.enumCompat x y = true) ∨
      (a = .constInteger ∧ (e = .int ∨ e = .uint)) ∨
      (a = .constString ∧ e = .string) ∨
      (a = .nullPointer ∧ ∃ n, e = .pointer n) ∨
      (a = .emptyList ∧ ∃ t, e = .list t) :=
  isAssignable_iff env e a

theorem is_assignable_eq_spec (env : Env) (e : TypeKind) (a : TypeDesc) : isAssignable env e a = assignable env e a :=
  isAssignable_eq env e a

/-- sample points of "no implicit conversion" (int/double, int/uint, int/bool, literals; the general fact is
    `is_assignable_iff`), and: what is assignable has cast kind `assign`, never a static cast or a QVariant extraction -/
theorem is_assignable_never_converts (env : Env) :
    isAssignable env .double .int = false ∧ isAssignable env .int .double = false ∧
    isAssignable env .uint .int = false ∧ isAssignable env .int .uint = false ∧
    isAssignable env .int .bool = false ∧ isAssignable env .bool .int = false ∧
    isAssignable env .string .int = false ∧ isAssignable env .double .constInteger = false ∧
    isAssignable env .bool .constInteger = false ∧ isAssignable env .int (.concrete .variant) = false ∧
    (∀ e a, isAssignable env e a = true → castKind env e a = some .assign) := by
  refine ⟨rfl, rfl, rfl, rfl, rfl, rfl, rfl, rfl, rfl, rfl, fun e a h => ?_⟩
  rw [isAssignable_eq] at h
  exact (castKind_assign_iff env e a).2 h

/-- `deduce_type` succeeds exactly on pairs with one common type (D1, D3, D4: no upcast to a common base) -/
theorem deduce_type_iff (env : Env) (l r t : TypeDesc) : deduceType env l r = .ok t ↔ common env l r = some t := by
  rw [deduceType_eq]
  cases common env l r <;> simp

theorem deduce_concrete_type_iff (env : Env) (l r : TypeDesc) (k : TypeKind) :
    deduceConcreteType env l r = .ok k ↔ commonConcrete env l r = some k :=
  deduceConcreteType_ok_iff env l r k

/-- `VDerived*` and `VBase*` have no common type, in either order, even when one derives from the other -/
theorem no_common_base (env : Env) (d b : String) (h : d ≠ b) :
    common env (.concrete (.pointer (.cls d))) (.concrete (.pointer (.cls b))) = none := by
  simp [common, h]

/-- `pick_type_cast` realises exactly the specification's cast table: `noop`/`implicit` for what is assignable,
    `static_cast` for the numeric casts (int/uint/double, enum → integer, bool → integer, integer literal → double)
    and for `as void`, `QVariant::value` for a QVariant source, and `invalid` for everything else -/
theorem pick_type_cast_is_the_cast_table (env : Env) (e : TypeKind) (a : TypeDesc) :
    realises (castKind env e a) (pickTypeCast env e a) :=
  pickTypeCast_table env e a

theorem pick_type_cast_invalid_iff (env : Env) (e : TypeKind) (a : TypeDesc) :
    pickTypeCast env e a = .invalid ↔ castable env e a = false :=
  pickTypeCast_invalid_iff env e a

/-- casts that do NOT exist: integer → bool, integer → enum, double ↔ enum, bool → double, QString ↔ number,
    pointer downcast and cross cast -/
theorem casts_that_do_not_exist (env : Env) (x : String) (d b : String) (h : env.derives b d = false) (hne : d ≠ b) :
    castable env .bool .int = false ∧ castable env (.just (.enum x)) .int = false ∧
    castable env (.just (.enum x)) .double = false ∧ castable env .double (.concrete (.just (.enum x))) = false ∧
    castable env .double .bool = false ∧ castable env .int .string = false ∧ castable env .string .int = false ∧
    castable env (.pointer (.cls d)) (.concrete (.pointer (.cls b))) = false := by
  refine ⟨rfl, rfl, rfl, rfl, rfl, rfl, rfl, ?_⟩
  simp [castable, castKind, assignable, numK, intK, subclass_eq, h, Ne.symm hne, TypeKind.int, TypeKind.uint, TypeKind.double,
    TypeKind.void, TypeKind.variant]

/-- which operator tokens exist: the tables of opcode.rs are the specification's -/
theorem operator_tokens : (∀ t, UnaryToken.toOp t = unaryOf t) ∧ (∀ t, BinaryToken.toOp t = binaryOf t) :=
  ⟨fun t => (unaryOf_eq t).symm, fun t => (binaryOf_eq t).symm⟩

/-- dynamic path, unary: accepted ↔ the specification's table admits the operand type -/
theorem dynamic_unary_iff (b : Builder) (op : UnaryOp) (a : Operand) :
    okB (emitUnaryExpression b op a) = (unaryType op a.typeDesc).isSome :=
  emitUnary_okB b op a

theorem dynamic_unary_type (b : Builder) (op : UnaryOp) (a res : Operand) (b' : Builder)
    (h : emitUnaryExpression b op a = .ok (res, b')) :
    ∃ t k, unaryType op a.typeDesc = some t ∧ concreteOf t = some k ∧ res.typeDesc = .concrete k :=
  emitUnary_type b op a res b' h

/-- dynamic path, binary (`&&`/`||` are lowered elsewhere; two `null` literals are constants): accepted ↔ the table
    admits the pair of operand types -/
theorem dynamic_binary_iff (env : Env) (b : Builder) (op : BinaryOp) (l r : Operand) (hlog : ∀ o, op ≠ .logical o)
    (hnn : ¬ (l.typeDesc = .nullPointer ∧ r.typeDesc = .nullPointer)) :
    okB (emitBinaryExpression env b op l r) = (binaryType env op l.typeDesc r.typeDesc).isSome :=
  emitBinary_okB env b op l r hlog hnn

theorem dynamic_binary_type (env : Env) (b : Builder) (op : BinaryOp) (l r : Operand) (hlog : ∀ o, op ≠ .logical o)
    (hnn : ¬ (l.typeDesc = .nullPointer ∧ r.typeDesc = .nullPointer)) (res : Operand) (b' : Builder)
    (h : emitBinaryExpression env b op l r = .ok (res, b')) :
    ∃ t k, binaryType env op l.typeDesc r.typeDesc = some t ∧ concreteOf t = some k ∧ res.typeDesc = .concrete k :=
  emitBinary_type env b op l r hlog hnn res b' h

/-- constant path, unary: no type error ↔ the table admits; and the folded constant has the table's type -/
theorem constant_unary_iff (F : FloatOps) (op : UnaryOp) (a : ConstantValue) :
    typeOkB (cevalUnary F op a) = (unaryType op a.typeDesc).isSome :=
  cevalUnary_okB F op a

theorem constant_unary_type (F : FloatOps) (op : UnaryOp) (a c : ConstantValue) (h : cevalUnary F op a = .ok c) :
    unaryType op a.typeDesc = some c.typeDesc :=
  cevalUnary_type F op a c h

/-- constant path, binary: apart from `QString`-typed constants (over-rejected, F33) the folder raises a type error
    exactly where the table has no entry -/
theorem constant_binary_iff (F : FloatOps) (env : Env) (op : BinaryOp) (l r : ConstantValue) (hlog : ∀ o, op ≠ .logical o)
    (hq : isQString l = false ∧ isQString r = false) :
    typeOkB (cevalBinary F op l r) = (binaryType env op l.typeDesc r.typeDesc).isSome :=
  cevalBinary_okB F env op l r hlog hq

theorem constant_binary_type (F : FloatOps) (env : Env) (op : BinaryOp) (l r c : ConstantValue) (hlog : ∀ o, op ≠ .logical o)
    (h : cevalBinary F op l r = .ok c) :
    binaryType env op l.typeDesc r.typeDesc = some c.typeDesc :=
  cevalBinary_type F env op l r c hlog h

/-- the folder IS what `visit_*_expression` runs on constant operands, the emitter on all others -/
theorem paths (F : FloatOps) (env : Env) (b : Builder) :
    (∀ op l r, (∀ o, op ≠ .logical o) → visitBinaryExpression F env b op (.const l) (.const r) =
      (match cevalBinary F op l r with | .ok v => .ok (.const v, b) | .error e => .error e)) ∧
    (∀ op l r, ¬ ((∃ x, l = .const x) ∧ (∃ y, r = .const y)) →
      visitBinaryExpression F env b op l r = emitBinaryExpression env b op l r) ∧
    (∀ op a, visitUnaryExpression F b op (.const a) =
      (match cevalUnary F op a with | .ok v => .ok (.const v, b) | .error e => .error e)) ∧
    (∀ op a, (¬ ∃ x, a = .const x) → visitUnaryExpression F b op a = emitUnaryExpression b op a) :=
  ⟨fun op l r h => visitBinary_const F env b op l r h, fun op l r h => visitBinary_dynamic F env b op l r h,
   fun op a => visitUnary_const F b op a, fun op a h => visitUnary_dynamic F b op a h⟩

/-- on constant operands the two paths accept the same operator/type combinations, `QString`-typed
    constants and the pair of two `null`s excepted (`qstring_constants_overrejected`, `null_eq_null_paths`) -/
theorem const_dyn_consistent (F : FloatOps) (env : Env) (b : Builder) (op : BinaryOp) (l r : ConstantValue)
    (hlog : ∀ o, op ≠ .logical o) (hq : isQString l = false ∧ isQString r = false)
    (hnn : ¬ (l = .nullPointer ∧ r = .nullPointer)) :
    typeOkB (cevalBinary F op l r) = okB (emitBinaryExpression env b op (.const l) (.const r)) :=
  QV.Proofs.TypingConst.const_dyn_consistent F env b op l r hlog hq hnn

theorem const_dyn_consistent_unary (F : FloatOps) (b : Builder) (op : UnaryOp) (a : ConstantValue) :
    typeOkB (cevalUnary F op a) = okB (emitUnaryExpression b op (.const a)) :=
  QV.Proofs.TypingConst.const_dyn_consistent_unary F b op a

/-- the exception to `const_dyn_consistent` in types (finding F33): on `QString`-typed constants (`"a" as QString`) `+`, and
    comparisons against a string literal, are refused by the folder though the table and the emitter accept them -/
theorem qstring_constants_overrejected (F : FloatOps) (env : Env) (b : Builder) (x y : List Char) :
    typeOkB (cevalBinary F (.arith .add) (.qstring x) (.qstring y)) = false ∧
    okB (emitBinaryExpression env b (.arith .add) (.const (.qstring x)) (.const (.qstring y))) = true ∧
    typeOkB (cevalBinary F (.cmp .eq) (.qstring x) (.cstring y)) = false ∧
    binaryType env (.cmp .eq) (ConstantValue.qstring x).typeDesc (ConstantValue.cstring y).typeDesc = some .bool :=
  ⟨(qstring_add_overrejected F env b x y).1, (qstring_add_overrejected F env b x y).2.2,
   (qstring_cstring_overrejected F env x y).1, (qstring_cstring_overrejected F env x y).2.2.1⟩

/-- an over-rejection of a VALUE, not a type: `i64::MIN % -1` (0 mathematically) is refused by the folder (`checked_rem`) -/
theorem i64min_rem_overrejected (F : FloatOps) :
    cevalBinary F (.arith .rem) (.integer i64Min) (.integer (-1)) = .error .integerOverflow :=
  QV.Proofs.TypingConst.i64min_rem_overrejected F

/-- `null == null`: the constant path folds it, the table admits it, the emitter would say "undetermined type" (never
    reached: two literals are constants) -/
theorem null_eq_null_paths (F : FloatOps) (env : Env) (b : Builder) :
    cevalBinary F (.cmp .eq) .nullPointer .nullPointer = .ok (.bool true) ∧
    binaryType env (.cmp .eq) .nullPointer .nullPointer = some .bool ∧
    okB (emitBinaryExpression env b (.cmp .eq) (.const .nullPointer) (.const .nullPointer)) = false :=
  null_eq_null F env b

/-- an ordering comparison of two `null` literals is a type error on the constant path, as the table says (finding F30;
    the model mirrors ceval.rs as of /repo 9ae7b5c) -/
theorem null_ordering_rejected (F : FloatOps) (env : Env) (c : CmpOp) (hc : isOrdering c = true) :
    typeOkB (cevalBinary F (.cmp c) .nullPointer .nullPointer) = false ∧
    binaryType env (.cmp c) .nullPointer .nullPointer = none :=
  null_ordering_rejected_by_const_path F env c hc

/-- the dynamic path refuses an ordering comparison of pointer operands (same class, or one of them `null`) -/
theorem pointer_ordering_rejected (env : Env) (b : Builder) (c : CmpOp) (hc : isOrdering c = true)
    (l r : Operand) (k : TypeKind) (hk : ptrK k = true) (hl : l.typeDesc = .concrete k ∨ l.typeDesc = .nullPointer)
    (hr : r.typeDesc = .concrete k ∨ r.typeDesc = .nullPointer) (hnn : ¬ (l.typeDesc = .nullPointer ∧ r.typeDesc = .nullPointer)) :
    okB (emitBinaryExpression env b (.cmp c) l r) = false :=
  pointer_ordering_rejected_by_dynamic_path env b c hc l r k hk hl hr hnn

/-- `verify_code_return_type` is the last clause of rule D16 read on the IR: the operands of the return terminators
    (`Spec.IrTyping.returnTypes`) have ONE common type and it is assignable to the property -/
theorem verify_code_return_type_iff (env : Env) (code : CodeBody) (p : TypeKind) :
    verifyCodeReturnType env code p =
      (match resultType env (QV.Spec.IrTyping.returnTypes code) with
       | .ok t => assignable env p t
       | .error _ => false) :=
  verifyCodeReturnType_eq env code p

/-- `verify_callback_parameter_type` with the specification's `assignable`: not more parameters than the signal has, each
    signal argument assignable to the parameter's local (the shape of rule D18; no specification function is involved) -/
theorem verify_callback_parameter_type_iff (env : Env) (desc : MethodInfo) (code : CodeBody) :
    verifyCallbackParameterType env desc code =
      (!(code.parameterCount > desc.args.length) &&
        (desc.args.zip (code.locals.take code.parameterCount)).all fun (a, p) => assignable env p (.concrete a)) :=
  verifyCallbackParameterType_eq env desc code

/-- the statement aimed at, NOT proved: whatever the checker accepts is not ill-typed for the specification (the header
    says which parts are theorems below and what is open) -/
def model_sound_full_statement : Prop :=
  (∀ (c : Ctx) (propTy : TypeKind) (p : Program) (e : Err),
      acceptsBinding c propTy p = true → checkBinding (worldOf c) propTy p ≠ .illTyped e) ∧
  (∀ (c : Ctx) (desc : MethodInfo) (p : Program) (e : Err),
      acceptsCallback c desc p = true → checkCallback (worldOf c) desc.args p ≠ .illTyped e)

def noFloat : FloatOps :=
  { neg := id, add := fun a _ => a, sub := fun a _ => a, mul := fun a _ => a, div := fun a _ => a, rem := fun a _ => a,
    eq := fun a b => a == b, lt := fun a b => a < b, le := fun a b => a ≤ b }

/-- expressions, all forms, no exclusion: if the walk accepts an expression in a state whose local names agree with a
    scope, the specification types it in that scope with EXACTLY the type of the operand the walk produced; the walk
    leaves the name map alone and only appends temporaries -/
theorem model_sound_expr (c : Ctx) (e : Expr) (s s' : WState) (sc : Scope) (a : Operand)
    (hinv : Inv s sc) (h : run (walkRvalue c e) s = (some a, s')) :
    typeOf (worldOf c) sc e = .ok a.typeDesc ∧ s'.locals = s.locals ∧ Inv s' sc := by
  obtain ⟨hext, ht⟩ := (QV.Proofs.BuilderInv.rvalRun c e s a s' h).sound sc hinv
  exact ⟨ht, hext.locals, hinv.ext hext⟩

/-- the same for lists of arguments / array elements -/
theorem model_sound_expr_list (c : Ctx) (es : List Expr) (s s' : WState) (sc : Scope)
    (as : List Operand) (hinv : Inv s sc) (h : run (walkRvalues c es) s = (some as, s')) :
    typeOfList (worldOf c) sc es = .ok (as.map (·.typeDesc)) :=
  ((QV.Proofs.BuilderInv.rvalsRun c es s as s' h).sound sc hinv).2

/-- statements, all forms (`let`/`const`, blocks, `if`/`else`, `switch`/`case`/`default`/`break`, `return`, expression
    statements), inside or outside a switch: if the walk accepts the statement, the specification's statement checker
    accepts it — for either setting of the flags that only steer the collection of result types — and the walk's name
    map afterwards agrees with the scope the specification computes -/
theorem model_sound_stmt (c : Ctx) (bl : Option Nat) (st : Stmt) (s s' : WState) (sc : Scope)
    (hinv : Inv s sc) (h : run (walkStmt c bl st) s = (some (), s')) (last prev : Bool) :
    ∃ o, checkStmt (worldOf c) bl.isSome last prev sc st = .ok o ∧ Inv s' o.scope :=
  (sound_stmt c bl st s s' sc hinv h).2 last prev

theorem model_sound_stmts (c : Ctx) (bl : Option Nat) (ss : List Stmt) (s s' : WState) (sc : Scope)
    (hinv : Inv s sc) (h : run (walkStmts c bl ss) s = (some true, s')) (last prev : Bool) :
    ∃ o, checkStmts (worldOf c) bl.isSome last prev sc ss = .ok o ∧ Inv s' o.scope :=
  ((QV.Proofs.BuilderInv.StmtsRun.of_run h).sound sc hinv).2 last prev

/-- scoping (D15; findings F32, F40, F100): after a block, an `if` or a `switch` a name is visible iff it was visible
    before — so a name declared in the block, in a branch (braced or not) or in a `case` clause is not visible afterwards -/
theorem declared_in_block_branch_or_clause_not_visible_after (c : Ctx) (bl : Option Nat) (st : Stmt)
    (hst : (∃ ss, st = .block ss) ∨ (∃ cnd a b, st = .if_ cnd a b) ∨ (∃ v cl, st = .switch v cl))
    (s s' : WState) (sc : Scope) (hinv : Inv s sc) (h : run (walkStmt c bl st) s = (some (), s')) (n : String) :
    (s'.locals.get? n).isSome = (s.locals.get? n).isSome := by
  have h' := compound_scope_restored c bl st hst s s' sc hinv h
  rw [h'.visible_iff, hinv.visible_iff]

/-- `program_statements_sound` for a program that is one expression statement: it has a type (which one: `model_sound_expr`) -/
theorem binding_expression_sound (c : Ctx) (callback : Bool) (e : Expr)
    (h : (build c callback (.stmt (.expr e))).code.isSome = true) : ∃ t, typeOf (worldOf c) [] e = .ok t :=
  build_expr_sound c callback e h

/-- from the top: any statement program for which `tir::build` / `build_callback` produce code passes the statement checker -/
theorem program_statements_sound (c : Ctx) (callback : Bool) (st : Stmt)
    (h : (build c callback (.stmt st)).code.isSome = true) (last prev : Bool) :
    ∃ o, checkStmt (worldOf c) false last prev [] st = .ok o :=
  build_stmt_sound c callback st h last prev

/-- a callback given as a statement: accepted ⇒ `wellTyped`; of the hypothesis only "code is produced" is used
    (`checkCallback` on a statement is the statement checker) -/
theorem callback_statement_sound (c : Ctx) (desc : MethodInfo) (st : Stmt) (h : acceptsCallback c desc (.stmt st) = true) :
    checkCallback (worldOf c) desc.args (.stmt st) = .wellTyped :=
  callback_stmt_sound c desc st h desc.args

/-- a binding given as a statement: accepted ⇒ the statement checker finds no error, so `checkBinding` can only fail in
    its result clause D16; of the hypothesis only "code is produced" is used -/
theorem binding_sound_up_to_result_clause (c : Ctx) (propTy : TypeKind) (st : Stmt)
    (h : acceptsBinding c propTy (.stmt st) = true) :
    checkBinding (worldOf c) propTy (.stmt st) = .wellTyped ∨ checkBinding (worldOf c) propTy (.stmt st) = .unspecified ∨
    checkBinding (worldOf c) propTy (.stmt st) = .illTyped .resultsDisagree ∨
    checkBinding (worldOf c) propTy (.stmt st) = .illTyped .resultMismatch :=
  binding_stmt_sound c propTy st h

/-- a small world: class `A` (a QObject) with `int i`, `double d`, a read-only `int ro`, a method `f(int) : QString`,
    and class `B` deriving from `A` -/
def exEnv : Env :=
  let prop (n : String) (t : TypeKind) (w : Bool) : PropInfo :=
    { cls := "A", name := n, ty := t, readable := true, writable := w, constant := false, notify := none, readFn := n, writeFn := "" }
  let a : ClassInfo :=
    { name := "A", isObject := true, ancestors := ["A"], props := [prop "i" .int true, prop "d" .double true, prop "ro" .int false],
      methods := [("f", [{ cls := "A", name := "f", args := [.int], ret := .string, kind := .method }])], variants := [], nested := [] }
  let b : ClassInfo := { a with name := "B", ancestors := ["B", "A"] }
  { classes := [a, b], enums := [], types := [("int", .prim .int), ("double", .prim .double), ("A", .cls "A"), ("B", .cls "B")] }

def exWorld : World := { env := exEnv, objects := [("x", "A"), ("y", "B")], thisObj := some ("A", "x") }

-- well-typed for the specification: `i: x.i + 1`; upcast on assignment `let p: A = y` and a method call `p.f(1)`
example : checkBinding exWorld .int (.stmt (.expr (.binary .add (.member (.ident "x") "i") (.integer 1)))) = .wellTyped := by
  decide +kernel
example : checkBinding exWorld .string (.stmt (.block [.lexical .let_ [{ name := "p", ty := some ["A"], value := some (.ident "y") }],
    .return_ (some (.call (.member (.ident "p") "f") [.integer 1]))])) = .wellTyped := by decide +kernel
-- ill-typed: int and double mixed; int result for a double property; assignment to a read-only property; downcast
example : checkBinding exWorld .int (.stmt (.expr (.binary .add (.member (.ident "x") "i") (.member (.ident "x") "d")))) =
    .illTyped .operandType := by decide +kernel
example : checkBinding exWorld .double (.stmt (.expr (.member (.ident "x") "i"))) = .illTyped .resultMismatch := by decide +kernel
example : checkCallback exWorld [] (.stmt (.expr (.assign (.member (.ident "x") "ro") (.integer 1)))) =
    .illTyped .readOnlyProperty := by decide +kernel
example : checkCallback exWorld [] (.stmt (.lexical .let_ [{ name := "q", ty := some ["B"], value := some (.ident "x") }])) =
    .illTyped .assignMismatch := by decide +kernel
-- the hypothesis `Inv` of model_sound_expr / model_sound_stmt holds of the initial state and the empty scope
example : Inv {} [] := inv_init
-- scoping (D15): a name declared directly in an `if` branch or in a `case` clause is out of scope afterwards, and (third
-- example, F100) in the FOLLOWING clause: the head may jump there directly
example : checkBinding exWorld .int (.stmt (.block [.if_ (.binary .equal (.member (.ident "x") "i") (.integer 1))
    (.lexical .let_ [{ name := "v", ty := none, value := some (.integer 2) }]) none, .return_ (some (.ident "v"))])) =
    .illTyped .undefinedName := by decide +kernel
example : checkBinding exWorld .int (.stmt (.block [.switch (.member (.ident "x") "i")
    [(some (.integer 1), [.lexical .let_ [{ name := "v", ty := none, value := some (.integer 2) }], .break_ false])],
    .return_ (some (.ident "v"))])) = .illTyped .undefinedName := by decide +kernel
example : checkBinding exWorld .int (.stmt (.block [.switch (.member (.ident "x") "i")
    [(some (.integer 1), [.lexical .let_ [{ name := "v", ty := none, value := some (.integer 2) }]]),
     (some (.integer 2), [.return_ (some (.ident "v"))])], .return_ (some (.integer 0))])) = .illTyped .undefinedName := by
  decide +kernel
-- the tables are not empty and not full
example : binaryType exEnv (.arith .add) .int .constInteger = some .int := by decide +kernel
example : binaryType exEnv (.arith .add) .int .double = none := by decide +kernel
example : castKind exEnv .int .double = some .numeric ∧ castKind exEnv .bool .int = none := by decide +kernel

end QV.Props.C05
