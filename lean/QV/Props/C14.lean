/-
  C14 — The dynamic-binding mode changes only the support code and its diagnostics.

  Model : QV.Model.Passes (`run`): code maps → constant pass → left-over attached check → mode switch
          (`cxxAll` for generate, `rejectAll` for reject, the diagnostics of `cxxAll` without the header for omit).
  Tie   : stream `c14` (every document in the three modes in-process: .ui bytes, acceptance, header scan,
          diagnostic multisets; and per-mode diagnostics vs the model).
-/
import QV.Proofs.PassesModes

namespace QV.Props.C14
open QV.Model.Passes QV.Proofs.Passes

/-- The form does not depend on the mode: the placed objects, whether a form was built and whether a
    consumer panicked are fixed before the mode switch, and the form is a function of exactly that state. -/
theorem form_mode_independent (m1 m2 : Mode) (doc : Forest) :
    (run m1 doc).form = (run m2 doc).form ∧ (run m1 doc).objects = (run m2 doc).objects ∧
      (run m1 doc).built = (run m2 doc).built ∧ (run m1 doc).panic = (run m2 doc).panic := by
  obtain ⟨o1, b1, p1⟩ := run_state m1 doc
  obtain ⟨o2, b2, p2⟩ := run_state m2 doc
  have ho := o1.trans o2.symm
  have hb := b1.trans b2.symm
  have hp := p1.trans p2.symm
  exact ⟨by simp only [Result.form, ho, hb, hp], ho, hb, hp⟩

/-- The state of a cell after the constant pass is its route: the cell is initialised exactly when some
    consumer reached the binding — whatever the outcome of the evaluation. -/
theorem cell_state_is_route (r : Route) (l : Leaf) : (constLeaf r l).evaluated = (r != .untouched) :=
  constLeaf_evaluated r l

/-- `constLeaf r l` takes no earlier record: the idempotence of `evaluate()` is built into the model, and the statement
    only applies a constant function -/
theorem evaluate_idem (r : Route) (l : Leaf) :
    (fun _first : LeafOut => constLeaf r l) (constLeaf r l) = constLeaf r l := rfl

/-- `is_evaluated_constant()` is "initialised ∧ constant": false for code nobody evaluated -/
theorem evalConst_is_route_and_const (r : Route) (l : Leaf) :
    (constLeaf r l).evalConst l = (r != .untouched && l.const.isSome) := by
  simp [LeafOut.evalConst, cell_state_is_route, Leaf.isConst]

/-- `reject` accepts exactly the documents for which `generate` succeeds with empty support code: no
    `CxxBinding`, no connected callback (and no error of the C++ pass). -/
theorem reject_iff_empty_generate (doc : Forest) :
    (run .reject doc).accepted = true ↔
      ((run .generate doc).accepted = true ∧
        ∃ s, (run .generate doc).support = some s ∧ s.bindings = [] ∧ s.connected = []) := by
  cases h : valid doc
  · obtain ⟨_, hr, _⟩ := run_invalid .reject doc h
    obtain ⟨_, hg, _⟩ := run_invalid .generate doc h
    simp [Result.accepted, hr, hg]
  · rw [run_valid .reject doc h, run_valid .generate doc h]
    simp only [Result.accepted, Bool.true_and, Bool.and_eq_true, List.isEmpty_iff, List.append_eq_nil_iff,
      rejectAll_nil_iff, Option.some.injEq]
    constructor
    · rintro ⟨hp, hc, hd, hb, hcon⟩
      exact ⟨⟨hp, hc, hd⟩, _, rfl, hb, hcon⟩
    · rintro ⟨⟨hp, hc, hd⟩, s, rfl, hb, hcon⟩
      exact ⟨hp, hc, hd, hb, hcon⟩

/-- `omit` reports exactly what `generate` reports: preview mode builds the support code for its diagnostics and
    discards it (/repo commit c47e7fb, the repair of F21), so the two modes differ only in the presence of the header. -/
theorem omit_errors_eq_generate (doc : Forest) : (run .omit doc).diags = (run .generate doc).diags :=
  run_omit_diags doc

/-- the clause of the property: any error reported in omit mode is also reported in generate mode -/
theorem omit_errors_subset_generate (doc : Forest) :
    (run .omit doc).diags.Sublist (run .generate doc).diags := by
  rw [omit_errors_eq_generate]
  exact List.Sublist.refl _

theorem omit_accepted_iff_generate (doc : Forest) : (run .omit doc).accepted = (run .generate doc).accepted := by
  obtain ⟨_, hb, hp⟩ := run_state .generate doc
  simp only [Result.accepted, omit_errors_eq_generate doc, hb, hp]

/-- the diagnostics of the phases before the mode switch are reported, in the same order, in every mode; each mode
    only appends its own -/
theorem common_errors_in_every_mode (m : Mode) (doc : Forest) (h : valid doc = true) :
    (commonDiags (place .root doc).1 (place .root doc).2).Sublist (run m doc).diags := by
  rw [run_valid m doc h]
  exact List.sublist_append_left _ _

theorem reject_only_errors_are_rej (doc : Forest) :
    ∀ d ∈ (run .reject doc).diags, d ∈ (run .omit doc).diags ∨ d.kind = .rejDynamic ∨
      d.kind = .rejNotWritable ∨ d.kind = .rejCallback := by
  intro d hd
  cases h : valid doc
  · rw [(run_invalid .reject doc h).1] at hd
    exact .inl hd
  · rw [run_valid .reject doc h] at hd
    rw [run_valid .omit doc h]
    simp only [List.mem_append] at hd
    rcases hd with hd | hd
    · exact .inl (List.mem_append_left _ hd)
    · exact .inr (rejectAll_diags _ d hd)

/-- Reject mode refuses every binding the constant pass left unevaluated, constant or not: a top-level property
    whose cell was never initialised (a pseudo property excluded from the generic pass and picked up by nobody, e.g.
    `separator` of an action that has other bindings) is not an evaluated constant, so reject mode reports it. -/
theorem unevaluated_binding_refused_by_reject (doc : Forest) :
    ∀ p ∈ (run .reject doc).objects, ∀ e ∈ p.props, e.evalConst = false → (run .reject doc).accepted = false := by
  intro p hp e he hec
  have hv := valid_of_mem_objects hp
  rw [run_valid .reject doc hv] at hp ⊢
  have hne : rejectAll (place .root doc).1 ≠ [] := by
    intro hnil
    have hall := (rejectAll_entries_nil (place .root doc).1 hnil) p hp e he
    rw [hall] at hec
    exact Bool.noConfusion hec
  simp [Result.accepted, hne]

/-- A header is produced only by `generate`, and then whenever a form was built. -/
theorem header_only_generate (m : Mode) (doc : Forest) :
    (run m doc).support.isSome = true ↔ (m = .generate ∧ (run m doc).built = true) := by
  cases h : valid doc
  · obtain ⟨_, hb, _, _, hs⟩ := run_invalid m doc h
    simp [hb, hs]
  · rw [run_valid m doc h]
    cases m <;> simp

/-- a widget with one dynamic binding (`text: other.text`) and one constant -/
private def dyn : Forest :=
  .cons { oid := 0, isWidget := true
          entries := [.leaf { id := 10, name := "text".toList },
                      .leaf { id := 11, name := "enabled".toList, const := some (.ok 1) }] } .nil .nil

/-- constants only -/
private def static : Forest :=
  .cons { oid := 0, isWidget := true
          entries := [.leaf { id := 11, name := "enabled".toList, const := some (.ok 1) }] }
    (.cons { oid := 1, isAction := true
             entries := [.leaf { id := 12, name := "separator".toList, const := some (.ok 1) }] } .nil .nil) .nil

example : (run .generate dyn).accepted = true ∧ (run .reject dyn).accepted = false ∧
    (run .omit dyn).accepted = true ∧
    (run .generate dyn).support.map (·.bindings) = some [10] ∧
    (run .reject dyn).diags = [⟨10, .rejDynamic⟩] ∧
    (run .generate dyn).form = some [(0, .widget, [(11, 1)])] ∧
    (run .reject dyn).form = (run .generate dyn).form ∧ (run .omit dyn).form = (run .generate dyn).form := by
  simp only [(form_mode_independent .reject .generate dyn).1, (form_mode_independent .omit .generate dyn).1, and_true]
  decide +kernel

example : (run .generate static).accepted = true ∧ (run .reject static).accepted = true ∧
    (run .omit static).accepted = true ∧
    (run .generate static).support = some { bindings := [], generated := [], repeated := [], connected := [] } ∧
    (run .omit static).form = some [(0, .widget, [(11, 1)]), (1, .action, [(12, 1)])] := by
  decide +kernel

/-- an ill-typed dynamic binding is reported in preview mode as in generate mode, without a header -/
example : let doc : Forest := .cons { oid := 0, isWidget := true
                                      entries := [.leaf { id := 10, name := "text".toList, retTypeOk := false }] } .nil .nil
    (run .omit doc).diags = [⟨10, .cxxRetType⟩] ∧ (run .generate doc).diags = [⟨10, .cxxRetType⟩] ∧
    (run .omit doc).support = none ∧ (run .omit doc).accepted = false := by
  decide +kernel

/-- `QAction { separator: true; text: "x" }` -/
private def sepWithText : Forest :=
  .cons { oid := 0, isWidget := true }
    (.cons { oid := 1, isAction := true
             entries := [.leaf { id := 10, name := "separator".toList, const := some (.ok 1) },
                         .leaf { id := 11, name := "text".toList, const := some (.ok 7) }] } .nil .nil) .nil

/-- `separator` is constant but excluded from the .ui and never evaluated: generate mode emits a binding for it, reject
    mode refuses the document -/
example : (run .generate sepWithText).accepted = true ∧
    (run .generate sepWithText).support.map (·.bindings) = some [10] ∧
    (run .reject sepWithText).accepted = false ∧ (run .reject sepWithText).diags = [⟨10, .rejDynamic⟩] := by
  decide +kernel

/-- a callback alone makes `reject` refuse, with an empty binding list -/
example : let doc : Forest := .cons { oid := 0, isWidget := true, callbacks := [{ id := 20 }] } .nil .nil
    (run .generate doc).accepted = true ∧ (run .reject doc).accepted = false ∧
    (run .generate doc).support.map (·.connected) = some [20] := by
  decide +kernel

end QV.Props.C14
