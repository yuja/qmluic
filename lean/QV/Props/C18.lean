/-
  C18 — QML components in directories resolve as custom widgets, in any order.

  Model : QV.Model.QmlDir (its head names the Rust units mirrored)
  Spec  : QV.Spec.QmlDir (`Resolves`, `Edge`, `Reach`: visibility of directories by string imports)
  Tie   : harness stream `c18` — generated directory layouts materialised in a temp dir, the real
          populate_directories + uigen::build run in-process for every permutation of the sources; directory
          set, component table (with resolved super classes), diagnostics, widgets and <customwidgets> of the
          real outputs are compared with the model (kind=model), the directory set with the specification
          (kind=spec), and order-independence / exact-once / reachability are also evaluated on the real
          outputs (kind=oracle).

  Symbolic links are outside the model; the stream checks them on the real file system (oracles `c18-once`,
  `c18-resolve`).

  `cliRun` is the loop of `generate_ui` of /repo since 73d3cab, which goes on after a rejected source (finding F15);
  of `cliRunFailFast`, the loop before, the order-independence clause is false (`f15_fail_fast_witness`).

  All theorems quantify over every tree (any import and root-type relation, cycles included), every source
  list and — where it matters — every permutation of it.
-/
import QV.Proofs.QmlDir

namespace QV.Props.C18
open QV.Model.QmlDir QV.Proofs.QmlDir
open QV.Spec.QmlDir (Reach)

/-- **Directory discovery terminates**: on every tree and source list the work-list finishes within
    `fuelBound` iterations (so `populate` is total), whatever the directories import — mutually, themselves,
    or nothing that exists. -/
theorem discovery_terminates (t : Tree) (srcDirs : List Path) : ∃ r, populate t srcDirs = some r :=
  Option.isSome_iff_exists.1 (run_isSome _ _ (measure_init_lt t srcDirs))

/-- Fuel adequacy: any larger iteration budget gives the same result. -/
theorem discovery_fuel_irrelevant (t : Tree) (srcDirs : List Path) (r : PopResult) (k : Nat)
    (h : populate t srcDirs = some r) : run t (fuelBound t srcDirs + k) (initState srcDirs) = some r :=
  run_mono _ k _ r h

/-- Each iteration strictly decreases `pending + (pushBound + 1) · #unvisited directories`. -/
theorem discovery_measure_decreases (t : Tree) (s s' : PState) (h : step t s = .next s') :
    QV.Proofs.QmlDir.measure t s' < QV.Proofs.QmlDir.measure t s := measure_step h

/-- **The base-class walk terminates on mutually inheriting components** (`A : B`, `B : A`, `A : A`, …):
    on a type map that holds modules of the tree, `basesOf` never runs out of fuel, hence neither does the
    translation of a document. -/
theorem inheritance_walk_terminates (env : Env) (t : Tree) (look : Path → Option Module) (hs : SoundLook t look)
    (c : CompData) : ∃ l, basesOf env t look c = some l :=
  Option.isSome_iff_exists.1 (basesOf_isSome hs c)

theorem translation_terminates (env : Env) (t : Tree) (look : Path → Option Module) (hs : SoundLook t look)
    (base : Path) (f : File) : ∃ o, translate env t look base f = some o :=
  Option.isSome_iff_exists.1 (translate_isSome hs base f)

/-- **Every directory is processed exactly once.**  The type map never holds a directory twice (keys are canonical
    paths, so two spellings of a directory — or two directories importing each other — are one entry). -/
theorem each_directory_inserted_once (t : Tree) (srcDirs : List Path) (ms : DirMap)
    (h : populate t srcDirs = some (.ok ms)) : ms.keys.Nodup :=
  run_keys_nodup _ _ ms (by simp [initState, DirMap.keys]) h

/-- The number of directories READ during the whole discovery (iterations of the work-list that do not hit
    the "already visited" test: one `read_dir` and one pass over the files each) is exactly the number of
    directory modules in the result — no directory is read twice, however often it is imported. -/
theorem directories_read_once (t : Tree) (srcDirs : List Path) (ms : DirMap)
    (h : populate t srcDirs = some (.ok ms)) :
    readsOf t (fuelBound t srcDirs) (initState srcDirs) = ms.length := by
  have := run_reads (fuelBound t srcDirs) (initState srcDirs) ms h
  simpa [initState] using this

/-- **How a directory import is spelled does not matter**: `./x`, `x/`, `x/.`, `a//b`, `a/./b` and a detour
    `n/..` through an existing directory resolve to the same canonical directory (or fail alike), hence give the
    same module id in the component's import list and the same entry of the document's module space. -/
theorem import_spelling_irrelevant (t : Tree) (base : Path) (a b : List String) :
    resolve t base ("." :: a) = resolve t base a
    ∧ resolve t base (a ++ [""]) = resolve t base a
    ∧ resolve t base (a ++ ["."]) = resolve t base a
    ∧ resolve t base (a ++ "" :: b) = resolve t base (a ++ b)
    ∧ resolve t base (a ++ "." :: b) = resolve t base (a ++ b) := by
  have h1 := walk_skip t base "." (.inl rfl) a
  have h2 := walk_insert t base a [] "" (.inr rfl)
  have h3 := walk_insert t base a [] "." (.inl rfl)
  have h4 := walk_insert t base a b "" (.inr rfl)
  have h5 := walk_insert t base a b "." (.inl rfl)
  simp only [List.append_nil] at h2 h3
  simp only [resolve, h1, h2, h3, h4, h5, and_self]

theorem import_detour_irrelevant (t : Tree) (base : Path) (n : String) (rest : List String)
    (hn : n ≠ "." ∧ n ≠ "" ∧ n ≠ "..") (hd : isDir t (base ++ [n]) = true) :
    resolve t base (n :: ".." :: rest) = resolve t base rest := by
  simp only [resolve, walk_down_up t base n rest hn hd]

/-- two spellings that resolve alike are the same import -/
theorem same_directory_same_module (t : Tree) (base : Path) (s1 s2 : List String)
    (h : resolve t base s1 = resolve t base s2) : importId t base (.dir s1) = importId t base (.dir s2) := by
  simp [importId, h]

/-- Sources are existing files, so their directories exist: discovery then succeeds (the only error the
    model has, `ReadDir`, needs a directory that is not there). -/
theorem discovery_succeeds (t : Tree) (srcDirs : List Path) (hsrc : ∀ p ∈ srcDirs, isDir t p = true) :
    ∃ ms, populate t srcDirs = some (.ok ms) := by
  obtain ⟨r, hr⟩ := discovery_terminates t srcDirs
  obtain ⟨ms, rfl, _⟩ := run_spec _ _ r (inv_init hsrc) hr
  exact ⟨ms, hr⟩

/-- **A directory module is in the type map iff the directory is visible from a source**: it is a
    source's directory or is reached from one through string imports (resolved component-wise, through
    existing directories only) of files that have a root object. -/
theorem discovered_iff_reachable (t : Tree) (srcDirs : List Path) (ms : DirMap)
    (hsrc : ∀ p ∈ srcDirs, isDir t p = true) (h : populate t srcDirs = some (.ok ms)) (p : Path) :
    ms.contains p = true ↔ Reach (specOf t) srcDirs p := by
  obtain ⟨ms', hms, hiff, _⟩ := run_spec _ _ _ (inv_init hsrc) h
  cases hms
  rw [hiff, mreach_iff_reach]

/-- The module stored for a discovered directory is the component list of that directory. -/
theorem discovered_module (t : Tree) (srcDirs : List Path) (ms : DirMap)
    (hsrc : ∀ p ∈ srcDirs, isDir t p = true) (h : populate t srcDirs = some (.ok ms)) (p : Path) (m : Module)
    (hm : ms.get? p = some m) : ∃ d, findDir t p = some d ∧ m = moduleOf t d :=
  ((discovered_get? hsrc h p m).1 hm).2

/-- **A component is a class with one super class — the type of its root object — and its own import
    list** (builtins, its own directory, then its imports in order; string imports that are no directory
    are dropped); files without a root object define nothing. -/
theorem component_class (t : Tree) (d : Dir) (c : CompData) :
    c ∈ moduleOf t d ↔ ∃ f ∈ d.files, f.hasRoot = true ∧
      c = { name := f.stem, super := f.root.typeName,
            imports := [.builtins, .dir d.path] ++ f.imports.filterMap (importId t d.path) } :=
  mem_moduleOf

/-- The type map discovery produces is sound for the tree (what the termination theorems above need). -/
theorem discovered_sound (t : Tree) (srcDirs : List Path) (ms : DirMap)
    (hsrc : ∀ p ∈ srcDirs, isDir t p = true) (h : populate t srcDirs = some (.ok ms)) : SoundLook t ms.get? := by
  intro p m hm
  obtain ⟨d, hd, rfl⟩ := discovered_module t srcDirs ms hsrc h p m hm
  exact ⟨d, (findDir_some hd).1, (findDir_some hd).2, rfl⟩

/-- **The set of directory modules does not depend on the order of the sources**: for any permutation
    of the source list both runs succeed and the two type maps agree as maps (same directories, same
    module for each). -/
theorem discovery_order_independent (t : Tree) (srcs srcs' : List Path) (hperm : srcs.Perm srcs')
    (hsrc : ∀ p ∈ srcs, isDir t p = true) :
    ∃ ms ms', populate t srcs = some (.ok ms) ∧ populate t srcs' = some (.ok ms') ∧ ms.get? = ms'.get? := by
  have hsrc' : ∀ p ∈ srcs', isDir t p = true := fun p hp => hsrc p (hperm.mem_iff.2 hp)
  obtain ⟨ms, h⟩ := discovery_succeeds t srcs hsrc
  obtain ⟨ms', h'⟩ := discovery_succeeds t srcs' hsrc'
  refine ⟨ms, ms', h, h', funext fun p => Option.ext fun m => ?_⟩
  rw [discovered_get? hsrc h, discovered_get? hsrc' h']
  exact and_congr_left' ⟨MReach.mono fun q hq => hperm.mem_iff.1 hq, MReach.mono fun q hq => hperm.mem_iff.2 hq⟩

/-- **The output for a source does not depend on the order in which sources are named**: the translation
    of any document against the type map of one order equals its translation against the type map of any
    other order. -/
theorem outputs_independent_of_argument_order (env : Env) (t : Tree) (srcs srcs' : List Path)
    (hperm : srcs.Perm srcs') (hsrc : ∀ p ∈ srcs, isDir t p = true) :
    ∃ ms ms', populate t srcs = some (.ok ms) ∧ populate t srcs' = some (.ok ms') ∧
      ∀ (base : Path) (f : File), translate env t ms.get? base f = translate env t ms'.get? base f := by
  obtain ⟨ms, ms', h, h', heq⟩ := discovery_order_independent t srcs srcs' hperm hsrc
  exact ⟨ms, ms', h, h', fun base f => by rw [heq]⟩

/-- **Exactly the custom classes instantiated, each once.**  For every document for which a form is built:
    * no class name is listed twice;
    * an entry is listed iff some object of the document (root or child) has a type that resolves, in the
      document's imports, to a component whose own root type resolves in the COMPONENT's imports; the entry
      carries the component's name, the name of that root class as `extends` and the lower-cased
      `<name>.h` as header;
    * if the document is accepted (no error diagnostics) every instantiated component is listed. -/
theorem customwidgets_exact (env : Env) (t : Tree) (look : Path → Option Module) (base : Path) (f : File)
    (o : Output) (h : translate env t look base f = some o) (hb : o.built = true) :
    let sp := (docSpace env t look base f.imports).1
    (o.customs.map (·.cls)).Nodup ∧
    (∀ w, w ∈ o.customs ↔ ∃ ob d c s, (ob ∈ f.children ∨ ob = f.root) ∧
        getType env look sp ob.typeName = .ok (.comp d c) ∧ superClass env look c = .ok s ∧
        w = { cls := c.name, ext := s.name, header := headerName c.name }) ∧
    (o.accepted = true → ∀ ob d c, (ob ∈ f.children ∨ ob = f.root) →
        getType env look sp ob.typeName = .ok (.comp d c) → ∃ w ∈ o.customs, w.cls = c.name) := by
  intro sp
  obtain ⟨rootCls, kids, root, hroot, hk, hr, hc, _, hdiag⟩ := translate_built h hb
  refine ⟨?_, fun w => ?_, fun hacc ob d c hob hty => ?_⟩
  · rw [hc]; exact customWidgets_nodup hroot
  · rw [hc, mem_customWidgets]
    constructor
    · rintro ⟨d, c, s, ⟨ob, hob⟩, hs, hw⟩
      obtain ⟨h1, h2⟩ := (mem_nodesOf hroot).1 hob
      exact ⟨ob, d, c, s, h1, h2, hs, hw⟩
    · rintro ⟨ob, d, c, s, h1, h2, hs, hw⟩
      exact ⟨d, c, s, ⟨ob, (mem_nodesOf hroot).2 ⟨h1, h2⟩⟩, hs, hw⟩
  · have hn : (ob, Cls.comp d c) ∈ nodesOf env look sp f rootCls := (mem_nodesOf hroot).2 ⟨hob, hty⟩
    obtain ⟨hrootDiag, hkidDiag⟩ := hdiag (accepted_iff.1 hacc).2
    -- the node's base list passes the class test (root: a widget; child: a widget, a layout or an action)
    have hw : ∃ b r, clsBases env t look (.comp d c) = some b ∧ passesClass r b = true := by
      rcases List.mem_append.1 hn with hn | hn
      · obtain ⟨i, hi, _, _, hb'⟩ := infos_mem _ _ hk _ hn
        exact ⟨i.bases, false, hb', classDiag_nil_iff.1 (hkidDiag i hi)⟩
      · obtain ⟨i, hi, _, _, hb'⟩ := infos_mem _ _ hr _ hn
        cases List.mem_singleton.1 hi
        exact ⟨_, true, hb', classDiag_nil_iff.1 hrootDiag⟩
    obtain ⟨b, r, hb', hwb⟩ := hw
    obtain ⟨s, hs⟩ := passesClass_super_ok (clsBases_bases hb') hwb
    rw [hc]
    exact ⟨_, mem_customWidgets.2 ⟨d, c, s, ⟨ob, hn⟩, hs, rfl⟩, rfl⟩

/-- The header name is the class name plus `.h`, ASCII-lower-cased (`FileNameRules::default()`). -/
theorem header_rule (n : String) : headerName n = String.ofList ((n.toList ++ ['.', 'h']).map asciiLower) := rfl

/-- **An instance of a component accepts every property its base class accepts** (and is a widget if the
    base class is one): if the component's root type resolves to class `s`, and a binding to `p` on an
    object of class `s` is accepted, then the same binding on an object of the component is accepted —
    through any number of intermediate components, each resolved in its own imports. -/
theorem instances_accept_base_properties (env : Env) (t : Tree) (look : Path → Option Module)
    (hs : SoundLook t look) (c : CompData) (s : Cls) (hsup : superClass env look c = .ok s)
    (bs : List BaseItem) (hb : clsBases env t look s = some bs) :
    ∃ bc, basesOf env t look c = some bc ∧
      (∀ p, propIn p bs = .found → propIn p bc = .found) ∧ (derivesWidget bs = true → derivesWidget bc = true) := by
  obtain ⟨bc, hbc⟩ := inheritance_walk_terminates env t look hs c
  -- if the chain of `c` ends in a Qt class `q`, the base list `bc` of `c` answers every look-up as `q` does
  have key : ∀ {k q}, ReachesQt env look k c q →
      (∀ p, propIn p bc = if p ∈ q.props then .found else .unknown) ∧ ∀ sel, derivesQt sel bc = sel q :=
    fun hk => bases_of_reaches hk (baseClasses_bases _ hbc) nofun
  refine ⟨bc, hbc, ?_⟩
  rw [derivesWidget_eq_derivesQt, derivesWidget_eq_derivesQt]
  cases s with
  | qt q =>
    cases hb
    obtain ⟨hp, hsel⟩ := key (.base hsup)
    exact ⟨fun p hf => (hp p).trans hf, fun hw => (hsel _).trans hw⟩
  | comp d c' =>
    have hB := clsBases_bases hb
    refine ⟨fun p hf => ?_, fun hw => ?_⟩
    · obtain ⟨k, q, hk, hmem⟩ := (reachesQt_of_found hB).1 hf
      rw [(key (.step hsup hk)).1, if_pos hmem]
    · obtain ⟨k, q, hk⟩ := (reachesQt_of_found hB).2 hw
      exact ((key (.step hsup hk)).2 _).trans (((bases_of_reaches hk hB nofun).2 _).symm.trans hw)

/-- **A chain of components behaves like the Qt class it ends in.**  `ReachesQt env look k c q`: following root
    types from `c`, each resolved in the imports of the component that names it, `k` components are passed and then the
    Qt class `q` is reached (the links may lie in one directory or each in another one).  Then the base-class
    walk of `c` reaches `q` whatever its length: a property is found on an instance of `c` iff `q` has it (own and
    inherited alike — `q.props` is what `get_property` resolves on `q`), every other property is `unknown` (never a
    resolution failure), and `c` is a widget / a layout / an action iff `q` is one. -/
theorem chain_accepts_end_class_properties (env : Env) (t : Tree) (look : Path → Option Module)
    (hs : SoundLook t look) {k : Nat} {c : CompData} {q : QtClass} (h : ReachesQt env look k c q) :
    ∃ l, basesOf env t look c = some l ∧
      (∀ p, propIn p l = .found ↔ p ∈ q.props) ∧ (∀ p, p ∉ q.props → propIn p l = .unknown) ∧
      derivesWidget l = q.isWidget ∧ derivesLayout l = q.isLayout ∧ derivesAction l = q.isAction := by
  obtain ⟨l, hl⟩ := inheritance_walk_terminates env t look hs c
  obtain ⟨hp, hsel⟩ := bases_of_reaches h (baseClasses_bases _ hl) nofun
  refine ⟨l, hl, fun p => ?_, fun p hn => ?_, (derivesWidget_eq_derivesQt l).trans (hsel _), hsel _, hsel _⟩
  · rw [hp p]; split <;> simp_all
  · rw [hp p, if_neg hn]

/-- **What the form makes of an instance of a chain component.**  With the base list of the theorem above: the
    binding of an instance is written to the `.ui` iff the end class has the property, otherwise it is diagnosed
    `unknown property of class '<component>'` and nothing else; as the ROOT object the instance passes iff the end
    class is a widget (else `is not a QWidget`), as a CHILD iff it is a widget, a layout or an action (else
    `is not a QAction, QLayout, nor QWidget`). -/
theorem chain_instance_accepted (env : Env) (t : Tree) (look : Path → Option Module) (hs : SoundLook t look)
    {k : Nat} {c : CompData} {q : QtClass} (h : ReachesQt env look k c q) (n : NodeInfo) (d : Path)
    (hc : n.cls = .comp d c) (hb : basesOf env t look c = some n.bases) :
    (∀ p, n.obj.prop = some p → p ∈ q.props → bindingOf n = ([p], [])) ∧
    (∀ p, n.obj.prop = some p → p ∉ q.props → bindingOf n = ([], [.unknownProperty c.name p])) ∧
    (classDiag true n = [] ↔ q.isWidget = true) ∧
    (classDiag false n = [] ↔ (q.isAction = true ∨ q.isLayout = true ∨ q.isWidget = true)) ∧
    (classDiag true n = [] ∨ classDiag true n = [.notQWidget c.name]) ∧
    (classDiag false n = [] ∨ classDiag false n = [.notActionLayoutWidget c.name]) := by
  obtain ⟨l, hl, hfound, hunk, hw, hlay, hact⟩ := chain_accepts_end_class_properties env t look hs h
  rw [hb] at hl; cases hl
  have hname : n.cls.name = c.name := by rw [hc]; rfl
  refine ⟨?_, ?_, ?_, ?_, ?_, ?_⟩
  · intro p hp hmem
    simp only [bindingOf, hp, (hfound p).2 hmem]
  · intro p hp hmem
    simp only [bindingOf, hp, hunk p hmem, hname]
  · rw [classDiag_nil_iff, passesClass, if_pos rfl, hw]
  · rw [classDiag_nil_iff, passesClass, if_neg Bool.false_ne_true, hact, hlay, hw, Bool.or_eq_true, Bool.or_eq_true,
      or_assoc]
  · rw [classDiag, if_pos rfl, hname]
    split
    · exact .inl rfl
    · exact .inr rfl
  · rw [classDiag, if_neg Bool.false_ne_true, hname]
    split
    · exact .inl rfl
    · exact .inr rfl

/-- **A chain that runs into a cycle never becomes a widget.**  If the chain (`chainAt`) comes back to a component it has
    passed (`A : B, B : A`; `A : A`; `C : A, A : B, B : A` — in one directory or across), then the walk over the base classes
    of `c` still terminates, and its result contains no Qt class: `c` is no widget, no layout and no action — so every
    document that instantiates `c` is rejected by the class test — and every property looked up on it is `unknown`. -/
theorem cyclic_chain_never_widget (env : Env) (t : Tree) (look : Path → Option Module) (hs : SoundLook t look)
    (c : CompData) (i j : Nat) (x : Path × CompData) (hij : i < j)
    (hi : chainAt env look i c = some x) (hj : chainAt env look j c = some x) :
    ∃ l, basesOf env t look c = some l ∧ derivesWidget l = false ∧ derivesLayout l = false ∧
      derivesAction l = false ∧ passesClass true l = false ∧ passesClass false l = false ∧
      ∀ p, propIn p l = .unknown := by
  obtain ⟨l, hl⟩ := inheritance_walk_terminates env t look hs c
  obtain ⟨hsel, hp⟩ := bases_forever (baseClasses_bases _ hl) (chainAt_forever hij hi hj)
  have hw := (derivesWidget_eq_derivesQt l).trans (hsel _)
  refine ⟨l, hl, hw, hsel _, hsel _, ?_, ?_, hp⟩
  · simp [passesClass, hw]
  · simp [passesClass, hw, derivesLayout, derivesAction, hsel]

/-- An instance of a component whose chain runs into a cycle is always diagnosed, as root and as child. -/
theorem cyclic_chain_instance_rejected (env : Env) (t : Tree) (look : Path → Option Module) (hs : SoundLook t look)
    (c : CompData) (i j : Nat) (x : Path × CompData) (hij : i < j)
    (hi : chainAt env look i c = some x) (hj : chainAt env look j c = some x)
    (n : NodeInfo) (hb : basesOf env t look c = some n.bases) :
    classDiag true n = [.notQWidget n.cls.name] ∧ classDiag false n = [.notActionLayoutWidget n.cls.name] ∧
    ∀ p, n.obj.prop = some p → bindingOf n = ([], [.unknownProperty n.cls.name p]) := by
  obtain ⟨l, hl, _, _, _, hroot, hkid, hp⟩ := cyclic_chain_never_widget env t look hs c i j x hij hi hj
  rw [hb] at hl; cases hl
  refine ⟨?_, ?_, fun p hpr => ?_⟩
  · rw [classDiag_eq, hroot]; rfl
  · rw [classDiag_eq, hkid]; rfl
  · simp only [bindingOf, hpr, hp p]

/-- **`extends` is the DIRECT super class**: the entry of a component carries the component's name, as `extends` the
    type name written as the root object of the component's own file (for `Fancy : Base`, `Base : QPushButton` the entry
    of `Fancy` says `Base`, not `QPushButton`) and the header by the file-name rule. -/
theorem customwidget_extends_direct_super (env : Env) (look : Path → Option Module) (c : CompData) (w : CustomWidget)
    (h : customOf env look c = some w) :
    w = { cls := c.name, ext := c.super, header := headerName c.name } := by
  obtain ⟨s, hs, rfl⟩ := customOf_some h
  rw [superClass_name hs]

/-- **Only what the document instantiates is listed**: every entry under `<customwidgets>` is the class of some object
    of the document (root or child), with `extends` = the root type written in that component's file — a component that
    is only an ANCESTOR of an instantiated one (`Base` above) gets no entry of its own. -/
theorem customwidgets_only_instantiated (env : Env) (t : Tree) (look : Path → Option Module) (base : Path) (f : File)
    (o : Output) (h : translate env t look base f = some o) (hb : o.built = true) (w : CustomWidget) (hw : w ∈ o.customs) :
    ∃ ob d c, (ob ∈ f.children ∨ ob = f.root) ∧ ob.typeName = w.cls ∧
      getType env look (docSpace env t look base f.imports).1 ob.typeName = .ok (.comp d c) ∧
      w = { cls := c.name, ext := c.super, header := headerName c.name } := by
  obtain ⟨_, hmem, _⟩ := customwidgets_exact env t look base f o h hb
  obtain ⟨ob, d, c, s, hob, hty, hs, hweq⟩ := (hmem w).1 hw
  obtain ⟨_, _, _, _, hname⟩ := getType_comp hty
  refine ⟨ob, d, c, hob, ?_, hty, ?_⟩
  · rw [hweq]; exact hname.symm
  · rw [hweq, superClass_name hs]

/-- the same file with every version removed from its import statements -/
def eraseVersions (f : File) : File := { f with stmts := f.stmts.map fun s => { s with version := none } }

/-- **A versioned import is the import.**  A version on an import statement (`import qmluic.QtWidgets 6.2`,
    `import "../b" 1.0`) changes neither the imports that count, nor — therefore — the component the file defines (its
    super class, its import list: the directories discovered through it and the names it can resolve). -/
theorem versioned_import_is_the_import (t : Tree) (base : Path) (f : File) :
    (eraseVersions f).imports = f.imports ∧ componentOf t base (eraseVersions f) = componentOf t base f := by
  have hi : (eraseVersions f).imports = f.imports := by
    simp only [File.imports, eraseVersions, List.filter_map, List.map_map]
    congr 1
  refine ⟨hi, ?_⟩
  unfold componentOf
  rw [hi]; rfl

/-- For the document being translated a version only adds the warning "import version is ignored": with the versions
    removed the translation is the same form, the same widgets, the same `<customwidgets>`, the same verdict, and the
    same diagnostics but for that warning. -/
theorem versioned_import_only_warns (env : Env) (t : Tree) (look : Path → Option Module) (base : Path) (f : File)
    (o : Output) (h : translate env t look base f = some o) :
    ∃ o', translate env t look base (eraseVersions f) = some o' ∧ o'.built = o.built ∧ o'.widgets = o.widgets ∧
      o'.customs = o.customs ∧ o'.accepted = o.accepted ∧
      ∃ R, o.diags = stmtDiags f.stmts ++ R ∧
        o'.diags = (stmtDiags f.stmts).filter (· ≠ .importVersionIgnored) ++ R := by
  obtain ⟨R, hd, h'⟩ := translate_stmts (f' := eraseVersions f) (versioned_import_is_the_import t base f).1 rfl rfl h
  refine ⟨_, h', rfl, rfl, rfl, ?_, R, hd, ?_⟩
  · -- dropping the warnings does not change whether all diagnostics are warnings
    have hall : ∀ l : List Diag, (l.filter (· ≠ .importVersionIgnored)).all Diag.isWarning = l.all Diag.isWarning :=
      fun l => List.all_filter.trans (List.all_congr rfl fun d => by cases d <;> rfl)
    simp only [Output.accepted, hd, List.all_append, eraseVersions, stmtDiags_eraseVersions, hall]
  · simp only [eraseVersions, stmtDiags_eraseVersions]

/-- **An aliased import contributes nothing**: with or without the statement the imports that count are the same, so
    the component the file defines is the same one (in particular the directory of an aliased string import is not
    discovered through it, and a root type only that import would provide does not resolve). -/
theorem aliased_import_contributes_nothing (t : Tree) (base : Path) (f : File) (pre post : List ImportStmt)
    (s : ImportStmt) (ha : s.alias.isSome = true) (hf : f.stmts = pre ++ s :: post) :
    f.imports = ({ f with stmts := pre ++ post } : File).imports ∧
      componentOf t base f = componentOf t base { f with stmts := pre ++ post } := by
  have hi : f.imports = ({ f with stmts := pre ++ post } : File).imports := by
    have hn : s.alias.isNone = false := by
      cases hs : s.alias with
      | none => simp [hs] at ha
      | some a => rfl
    simp only [File.imports, hf, List.filter_append, List.filter_cons, hn, Bool.false_eq_true, if_false]
  refine ⟨hi, ?_⟩
  unfold componentOf
  rw [hi]

/-- A document that carries an aliased import is rejected ("aliased import is not supported" is an error). -/
theorem aliased_import_rejects_document (env : Env) (t : Tree) (look : Path → Option Module) (base : Path) (f : File)
    (o : Output) (h : translate env t look base f = some o) (s : ImportStmt) (hs : s ∈ f.stmts)
    (ha : s.alias.isSome = true) : Diag.aliasedImport ∈ o.diags ∧ o.accepted = false := by
  obtain ⟨R, hd, _⟩ := translate_stmts (f' := f) rfl rfl rfl h
  have hm : Diag.aliasedImport ∈ o.diags := by
    rw [hd]; exact List.mem_append.2 (.inl (mem_stmtDiags_aliased hs ha))
  refine ⟨hm, ?_⟩
  cases hacc : o.accepted with
  | false => rfl
  | true =>
    have := (accepted_iff.1 hacc).2 _ hm
    simp [Diag.isWarning] at this

/-!
  Only an I/O-level error (`CommandError::Other`) ends the run of `generate_ui` at once; such errors are outside the
  model's file system, hence the hypothesis `noFatal`. -/

def noFatal (srcs : List (String × SrcOutcome)) : Prop := ∀ s ∈ srcs, s.2 ≠ .fatal

instance (srcs : List (String × SrcOutcome)) : Decidable (noFatal srcs) :=
  inferInstanceAs (Decidable (∀ s ∈ srcs, s.2 ≠ .fatal))

/-- The outputs of exactly the accepted sources are written — whatever else is on the command line. -/
theorem cli_written_iff_accepted (srcs : List (String × SrcOutcome)) (h : noFatal srcs) (n : String) :
    n ∈ (cliRun srcs).1 ↔ (n, SrcOutcome.accepted) ∈ srcs := by
  rw [cliRun, cliLoop_eq srcs h]
  simp only [List.mem_map, List.mem_filter, decide_eq_true_eq]
  constructor
  · rintro ⟨⟨m, o⟩, ⟨hm, ho⟩, rfl⟩
    simp only at ho; subst ho; exact hm
  · intro hm; exact ⟨(n, .accepted), ⟨hm, rfl⟩, rfl⟩

/-- The command succeeds iff no source is rejected. -/
theorem cli_status (srcs : List (String × SrcOutcome)) (h : noFatal srcs) :
    (cliRun srcs).2 = if srcs.any (fun s => s.2 = .rejected) then .diagnosticGenerated else .success := by
  rw [cliRun, cliLoop_eq srcs h]
  simp only [Bool.false_or]

/-- **The outputs written and the exit status do not depend on the order of the source arguments**:
    for any permutation of the sources the written outputs
    are a permutation of each other — in particular a source's output is written in one order iff it is
    written in the other — and the command ends the same way. -/
theorem cli_outputs_order_independent (srcs srcs' : List (String × SrcOutcome)) (hp : srcs.Perm srcs')
    (h : noFatal srcs) :
    (cliRun srcs).1.Perm (cliRun srcs').1 ∧ (∀ n, n ∈ (cliRun srcs).1 ↔ n ∈ (cliRun srcs').1) ∧
      (cliRun srcs).2 = (cliRun srcs').2 := by
  have h' : noFatal srcs' := fun s hs => h s (hp.mem_iff.2 hs)
  have hperm : (cliRun srcs).1.Perm (cliRun srcs').1 := by
    rw [cliRun, cliRun, cliLoop_eq srcs h, cliLoop_eq srcs' h']
    exact (hp.filter _).map _
  refine ⟨hperm, fun n => hperm.mem_iff, ?_⟩
  rw [cli_status srcs h, cli_status srcs' h', hp.any_eq]

/-- The fail-fast loop is order dependent (finding F15): `Bad.qml Good.qml` writes nothing, `Good.qml Bad.qml` writes
    `good.ui`; `cliRun` writes it in both orders.  Replayed on the real binary by `corpus/C18/cli_fail_fast.c18.req`. -/
theorem f15_fail_fast_witness :
    cliRunFailFast [("Bad", .rejected), ("Good", .accepted)] = ([], .diagnosticGenerated) ∧
    cliRunFailFast [("Good", .accepted), ("Bad", .rejected)] = (["Good"], .diagnosticGenerated) ∧
    cliRun [("Bad", .rejected), ("Good", .accepted)] = (["Good"], .diagnosticGenerated) ∧
    cliRun [("Good", .accepted), ("Bad", .rejected)] = (["Good"], .diagnosticGenerated) := by decide

/-- The statement of `cli_outputs_order_independent` is false of the fail-fast loop. -/
theorem f15_fail_fast_order_dependent :
    ¬ ∀ (srcs srcs' : List (String × SrcOutcome)), srcs.Perm srcs' → noFatal srcs →
        ∀ n, n ∈ (cliRunFailFast srcs).1 ↔ n ∈ (cliRunFailFast srcs').1 := by
  intro h
  have := h [("Bad", .rejected), ("Good", .accepted)] [("Good", .accepted), ("Bad", .rejected)]
    (List.Perm.swap _ _ _) (by decide) "Good"
  revert this
  decide

section Examples

private def qtEnv : Env :=
  { qt := [{ name := "QWidget", isWidget := true, props := ["windowTitle"] },
           { name := "QDialog", isWidget := true, props := ["windowTitle", "sizeGripEnabled"] }] }

private def qtw : ImportStmt := .named "qmluic.QtWidgets"

/-- `a` and `b` import each other; `a/A : B`, `b/B : A` inherit from each other; `a/S : S` from itself;
    `b/Form : QDialog`; `a/Main` instantiates `Form` twice, `A`, and `S`. -/
private def tree : Tree :=
  [ { path := [], files := [] },
    { path := ["a"], files :=
        [ { stem := "A", stmts := [qtw, .dir ["..", "b"]], root := { typeName := "B" } },
          { stem := "S", stmts := [qtw], root := { typeName := "S" } },
          { stem := "Main", stmts := [qtw, .dir ["..", "b"]], root := { typeName := "QWidget" },
            children := [{ typeName := "Form", prop := some "sizeGripEnabled" }, { typeName := "A" },
                         { typeName := "Form" }, { typeName := "S" }] },
          { stem := "Ok", stmts := [qtw, .dir ["..", "b", "."]], root := { typeName := "Form", prop := some "windowTitle" },
            children := [{ typeName := "Form" }, { typeName := "QDialog" }] } ] },
    { path := ["b"], files :=
        [ { stem := "B", stmts := [qtw, .dir ["..", "a"]], root := { typeName := "A" } },
          { stem := "Form", stmts := [qtw, .dir ["missing", "..", "a"]], root := { typeName := "QDialog" } } ] } ]

private def dirsOf (r : Option PopResult) : Option (List Path) :=
  match r with
  | some (.ok ms) => some ms.keys
  | _ => none

private def lookOf (r : Option PopResult) : Path → Option Module :=
  match r with
  | some (.ok ms) => ms.get?
  | _ => fun _ => none

-- discovery on mutually importing directories terminates with both, in either order
example : dirsOf (populate tree [["a"]]) = some [["a"], ["b"]] := by decide +kernel
example : dirsOf (populate tree [["b"]]) = some [["b"], ["a"]] := by decide +kernel
example : dirsOf (populate tree [["a"], ["b"], ["a"]]) = some [["a"], ["b"]] := by decide +kernel
-- `missing/../a` is not a directory although it is lexically `a`
example : resolve tree ["b"] ["missing", "..", "a"] = none := by decide +kernel
example : resolve tree ["a"] ["..", "b", "."] = some ["b"] := by decide +kernel
/-- one directory under six spellings; a cycle of length 2 spelled with `..`: two modules, two reads -/
example : ([["..", "b"], [".", "..", "b"], ["..", "b", ""], ["..", "", "b"], ["..", "b", "..", "b", "."], ["..", "a", "..", "b", "", ""]].map
    (resolve tree ["a"])) = List.replicate 6 (some ["b"]) := by decide +kernel
example : (match populate tree [["a"], ["b"]] with
    | some (.ok ms) => some (ms.keys, readsOf tree (fuelBound tree [["a"], ["b"]]) (initState [["a"], ["b"]]))
    | _ => none) = some ([["b"], ["a"]], 2) := by decide +kernel

private def mainOut : Option Output :=
  match findDir tree ["a"] with
  | some d => (d.files.find? (·.stem = "Main")).bind (translate qtEnv tree (lookOf (populate tree [["a"]])) ["a"])
  | none => none

private def okOut : Option Output :=
  match findDir tree ["a"] with
  | some d => (d.files.find? (·.stem = "Ok")).bind (translate qtEnv tree (lookOf (populate tree [["b"], ["a"]])) ["a"])
  | none => none

-- mutually inheriting `A`/`B` and self-inheriting `S`: translation terminates, the classes are diagnosed as
-- no widgets, and every custom class is listed once (`Form` is instantiated twice) with its root class
example : mainOut.map (·.customs) = some
    [ { cls := "Form", ext := "QDialog", header := "form.h" },
      { cls := "A", ext := "B", header := "a.h" },
      { cls := "S", ext := "S", header := "s.h" } ] := by decide +kernel
example : mainOut.map (·.diags) = some [.notActionLayoutWidget "A", .notActionLayoutWidget "S"] := by decide +kernel
-- an accepted document: root and child of custom type `Form`; the instance accepts properties of its base
example : okOut = some
    { built := true, diags := [],
      widgets := [{ cls := "Form", props := ["windowTitle"] }, { cls := "Form", props := [] }, { cls := "QDialog", props := [] }],
      customs := [{ cls := "Form", ext := "QDialog", header := "form.h" }] } := by decide +kernel
example : mainOut.map (·.widgets.take 2) = some
    [{ cls := "QWidget", props := [] }, { cls := "Form", props := ["sizeGripEnabled"] }] := by decide +kernel

/-! chains: `Fancy : Base : QPushButton` in one directory (the layout of seeded change C18/3 of
   /verif/seeded/RESULTS.md), `Top : Mid : Low : QPushButton` with every link in another directory (`d` imports `e`, `e` imports `f`; a document of `d` sees `Top`
   only), chains that end in a layout class and in QAction, and `C : A`, `A : B`, `B : A` (a chain into a cycle) -/

private def chainEnv : Env :=
  { qt := [{ name := "QWidget", isWidget := true, props := ["windowTitle"] },
           { name := "QDialog", isWidget := true, props := ["windowTitle"] },
           { name := "QPushButton", isWidget := true, props := ["windowTitle", "text", "flat"] },
           { name := "QVBoxLayout", isWidget := false, props := ["spacing"], isLayout := true },
           { name := "QAction", isWidget := false, props := ["text"], isAction := true }] }

private def chainTree : Tree :=
  [ { path := [], files := [] },
    { path := ["d"], files :=
        [ { stem := "Base", stmts := [qtw], root := { typeName := "QPushButton" } },
          { stem := "Fancy", stmts := [qtw], root := { typeName := "Base", prop := some "flat" } },
          { stem := "Main", stmts := [qtw], root := { typeName := "QDialog" },
            children := [{ typeName := "Fancy", prop := some "text" }, { typeName := "Fancy", prop := some "title" }] },
          { stem := "Top", stmts := [qtw, .dir ["..", "e"]], root := { typeName := "Mid" } },
          { stem := "UseTop", stmts := [qtw], root := { typeName := "Top", prop := some "windowTitle" },
            children := [{ typeName := "Top", prop := some "flat" }, { typeName := "Mid" }] },
          { stem := "Lay", stmts := [qtw], root := { typeName := "QVBoxLayout" } },
          { stem := "Lay2", stmts := [qtw], root := { typeName := "Lay" } },
          { stem := "Act", stmts := [qtw], root := { typeName := "QAction" } },
          { stem := "Act2", stmts := [qtw], root := { typeName := "Act" } },
          { stem := "UseLA", stmts := [qtw], root := { typeName := "QWidget" },
            children := [{ typeName := "Lay2", prop := some "spacing" }, { typeName := "Act2", prop := some "text" },
                         { typeName := "Act2", prop := some "windowTitle" }] },
          { stem := "C", stmts := [qtw], root := { typeName := "A" } },
          { stem := "A", stmts := [qtw], root := { typeName := "B" } },
          { stem := "B", stmts := [qtw], root := { typeName := "A" } },
          { stem := "UseC", stmts := [qtw], root := { typeName := "QWidget" },
            children := [{ typeName := "C", prop := some "text" }] } ] },
    { path := ["e"], files := [ { stem := "Mid", stmts := [qtw, .dir ["..", "f"]], root := { typeName := "Low" } } ] },
    { path := ["f"], files := [ { stem := "Low", stmts := [qtw], root := { typeName := "QPushButton" } } ] } ]

private def chainOut (stem : String) : Option Output :=
  match findDir chainTree ["d"] with
  | some d => (d.files.find? (·.stem = stem)).bind (translate chainEnv chainTree (lookOf (populate chainTree [["d"]])) ["d"])
  | none => none

example : dirsOf (populate chainTree [["d"]]) = some [["d"], ["e"], ["f"]] := by decide +kernel
-- `text` is inherited through `Fancy : Base : QPushButton`, `title` is not a property of QPushButton; `Fancy` is listed
-- once and extends its DIRECT super `Base`, which is not instantiated and not listed
example : chainOut "Main" = some
    { built := true, diags := [.unknownProperty "Fancy" "title"],
      widgets := [{ cls := "QDialog", props := [] }, { cls := "Fancy", props := ["text"] }, { cls := "Fancy", props := [] }],
      customs := [{ cls := "Fancy", ext := "Base", header := "fancy.h" }] } := by decide +kernel
-- a component file is a document whose root is the next component of the chain
example : chainOut "Fancy" = some
    { built := true, diags := [], widgets := [{ cls := "Base", props := ["flat"] }],
      customs := [{ cls := "Base", ext := "QPushButton", header := "base.h" }] } := by decide +kernel
-- three links, each in another directory: `Top` is usable (root and child, inherited bindings), `Mid` is not visible
example : chainOut "UseTop" = some
    { built := true, diags := [.unknownObjectType "Mid"],
      widgets := [{ cls := "Top", props := ["windowTitle"] }, { cls := "Top", props := ["flat"] }],
      customs := [{ cls := "Top", ext := "Mid", header := "top.h" }] } := by decide +kernel
-- layout- and action-ended chains are accepted as children (an action is written as a plain `<action>`) and listed;
-- `windowTitle` is no property of QAction
example : chainOut "UseLA" = some
    { built := true, diags := [.unknownProperty "Act2" "windowTitle"],
      widgets := [{ cls := "QWidget", props := [] }, { cls := "Lay2", props := ["spacing"] }, { cls := "QAction", props := ["text"] },
                  { cls := "QAction", props := [] }],
      customs := [{ cls := "Lay2", ext := "Lay", header := "lay2.h" }, { cls := "Act2", ext := "Act", header := "act2.h" }] } := by
  decide +kernel
-- … and refused as the root object of a document
example : (chainOut "Lay2").map (·.diags) = some [.notQWidget "Lay"] := by decide +kernel
example : (chainOut "Act2").map (·.diags) = some [.notQWidget "Act"] := by decide +kernel
-- a chain into a cycle: the walk ends, the instance is no widget and has no properties
example : (chainOut "UseC").map (·.diags) = some [.unknownProperty "C" "text", .notActionLayoutWidget "C"] := by decide +kernel
example : (chainOut "C").map (·.diags) = some [.notQWidget "A"] := by decide +kernel

/-! forms of import statements: `Panel` reaches QPushButton through a VERSIONED import of the Qt module only (the layout of
   seeded change C18/5 there); `Far` reaches `Low` through a versioned string import; `Lost` imports the Qt module under an
   alias only; `Twice` imports everything twice, the own directory explicitly, the Qt module last -/

private def impTree : Tree :=
  [ { path := [], files := [] },
    { path := ["d"], files :=
        [ { stem := "Panel", stmts := [{ what := .named "qmluic.QtWidgets", version := some "6.2" }],
            root := { typeName := "QPushButton" } },
          { stem := "Far", stmts := [qtw, { what := .dir ["..", "f"], version := some "1.0" }], root := { typeName := "Low" } },
          { stem := "Lost", stmts := [{ what := .named "qmluic.QtWidgets", alias := some "W" }], root := { typeName := "QPushButton" } },
          { stem := "Twice", stmts := [.dir ["."], .dir ["..", "f"], qtw, .dir [".", "..", "f", ""], qtw],
            root := { typeName := "Low", prop := some "flat" } },
          { stem := "Main", stmts := [qtw], root := { typeName := "QDialog" },
            children := [{ typeName := "Panel", prop := some "windowTitle" }, { typeName := "Far", prop := some "text" },
                         { typeName := "Twice" }] },
          { stem := "UseLost", stmts := [qtw], root := { typeName := "QDialog" },
            children := [{ typeName := "Lost", prop := some "text" }] },
          { stem := "SrcV",
            stmts := [{ what := .named "qmluic.QtWidgets", version := some "5.15" }, { what := .dir ["..", "f"], version := some "2" }],
            root := { typeName := "QDialog" }, children := [{ typeName := "Low", prop := some "text" }] },
          { stem := "SrcA", stmts := [qtw, { what := .dir ["..", "g"], alias := some "G" }], root := { typeName := "QDialog" } } ] },
    { path := ["f"], files := [ { stem := "Low", stmts := [qtw], root := { typeName := "QPushButton" } } ] },
    { path := ["g"], files := [ { stem := "InG", stmts := [qtw], root := { typeName := "QPushButton" } } ] } ]

private def impOut (stem : String) : Option Output :=
  match findDir impTree ["d"] with
  | some d => (d.files.find? (·.stem = stem)).bind (translate chainEnv impTree (lookOf (populate impTree [["d"]])) ["d"])
  | none => none

-- `g` is imported under an alias only: it is not discovered
example : dirsOf (populate impTree [["d"]]) = some [["d"], ["f"]] := by decide +kernel
example : impOut "Main" = some
    { built := true, diags := [],
      widgets := [{ cls := "QDialog", props := [] }, { cls := "Panel", props := ["windowTitle"] }, { cls := "Far", props := ["text"] },
                  { cls := "Twice", props := [] }],
      customs := [{ cls := "Panel", ext := "QPushButton", header := "panel.h" }, { cls := "Far", ext := "Low", header := "far.h" },
                  { cls := "Twice", ext := "Low", header := "twice.h" }] } := by decide +kernel
example : (impOut "UseLost").map (·.diags) = some
    [.propertyResolutionFailed (.invalidTypeRef "QPushButton"), .notActionLayoutWidget "Lost"] := by decide +kernel
-- a source with versioned imports is accepted with two warnings; one with an aliased import is rejected
example : (impOut "SrcV").map (fun o => (o.accepted, o.diags, o.widgets.map (·.props))) = some
    (true, [.importVersionIgnored, .importVersionIgnored], [[], ["text"]]) := by decide +kernel
example : (impOut "SrcA").map (fun o => (o.accepted, o.diags)) = some (false, [.aliasedImport]) := by decide +kernel
example : (impOut "Lost").map (fun o => (o.accepted, o.diags)) = some (false, [.aliasedImport, .unknownObjectType "QPushButton"]) := by
  decide +kernel
example : (impOut "Twice").map (fun o => (o.accepted, o.widgets)) = some (true, [{ cls := "Low", props := ["flat"] }]) := by decide +kernel

-- the command line: a rejected source between accepted ones; an I/O error ends the run
example : cliRun [("A", .accepted), ("Bad", .rejected), ("B", .accepted)] = (["A", "B"], .diagnosticGenerated) := by decide
example : cliRun [("B", .accepted), ("A", .accepted)] = (["B", "A"], .success) := by decide
example : cliRun [("A", .accepted), ("Io", .fatal), ("B", .accepted)] = (["A"], .otherError) := by decide
example : noFatal [("A", .accepted), ("Bad", .rejected), ("B", .accepted)] := by decide
example : uiFileName "MainDialog" = "maindialog.ui" := by decide +kernel

end Examples

end QV.Props.C18
