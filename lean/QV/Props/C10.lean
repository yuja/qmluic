/-
  C10 — Object names are unique and every reference resolves, across both outputs.

  Model : QV.Model.Names (qtname.rs `UniqueNameGenerator`, `variable_name_for_type`;
          objtree.rs `update_id_map`, `ensure_object_names`) — the code after the repair of F5.
  Spec  : QV.Spec.Names.validNaming (names pairwise distinct, ids verbatim, generated names derived from the
          class and different from every id) — evaluated by the driver on the REAL names (kind=pred); no theorem
          here concludes `validNaming`: `names_unique` states its clauses but `derivedFrom` (for one call of the generator:
          `generated_name_shape`).
  Tie   : stream `c10`: generated object trees with adversarial ids/class names; the names assigned by the
          real `ObjectTree::build` are compared with the model (exact) and checked by the spec predicate; the
          full pipeline's .ui and header are checked for distinct names and resolving references (kind=oracle).

  `refs_resolve` (every `addaction`/object-valued property/`ui_->name` denotes a declared object of a compatible
  class) is NOT a theorem here: it is decided on real outputs by the oracle only (see DESIGN.md C10).
-/
import QV.Proofs.Names

namespace QV.Props.C10
open QV.Model.Names QV.Proofs.Names

/-- **Names are unique**: for every object list (post-order of any tree) whose ids are pairwise distinct, the
    assigned names are pairwise distinct, every id is used verbatim as its object's name, and no generated
    name equals any id. -/
theorem names_unique (nodes : List (Option Str × Str)) (names : List Str)
    (hids : (idsOf nodes).Nodup) (h : ensureObjectNames nodes = some names) :
    names.length = nodes.length ∧ names.Nodup ∧
    (∀ p ∈ nodes.zip names, ∀ x, p.1.1 = some x → p.2 = x) ∧
    (∀ x ∈ gens nodes names, x ∉ idsOf nodes) := by
  obtain ⟨h1, hverb, h2, h3⟩ := ensureGo_spec _ nodes {} names h
  have hdis : ∀ x ∈ gens nodes names, x ∉ idsOf nodes :=
    fun x hx hin => (h3 x hx).1 (ids_reserved nodes x hin)
  refine ⟨h1, (perm_ids_gens nodes names h1 hverb).nodup_iff.mpr ?_, hverb, hdis⟩
  exact List.nodup_append.mpr ⟨hids, h2, fun x hx y hy e => hdis y hy (e ▸ hx)⟩

/-- **The name search always succeeds** (`expect("unused id must be found within N+1 tries")` is
    unreachable), for every object list — including lists with duplicated ids. -/
theorem ensure_never_panics (nodes : List (Option Str × Str)) : ensureObjectNames nodes ≠ none :=
  ensureGo_total _ nodes {}

/-- The variable name derived from a class is uic's `Driver::qtify`, for every class name. -/
theorem variable_name_is_qtify (t : Str) : variableNameForType t = QV.Spec.Names.qtify t := by
  unfold variableNameForType QV.Spec.Names.qtify
  match t with
  | [] => simp [lowerRun_eq]
  | [c] => simp [lowerRun_eq]
  | c :: d :: rest =>
    simp only [isAsciiAlphabetic, isUpper_eq, isLower_eq]
    split <;> simp [lowerRun_eq]

/-- A generated name is the variable name of the class (`Driver::qtify`) with an optional number suffix. -/
theorem generated_name_shape {g g' : Gen} {cls name : Str} {reserved : List Str}
    (h : g.generateWithReserved (variableNameForType cls) reserved = some (name, g')) :
    ∃ n, name = concatNumberSuffix (variableNameForType cls) n :=
  (generate_spec h).2.2.2

/-- One `generate` call returns a name not issued before and remembers it, whatever the prefix. -/
theorem generate_fresh {g g' : Gen} {pfx name : Str} (h : g.generate pfx = some (name, g')) :
    name ∉ g.usedNames ∧ g'.usedNames = name :: g.usedNames :=
  ⟨(generate_spec h).2.1, (generate_spec h).2.2.1⟩

/-- From any state of the map (`dup_id_diagnosed`: the empty one): an id already in it, or a repeated id, is reported. -/
theorem dup_id_rejected (ids : List (Option Str)) :
    ∀ (acc : List Str × List Str),
      (∃ x, some x ∈ ids ∧ x ∈ acc.2) ∨ ¬ (ids.filterMap id).Nodup →
      (ids.foldl idMapStep acc).1 ≠ [] := by
  induction ids with
  | nil => exact fun acc h => h.elim (fun ⟨_, hx, _⟩ => absurd hx List.not_mem_nil) (absurd List.nodup_nil)
  | cons i rest ih =>
    intro acc h
    rw [List.foldl_cons]
    cases i with
    | none => exact ih _ (h.imp (fun ⟨x, hx, hacc⟩ => ⟨x, (List.mem_cons.mp hx).resolve_left nofun, hacc⟩) id)
    | some y =>
      rw [idMapStep]
      split
      · exact foldl_idMapStep_dups_ne_nil rest _ (List.append_ne_nil_of_right_ne_nil _ (List.cons_ne_nil _ _))
      · next hc =>
        refine ih _ ?_
        rcases h with ⟨x, hx, hacc⟩ | h
        · rcases List.mem_cons.mp hx with e | hx
          · cases e; exact absurd (List.contains_iff_mem.mpr hacc) hc
          · exact Or.inl ⟨x, hx, List.mem_append_left _ hacc⟩
        · by_cases hmem : y ∈ rest.filterMap id
          · obtain ⟨a, ha, hay⟩ := List.mem_filterMap.mp hmem
            cases hay
            exact Or.inl ⟨y, ha, List.mem_append_right _ (List.mem_singleton_self y)⟩
          · exact Or.inr fun hn => h (List.nodup_cons.mpr ⟨hmem, hn⟩)

/-- A repeated id makes `update_id_map` emit a diagnostic. -/
theorem dup_id_diagnosed (ids : List (Option Str)) (h : ¬ (ids.filterMap id).Nodup) :
    (updateIdMap ids).1 ≠ [] :=
  dup_id_rejected ids ([], []) (Or.inr h)

/-- The input of F5: before its repair in /repo the third name was `label1` again. -/
example : ensureObjectNames [(none, "QLabel".toList), (none, "QLabel".toList), (none, "Label1".toList)]
    = some ["label".toList, "label1".toList, "label11".toList] := by
  -- the kernel decodes a string literal byte by byte, quadratically in its length: the literals are opened by rewriting
  repeat rw [String.toList_ofList]
  decide +kernel

example : ensureObjectNames [(some "label1".toList, "QWidget".toList), (none, "QLabel".toList), (none, "QLabel".toList),
    (none, "QVBoxLayout".toList)]
    = some ["label1".toList, "label".toList, "label2".toList, "vboxLayout".toList] := by
  repeat rw [String.toList_ofList]
  decide +kernel

example : (updateIdMap [some "a".toList, none, some "a".toList]).1 = ["a".toList] := by decide

end QV.Props.C10
