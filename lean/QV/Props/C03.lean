/-
  C03 — constants are embedded with exactly the value the source expression denotes; undefined ones are rejected.

  For every input, no bound:
  * literals: every integer literal of the ECMAScript grammar (all radixes, legacy octal, separators) is parsed by
    `parse_number_str` to its mathematical value, or refused when that exceeds u64.  Not the converse: the parser strips
    every `_`, so it also reads `1__0` (as 10), which the grammar does not have.  A string literal that `parse_string`
    accepts has its ECMAScript string value (line continuations, legacy octal, lone surrogates are refused, never
    mis-read).  The decimal text written into the `.ui` for an integer reads back as that integer.
  * operators: when the operands are constants the builder's folding emits no code and yields the value the operator
    denotes in `Spec.ConstSem` (mathematical integers with a 64-bit range check, truncating division, shifts as
    multiplication/floor division, UTF-16 string order, IEEE primitives as a parameter), which again fits 64 bits; an
    application without a value is refused; the shift-back test of `<<` (F8) is exact.  Witnesses for F6 and F8.
  * whole expressions of the constant fragment: the walk, `tir::build` and `evaluate_code` give the denoted constant,
    or a diagnostic and no code.  The `.ui` serialisation of that value is judged by the `c03` stream.
-/
import QV.Proofs.ConstFold
import QV.Proofs.ConstWalk
import QV.Proofs.Literal

namespace QV.Props.C03
open QV.Model QV.Spec.ConstSem QV.Proofs.ConstFold

/-- C03, folding of a binary operator: when both operands are constants the builder emits no code, and the
    constant it produces is the value the operator denotes (Spec.ConstSem) and fits 64 bits -/
theorem fold_binary_sound (F : FloatOps) (env : Env) (b : Builder) (tok : BinaryToken) (op : BinaryOp)
    (htok : tok.toOp = some op) (hlog : ∀ lop, op ≠ .logical lop) (l r : ConstantValue) (hl : inRange l)
    (res : Operand) (b' : Builder)
    (h : visitBinaryExpression F env b op (.const l) (.const r) = .ok (res, b')) :
    b' = b ∧ ∃ c, res = .const c ∧ inRange c ∧ binary F tok (valOf l) (valOf r) = .val (valOf c) := by
  obtain ⟨hb, c, hc, hres⟩ := QV.Proofs.TypingConst.visitBinary_const_ok hlog h
  exact ⟨hb, c, hres, cevalBinary_sound F tok op htok hlog l r c hl hc⟩

/-- an operator application without a value (division by zero, 64-bit overflow, negative or too large shift) is
    refused by the folder -/
theorem undefined_rejected (F : FloatOps) (env : Env) (b : Builder) (tok : BinaryToken) (op : BinaryOp)
    (htok : tok.toOp = some op) (hlog : ∀ lop, op ≠ .logical lop) (l r : ConstantValue) (hl : inRange l)
    (w : String) (hu : binary F tok (valOf l) (valOf r) = .undefined w) :
    ∃ e, visitBinaryExpression F env b op (.const l) (.const r) = .error e := by
  cases hv : visitBinaryExpression F env b op (.const l) (.const r) with
  | error e => exact ⟨e, rfl⟩
  | ok p =>
    obtain ⟨res, b'⟩ := p
    obtain ⟨_, c, _, _, hs⟩ := fold_binary_sound F env b tok op htok hlog l r hl res b' hv
    rw [hu] at hs
    cases hs

/-- the same for a unary operator -/
theorem fold_unary_sound (F : FloatOps) (b : Builder) (tok : UnaryToken) (op : UnaryOp)
    (htok : tok.toOp = some op) (a : ConstantValue) (ha : inRange a) (res : Operand) (b' : Builder)
    (h : visitUnaryExpression F b op (.const a) = .ok (res, b')) :
    b' = b ∧ ∃ c, res = .const c ∧ inRange c ∧ unary F tok (valOf a) = .val (valOf c) := by
  obtain ⟨hb, c, hc, hres⟩ := QV.Proofs.TypingConst.visitUnary_const_ok h
  exact ⟨hb, c, hres, cevalUnary_sound F tok op htok a c ha hc⟩

/-- F8 (repaired by /repo 568b1aa): the shift-back test accepts exactly the shifts whose mathematical value fits 64 bits -/
theorem shl_accepts_exactly_representable (a : Int) (n : Nat) (hn : n < 64) :
    (wrapI64 (a * (2 : Int) ^ n) / (2 : Int) ^ n = a) ↔ representable (a * (2 : Int) ^ n) = true :=
  shl_check_iff a n hn

/-- F8 witness: without the test, `checked_shl` alone wraps: `3 << 62` is negative -/
theorem f8_unchecked_shl_wraps : wrapI64 (3 * (2 : Int) ^ 62) = -4611686018427387904 ∧
    representable (3 * (2 : Int) ^ 62) = false := by decide +kernel

/-- F6 witness (repaired by /repo 2f8ccf9): ordering by code point is not the UTF-16 order of the language -/
theorem f6_codepoint_order_is_wrong :
    strLtCodePoint [Char.ofNat 0xE000] [Char.ofNat 0x10000] = true ∧
    strLess [Char.ofNat 0xE000] [Char.ofNat 0x10000] = false := by decide

/-- an integer literal of the ECMAScript grammar is parsed to its mathematical value, or refused when that exceeds u64
    (the parser takes more: it reads `1__0` as 10) -/
theorem literal_value (floatOk : List Char → Bool) (s : List Char) (v : Nat) (h : QV.Spec.Ecma.mv s = some v) :
    QV.Model.Literal.parseNumberStr floatOk s =
      if v ≤ QV.Model.Literal.u64Max then some (.integer v) else none :=
  QV.Proofs.Literal.parseNumber_mv floatOk s v h

theorem int_text_roundtrip (v : Int) : QV.Spec.Ecma.readInt (QV.Model.Literal.formatInt v) = some v :=
  QV.Proofs.Literal.readInt_formatInt v

/-- a string literal `parse_string` accepts has the ECMAScript string value (UTF-16 code units); the escape texts
    contain no sign character, which the lexer's escape pattern guarantees (`u32::from_str_radix` would accept `+41`) -/
theorem string_literal_value (segs : List QV.Model.Literal.Segment) (s : List Char)
    (hs : QV.Proofs.Literal.signFree segs) (h : QV.Model.Literal.parseString segs = some s) :
    QV.Spec.Ecma.stringValue (segs.map QV.Proofs.Literal.toSeg) = some (QV.Spec.Ecma.units16 s) :=
  QV.Proofs.Literal.parseString_sound segs s hs h

/-- the hypothesis about signs is needed: the decoder alone would read `\\u{+41}` as `A` -/
theorem sign_hypothesis_needed :
    QV.Model.Literal.unescapeChar "\\u{+41}".toList = some 'A' ∧ QV.Spec.Ecma.escapeValue "\\u{+41}".toList = none := by
  decide +kernel

/-! what model and specification compute on ordinary inputs; the three over-rejections of the string decoder (line
    continuation, legacy octal, lone surrogate) -/
example : QV.Model.Literal.parseString [.fragment "a".toList, .escape "\\n".toList, .escape "\\u{1F600}".toList] =
    some ['a', '\n', Char.ofNat 0x1F600] := by decide +kernel
example : QV.Spec.Ecma.escapeValue ['\\', '\n'] = some [] ∧ QV.Model.Literal.unescapeChar ['\\', '\n'] = none := by decide +kernel
example : QV.Spec.Ecma.escapeValue "\\1".toList = some [1] ∧ QV.Model.Literal.unescapeChar "\\1".toList = none := by decide +kernel
example : QV.Spec.Ecma.escapeValue "\\uD83D".toList = some [55357] ∧ QV.Model.Literal.unescapeChar "\\uD83D".toList = none := by
  decide +kernel
example : QV.Spec.Ecma.mv "0x1_F".toList = some 31 := by decide +kernel
example : QV.Spec.Ecma.mv "0777".toList = some 511 := by decide +kernel
example : QV.Spec.Ecma.mv "089".toList = some 89 := by decide +kernel
example : QV.Spec.Ecma.mv "1_000".toList = some 1000 := by decide +kernel
example : QV.Spec.Ecma.mv "1__0".toList = none := by decide +kernel
example : BinaryToken.toOp .leftShift = some (.shift .shl) ∧ inRange (.integer 3) := ⟨rfl, by simp [inRange, representable]⟩

def dummyFloatOps : FloatOps where
  neg := id
  add := fun a _ => a
  sub := fun a _ => a
  mul := fun a _ => a
  div := fun a _ => a
  rem := fun a _ => a
  eq := fun _ _ => true
  lt := fun _ _ => false
  le := fun _ _ => true

example : binary dummyFloatOps .div (.int 1) (.int 0) = .undefined "division by zero" := by decide +kernel

/-! ## whole constant expressions (proofs in QV.Proofs.ConstWalk)

  The fragment `ConstFrag` is described in QV.Proofs.ConstWalk.  The per-operator theorems above are composed over
  the monadic AST walk (Model/Walk.lean `walkExpr`) by induction on the expression. -/

open QV.Proofs.ConstWalk in
/-- a successful `walk_expr` on the fragment returns `.item (.const c)`, leaves the walk state untouched — no
    statement, no local, no diagnostic —, `c` lies within 64 bits and `c` is the denotation of the expression -/
theorem walk_const_sound (wc : Ctx) (e : Expr) (hf : ConstFrag e) (s s' : WState) (i : QV.Model.Inter)
    (h : (walkExpr wc e).run s = (some i, s')) :
    s' = s ∧ ∃ c, i = .item (.const c) ∧ inRange c ∧ eval wc.F e = .val (valOf c) :=
  QV.Proofs.ConstWalk.walk_const_sound wc e hf s s' i h

open QV.Proofs.ConstWalk in
/-- an expression of the fragment without a value (64-bit overflow, division by zero, negative or too large shift
    count, integer literal ≥ 2^63, in any sub-expression) is refused: the walk fails, the builder is untouched (no code),
    at least one diagnostic is added -/
theorem walk_const_rejects_undefined (wc : Ctx) (e : Expr) (hf : ConstFrag e) (w : String)
    (hu : eval wc.F e = .undefined w) (s : WState) :
    ∃ s', (walkExpr wc e).run s = (none, s') ∧ s'.b = s.b ∧ s'.locals = s.locals ∧
      ∃ d ds, s'.diags = s.diags ++ d :: ds :=
  QV.Proofs.ConstWalk.walk_const_rejects_undefined wc e hf w hu s

open QV.Proofs.ConstWalk in
/-- every failure of the walk on the fragment (ill-typed operands included) is diagnosed and emits no code -/
theorem walk_const_fails_with_diagnostic (wc : Ctx) (e : Expr) (hf : ConstFrag e) (s s' : WState)
    (h : (walkExpr wc e).run s = (none, s')) :
    s'.b = s.b ∧ s'.locals = s.locals ∧ ∃ d ds, s'.diags = s.diags ++ d :: ds :=
  QV.Proofs.ConstWalk.walk_const_fails_with_diagnostic wc e hf s s' h

/-- integer literals ≥ 2^63 have no value and are refused by `visit_integer` with the conversion diagnostic -/
theorem walk_const_integer_too_large (wc : Ctx) (v : Nat) (hv : (2 : Int) ^ 63 ≤ (v : Int)) (s : WState) :
    (∃ w, eval wc.F (.integer v) = .undefined w) ∧
    (walkRvalue wc (.integer v)).run s = (none, { s with diags := s.diags ++ [ExprError.integerConversion.message] }) :=
  QV.Proofs.ConstWalk.walk_const_integer_too_large wc v hv s

open QV.Proofs.ConstWalk in
/-- the binding level: `tir::build` on the binding `e` (e in the fragment) either yields a body — then without
    diagnostic and panic, and `evaluate_code` of the body (Model/Finalize.lean, tir/interpret.rs) is `evaluatedOf c` for a
    constant `c` within 64 bits that is the denotation of `e` (`evaluatedOf`: bool/integer/float as themselves, a string
    as an untranslated string, `null` as "no value") — or no body and at least one diagnostic.  So the value handed to
    uigen's serialisation is the denoted one. -/
theorem build_const_evaluates (wc : Ctx) (e : Expr) (hf : ConstFrag e) :
    (∀ code, (build wc false (.stmt (.expr e))).code = some code →
      (build wc false (.stmt (.expr e))).diags = [] ∧ (build wc false (.stmt (.expr e))).panic = none ∧
      ∃ c, inRange c ∧ eval wc.F e = .val (valOf c) ∧ evaluateCode wc.env code = .value (evaluatedOf c)) ∧
    ((build wc false (.stmt (.expr e))).code = none → (build wc false (.stmt (.expr e))).diags ≠ []) :=
  QV.Proofs.ConstWalk.build_const wc e hf

open QV.Proofs.ConstWalk in
/-- the evaluated value denotes the constant (everything but `null`, which has no evaluated value, and the empty list,
    which the fragment never produces) -/
theorem evaluated_denotes (c : ConstantValue) (hn : c ≠ .nullPointer) (he : c ≠ .emptyList) :
    (evaluatedOf c).bind denoted = some (valOf c) :=
  QV.Proofs.ConstWalk.denoted_evaluatedOf c hn he

open QV.Proofs.ConstWalk in
/-- a binding of the fragment without a value is not built and is diagnosed -/
theorem build_const_rejects_undefined (wc : Ctx) (e : Expr) (hf : ConstFrag e) (w : String)
    (hu : eval wc.F e = .undefined w) :
    (build wc false (.stmt (.expr e))).code = none ∧ (build wc false (.stmt (.expr e))).diags ≠ [] :=
  QV.Proofs.ConstWalk.build_const_rejects_undefined wc e hf w hu

open QV.Proofs.ConstWalk in
/-- `(3 + 4) % -2` is in the fragment and has the value 1 -/
example : ConstFrag (.binary .rem (.binary .add (.integer 3) (.integer 4)) (.unary .minus (.integer 2))) :=
  .binary _ _ _ (by intro l h; cases h) (.binary _ _ _ (by intro l h; cases h) (.int 3) (.int 4)) (.unary _ _ (.int 2))

example (F : FloatOps) :
    eval F (.binary .rem (.binary .add (.integer 3) (.integer 4)) (.unary .minus (.integer 2))) = .val (.int 1) := by
  rfl

end QV.Props.C03
