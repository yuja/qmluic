/-
  C01 — generated binding code computes the value of its source expression.

  Specification: `QV.Spec.Sem` (reference big-step semantics of docs/language.md, read as JavaScript wherever the
  document is silent; independent of the compiler model).  Compiler model: `QV.Model.{Walk,Builder,Finalize}`, tied to
  the real compiler by the stream `build` (the IR is compared exactly).  Target semantics: `QV.Model.IrSem` (execution of
  the IR; the printed C++ is `QV.Model.CxxBody`, tied to the real header text by `c01-body`; that g++ gives the printed
  operators the meaning `Spec.Sem.binop/unop/…` is tested by running the real header: stream `spec-c01`).

  STATED for every program: `compile_correct_full_statement`.
  PROVED for every input of a fragment — whenever the model compiler builds code, in every world whose stored values are
  typed (`hw`) and in which `Spec.Sem` defines the value at the property type, `IrSem` of the built IR returns that value:
    `compile_correct_partial`   P ::= e      e ::= integer | true | false | o.p | unary-op e | e ⊕ e | e && e | e || e | e ? e : e
                                (`CfgFrag wc []`; ⊕ every binary operator except `&&`/`||`; `o` an object id of the
                                document, `p` a property of its class of non-void type); `compile_correct_straight` and
                                `compile_correct_property_read` (its IR written out: `build_property_read`) are special cases;
    `compile_correct_block`     P ::= { B }  B ::= e | return e | let x = e; B | const x = e; B     (`BlockFrag`; `e` may read
                                the variables declared before it; an object id read must not be shadowed by a variable);
    `compile_correct_block_assign`, `compile_correct_block_if`, `compile_correct_block_early_return`
                                the same with `x = e;` on `let` variables (`SFrag`), with `if` / `if-else` statements whose
                                branch bodies are assignments (`IFrag`), and with branches that end in `return e` (`RFrag`).
  All of them go from the conclusion of the induction over the AST walk (QV.Proofs.SemCfg … SemCfgStmtRet) to the value of
  the binding through `compile_correct_of_walk`, the four block theorems by way of `compile_correct_of_rOk`.
  Proved for every input as well, about single compiler steps and at `runFrom` level with the sub-runs as hypotheses:
  constant folding and the range condition under which 64-bit folding is 32-bit `int` arithmetic (`fold_int32_agree`,
  `fold_int32_hypothesis_needed`), `emit_sound`, `unary_correct`, `binary_correct`, the wiring and the value of `&&` / `||`
  (`logical_wiring`, `logical_and_value`, `logical_or_value`), of `?:` (`ternary_fragment`) and of `if` (`if_wiring`,
  `if_fragment`).
  `walk_*`, `fold_agrees_spec`, `fold_unary_agrees_spec`, `tokOf_toOp`, `binop_cint`, `return_of_completion` state lemmas of
  QV.Proofs (named in their proofs) under this property's names; `WalkOk`, `CResult`, `BlockOk`, `SOk`, `BodyOk`, `ROk` are
  defined and described there.
  NOT proved: declarations with a type annotation or without initialiser, several declarators in one `let`, declarations and
  nested `if`s inside non-returning branch bodies, an `if` as the last statement of a block, nested blocks, switch/break,
  float/string/null literals, calls, casts, subscripts inside the induction: decided per program by the streams `c01-ir`
  (IrSem on the REAL IR = Spec.Sem) and `spec-c01` (the real C++ executed = Spec.Sem).
-/
import QV.Proofs.SemCfgBlock
import QV.Proofs.SemCfgStmt
import QV.Proofs.SemCfgStmtIf
import QV.Proofs.SemCfgStmtRet
import QV.Model.CxxBody
import QV.Props.C03

namespace QV.Props.C01
open QV.Model QV.Model.IrSem QV.Proofs.SemIr QV.Proofs.SemVisit
open QV.Spec.Sem (Val World Host Ev Ty STy coerceTo binop unop)

/-- the three contexts (walk, specification, IR execution) describe the same document and type information -/
structure CtxAgree (wc : QV.Model.Ctx) (sc : QV.Spec.Sem.Ctx) (ic : ICtx) : Prop where
  host : sc.H = ic.H
  float : sc.H.F = wc.F
  /-- one document: the translation context of `qsTr` (the type name) is the same for the reference semantics and for
      the execution of the IR -/
  docType : sc.docType = ic.docType
  objects : ∀ name cls, wc.objects.find? (·.1 = name) = some (name, cls) →
    ∃ o, sc.objects.find? (·.1 = name) = some (name, o, cls) ∧ ic.named name = some o
  noObject : ∀ name, wc.objects.find? (·.1 = name) = none → sc.objects.find? (·.1 = name) = none
  this : ∀ cls name, wc.thisObj = some (cls, name) → ∃ o, sc.thisObj = some (o, cls) ∧ ic.named name = some o
  props : ∀ cls p, sc.propTy cls p =
    ((wc.env.findClass cls).bind fun ci => ci.props.find? (·.name = p)).map fun pi => styOf pi.ty
  methods : ∀ cls m, sc.methodTy cls m =
    ((wc.env.findClass cls).bind fun ci => ci.methods.find? (·.1 = m)).bind fun x => x.2.head?.map fun mi => styOf mi.ret
  types : ∀ n, sc.tyName n = ((wc.annotatedType n).map styOf)
  variants : ∀ cls v e, ((wc.env.findClass cls).bind fun ci => ci.variants.find? (·.1 = v)) = some (v, e) →
    sc.enumVal cls v = ic.enumVariant e v

/-- C01 at full strength: for every program the model compiler accepts as a binding of a property of type `ty`, in
    every world where the reference semantics defines a value, executing the built IR returns that value.  It speaks of
    the value only, and of EVERY world: the proved theorems below all assume the world's stored values typed (`hw`). -/
def compile_correct_full_statement : Prop :=
  ∀ (wc : QV.Model.Ctx) (sc : QV.Spec.Sem.Ctx) (ic : ICtx), CtxAgree wc sc ic →
  ∀ (p : Program) (code : CodeBody),
    (build wc false p).code = some code → (build wc false p).diags = [] → (build wc false p).panic = none →
  ∀ (ty : TypeKind), CxxBody.returnTypeOk wc.env code ty = true →
  ∀ (w : World) (v : Val),
    QV.Spec.Sem.bindingValue sc p w (styOf ty).ty = some v → IrSem.bindingValue ic code w (styOf ty).ty = some v

theorem tokOf_toOp (op : BinaryOp) : (QV.Spec.Sem.tokOf op).toOp = some op :=
  QV.Proofs.SemFold.tokOf_toOp op

theorem binop_cint (F : FloatOps) (op : BinaryOp) (hlog : ∀ lop, op ≠ .logical lop) (a c : Int) :
    binop F op (.cint a) (.cint c) = QV.Spec.Sem.constBinary F op a c :=
  QV.Proofs.SemFold.binop_cint F op hlog a c

theorem fold_agrees_spec (ic : ICtx) (L : IrSem.Locals) (F : FloatOps) (env : Env) (b : Builder) (op : BinaryOp)
    (hlog : ∀ lop, op ≠ .logical lop) (a c : Int) (ha : QV.Spec.ConstSem.representable a = true)
    (res : Operand) (b' : Builder)
    (h : visitBinaryExpression F env b op (.const (.integer a)) (.const (.integer c)) = .ok (res, b')) :
    b' = b ∧ ∃ v, evalOperand ic L res = some v ∧ binop F op (.cint a) (.cint c) = some v :=
  QV.Proofs.SemFold.fold_agrees_spec ic L F env b op hlog a c ha res b' h

theorem fold_unary_agrees_spec (ic : ICtx) (L : IrSem.Locals) (F : FloatOps) (b : Builder) (op : UnaryOp) (a : Int)
    (ha : QV.Spec.ConstSem.representable a = true) (res : Operand) (b' : Builder)
    (h : visitUnaryExpression F b op (.const (.integer a)) = .ok (res, b')) :
    b' = b ∧ ∃ v, evalOperand ic L res = some v ∧ unop F op (.cint a) = some v :=
  QV.Proofs.SemFold.fold_unary_agrees_spec ic L F b op a ha res b' h

theorem representable_of_inI32 {v : Int} (h : QV.Spec.Sem.inI32 v = true) : QV.Spec.ConstSem.representable v = true := by
  simp only [QV.Spec.Sem.inI32, Bool.and_eq_true, decide_eq_true_eq] at h
  rw [QV.Proofs.ConstFold.representable_iff]
  omega

/-- RANGE CONDITION: where 32-bit `int` arithmetic on two values is defined, the 64-bit constant folding of the same
    operator on the same two numbers gives the same number -/
theorem fold_int32_agree (F : FloatOps) (op : ArithOp) (a c v : Int)
    (h : QV.Spec.Sem.arithInt op a c = some (.int v)) :
    QV.Spec.Sem.constBinary F (.arith op) a c = some (.cint v) := by
  have key : ∀ x : Int, QV.Spec.Sem.mkInt x = some (.int v) → QV.Spec.ConstSem.intRes x = .val (.int v) := by
    intro x hx
    unfold QV.Spec.Sem.mkInt at hx
    split at hx
    · rename_i hr
      simp at hx
      subst hx
      simp [QV.Spec.ConstSem.intRes, representable_of_inI32 hr]
    · simp at hx
  cases op with
  | add | sub | mul => simp [QV.Spec.Sem.constBinary, QV.Spec.Sem.tokOf, QV.Spec.Sem.tokOfArith, QV.Spec.ConstSem.binary,
      QV.Spec.ConstSem.binInt, key _ h]
  | div =>
    simp only [QV.Spec.Sem.arithInt] at h
    split at h
    · simp at h
    · rename_i hc
      simp [QV.Spec.Sem.constBinary, QV.Spec.Sem.tokOf, QV.Spec.Sem.tokOfArith, QV.Spec.ConstSem.binary,
        QV.Spec.ConstSem.binInt, hc, key _ h]
  | rem =>
    simp only [QV.Spec.Sem.arithInt] at h
    split at h
    · simp at h
    · rename_i hc
      split at h
      · simp [QV.Spec.Sem.constBinary, QV.Spec.Sem.tokOf, QV.Spec.Sem.tokOfArith, QV.Spec.ConstSem.binary,
          QV.Spec.ConstSem.binInt, hc, key _ h]
      · simp at h

/-- the condition is needed: as constants `2147483647 + 1` has a value, as `int`s it has none -/
theorem fold_int32_hypothesis_needed (F : FloatOps) :
    QV.Spec.Sem.constBinary F (.arith .add) 2147483647 1 = some (.cint 2147483648) ∧
    QV.Spec.Sem.arithInt .add 2147483647 1 = none := by
  constructor
  · simp [QV.Spec.Sem.constBinary, QV.Spec.Sem.tokOf, QV.Spec.Sem.tokOfArith, QV.Spec.ConstSem.binary,
      QV.Spec.ConstSem.binInt, QV.Spec.ConstSem.intRes, QV.Spec.ConstSem.representable]
  · decide

/-- builder-state invariant of `emit_result` and the meaning of the emitted statement -/
theorem emit_sound (c : ICtx) (b : Builder) (blk : BasicBlock) (ty : TypeKind) (rv : Rvalue) (hty : ty ≠ .void)
    (ho : OpenAt b blk) (st st1 : State) (v : Val) (hev : evalRvalue c st rv = some (v, st1)) (hnc : isCint v = false) :
    let n := b.code.locals.length
    let r := b.emitResult ty rv
    -- fresh local, append-only statements, nothing else changed
    r.1 = .local n ty ∧
    r.2.code.locals = b.code.locals ++ [ty] ∧
    r.2.code.blocks = b.code.blocks.set b.currentRef { blk with statements := blk.statements ++ [.assign n rv] } ∧
    r.2.panic = b.panic ∧
    -- execution of the appended statement
    ∃ st', execStatement c r.2.code.locals st (.assign n rv) = some st' ∧
      evalOperand c st'.L r.1 = some v ∧ (∀ m, m ≠ n → st'.L m = st1.L m) ∧ st'.w = st1.w ∧ st'.trace = st1.trace := by
  intro n r
  have hr : r = _ := emitResult_nonvoid b ty rv blk hty ho
  rw [hr]
  refine ⟨rfl, rfl, rfl, rfl, { st1 with L := upd st1.L n v }, ?_, ?_, ?_, rfl, rfl⟩
  · exact exec_assign c _ st st1 n ty rv v v (by simp [n]) hev (coerceTo_of_not_cint _ _ hnc)
  · simp [evalOperand, upd, n]
  · intro m hm
    simp [upd, hm]

/-- dynamic unary operator: the emitted statement computes `Spec.Sem.unop` of the operand's value -/
theorem unary_correct (c : ICtx) (b : Builder) (blk : BasicBlock) (op : UnaryOp) (a res : Operand) (b' : Builder)
    (ho : OpenAt b blk) (h : emitUnaryExpression b op a = .ok (res, b'))
    (st : State) (va v : Val) (hva : evalOperand c st.L a = some va) (hnc : isCint va = false)
    (hv : unop c.H.F op va = some v) :
    ∃ stmt st', b'.code.blocks = b.code.blocks.set b.currentRef { blk with statements := blk.statements ++ [stmt] } ∧
      b'.code.locals.length = b.code.locals.length + 1 ∧
      execStatement c b'.code.locals st stmt = some st' ∧ evalOperand c st'.L res = some v ∧
      (∀ m, m ≠ b.code.locals.length → st'.L m = st.L m) ∧ st'.w = st.w ∧ st'.trace = st.trace := by
  obtain ⟨ty, hty, _, hshape⟩ := emitUnary_ty b op a res b' h
  have hev : evalRvalue c st (.unary op (ensureConcreteString a)) = some (v, st) := by
    simp [evalRvalue, evalOperand_ensure, hva, hv]
  obtain ⟨h1, h2, h3, _, st', h5, h6, h7, h8, h9⟩ :=
    emit_sound c b blk ty _ hty ho st st v hev (QV.Proofs.SemFold.unop_not_cint _ op va v hnc hv)
  rw [← hshape] at h1 h2 h3 h5 h6
  simp only at h1 h2 h3 h5 h6
  exact ⟨_, st', h3, by simp [h2], h5, h6, h7, h8, h9⟩

/-- dynamic binary operator (not `&&`/`||`): the emitted statement computes `Spec.Sem.binop` of the operand values.
    The result must not be an untyped constant — it never is when an operand is typed (`QV.Proofs.SemWalk.binop_dyn_not_cint`). -/
theorem binary_correct (c : ICtx) (env : Env) (b : Builder) (blk : BasicBlock) (op : BinaryOp) (l r res : Operand)
    (b' : Builder) (hlog : ∀ lop, op ≠ .logical lop) (ho : OpenAt b blk)
    (h : emitBinaryExpression env b op l r = .ok (res, b'))
    (st : State) (vl vr v : Val) (hvl : evalOperand c st.L l = some vl) (hvr : evalOperand c st.L r = some vr)
    (hv : binop c.H.F op vl vr = some v) (hnc : isCint v = false) :
    ∃ stmt st', b'.code.blocks = b.code.blocks.set b.currentRef { blk with statements := blk.statements ++ [stmt] } ∧
      b'.code.locals.length = b.code.locals.length + 1 ∧
      execStatement c b'.code.locals st stmt = some st' ∧ evalOperand c st'.L res = some v ∧
      (∀ m, m ≠ b.code.locals.length → st'.L m = st.L m) ∧ st'.w = st.w ∧ st'.trace = st.trace := by
  obtain ⟨ty, hty, hshape, _⟩ := emitBinary_ty env b op l r res b' hlog h
  have hev : evalRvalue c st (.binary op (ensureConcreteString l) (ensureConcreteString r)) = some (v, st) := by
    simp [evalRvalue, evalOperand_ensure, hvl, hvr, hv]
  obtain ⟨h1, h2, h3, _, st', h5, h6, h7, h8, h9⟩ := emit_sound c b blk ty _ hty ho st st v hev hnc
  rw [← hshape] at h1 h2 h3 h5 h6
  simp only at h1 h2 h3 h5 h6
  exact ⟨_, st', h3, by simp [h2], h5, h6, h7, h8, h9⟩

/-- `&&`: over any final code that contains the two blocks wired by `visit_binary_logical_expression`
    (`visitLogical_shape`): if the left operand is false, control goes straight to the block after the right block with
    the sink `false`; if it is true, the right operand's code runs (hypothesis `hright`: from block `lRef+1` control
    reaches block `rRef`, whose leading statements leave the right operand's value) and the sink receives it.
    In both cases the sink holds `x && y` at block `rRef + 1`. -/
theorem logical_and_value (c : ICtx) (code : CodeBody) (lRef rRef n : Nat) (blL blR : BasicBlock)
    (ssL ssR : List Statement) (left right : Operand)
    (hbL : code.blocks[lRef]? = some blL) (hsL : blL.statements = ssL ++ [.assign n (.copy (.const (.bool false)))])
    (htL : blL.terminator = some (.brCond left (lRef + 1) (rRef + 1)))
    (hbR : code.blocks[rRef]? = some blR) (hsR : blR.statements = ssR ++ [.assign n (.copy right)])
    (htR : blR.terminator = some (.br (rRef + 1)))
    (hn : code.locals[n]? = some .bool) (hav : Avoids n left)
    (st st1 : State) (hs1 : execStatements c code.locals ssL st = some st1)
    (x : Bool) (hx : evalOperand c st1.L left = some (.bool x))
    (fuel fuel2 : Nat) (st2 st3 : State) (y : Bool)
    (hright : x = true →
      runFrom c code fuel (lRef + 1) { st1 with L := upd st1.L n (.bool false) } = runFrom c code (fuel2 + 1) rRef st2 ∧
      execStatements c code.locals ssR st2 = some st3 ∧ evalOperand c st3.L right = some (.bool y)) :
    ∃ fuel' st', runFrom c code (fuel + 1) lRef st = runFrom c code fuel' (rRef + 1) st' ∧
      st'.L n = some (.bool (x && y)) := by
  have h1 := logical_left_block c code lRef (lRef + 1) (rRef + 1) n fuel blL ssL false left hbL hsL htL hn hav st st1 hs1 x hx
  cases x with
  | false => exact ⟨fuel, _, by simpa using h1, by simp [upd]⟩
  | true =>
    obtain ⟨hr1, hr2, hr3⟩ := hright rfl
    have h2 := sink_block c code rRef (rRef + 1) n fuel2 blR ssR right .bool hbR hsR htR hn st2 st3 hr2 (.bool y) (.bool y) hr3
      (by simp [coerceTo])
    refine ⟨fuel2, { st3 with L := upd st3.L n (.bool y) }, ?_, by simp [upd]⟩
    rw [h1]
    simp only [↓reduceIte]
    rw [hr1, h2]

/-- `||`: dually — the sink is initialised to `true`, the right operand is evaluated only when the left one is false -/
theorem logical_or_value (c : ICtx) (code : CodeBody) (lRef rRef n : Nat) (blL blR : BasicBlock)
    (ssL ssR : List Statement) (left right : Operand)
    (hbL : code.blocks[lRef]? = some blL) (hsL : blL.statements = ssL ++ [.assign n (.copy (.const (.bool true)))])
    (htL : blL.terminator = some (.brCond left (rRef + 1) (lRef + 1)))
    (hbR : code.blocks[rRef]? = some blR) (hsR : blR.statements = ssR ++ [.assign n (.copy right)])
    (htR : blR.terminator = some (.br (rRef + 1)))
    (hn : code.locals[n]? = some .bool) (hav : Avoids n left)
    (st st1 : State) (hs1 : execStatements c code.locals ssL st = some st1)
    (x : Bool) (hx : evalOperand c st1.L left = some (.bool x))
    (fuel fuel2 : Nat) (st2 st3 : State) (y : Bool)
    (hright : x = false →
      runFrom c code fuel (lRef + 1) { st1 with L := upd st1.L n (.bool true) } = runFrom c code (fuel2 + 1) rRef st2 ∧
      execStatements c code.locals ssR st2 = some st3 ∧ evalOperand c st3.L right = some (.bool y)) :
    ∃ fuel' st', runFrom c code (fuel + 1) lRef st = runFrom c code fuel' (rRef + 1) st' ∧
      st'.L n = some (.bool (x || y)) := by
  have h1 := logical_left_block c code lRef (rRef + 1) (lRef + 1) n fuel blL ssL true left hbL hsL htL hn hav st st1 hs1 x hx
  cases x with
  | true => exact ⟨fuel, _, by simpa using h1, by simp [upd]⟩
  | false =>
    obtain ⟨hr1, hr2, hr3⟩ := hright rfl
    have h2 := sink_block c code rRef (rRef + 1) n fuel2 blR ssR right .bool hbR hsR htR hn st2 st3 hr2 (.bool y) (.bool y) hr3
      (by simp [coerceTo])
    refine ⟨fuel2, { st3 with L := upd st3.L n (.bool y) }, ?_, by simp [upd]⟩
    rw [h1]
    simp only [Bool.false_eq_true, ↓reduceIte]
    rw [hr1, h2]

/-- the two blocks exist in the builder right after `visit_binary_logical_expression` (see
    `QV.Proofs.SemVisit.visitLogical_shape` for the full statement): the initial value of the sink and the swapped
    branch targets are those `logical_and_value` / `logical_or_value` assume -/
theorem logical_wiring (b : Builder) (op : LogicOp) (left right : Operand) (lRef rRef : Nat) (bl br_ : BasicBlock)
    (hl : b.code.blocks[lRef]? = some bl) (hlt : bl.terminator = none)
    (hr : b.code.blocks[rRef]? = some br_) (hrt : br_.terminator = none) (hne : lRef ≠ rRef)
    (htl : left.typeDesc = .bool) (htr : right.typeDesc = .bool) :
    let r := visitBinaryLogicalExpression b op left lRef right rRef
    let n := b.code.locals.length
    r.1 = .local n .bool ∧ r.2.code.locals[n]? = some .bool ∧
    r.2.code.blocks[lRef]? = some { bl with
      statements := bl.statements ++ [.assign n (.copy (.const (.bool (match op with | .and => false | .or => true))))],
      terminator := some (.brCond left (match op with | .and => lRef + 1 | .or => rRef + 1)
        (match op with | .and => rRef + 1 | .or => lRef + 1)) } ∧
    r.2.code.blocks[rRef]? = some { br_ with
      statements := br_.statements ++ [.assign n (.copy right)], terminator := some (.br (rRef + 1)) } := by
  intro r n
  have hs : r = _ := visitLogical_shape b op left right lRef rRef bl br_ hl hlt hr hrt hne htl htr
  rw [hs]
  refine ⟨rfl, by simp [n], ?_, ?_⟩
  · simp only
    rw [List.getElem?_set_ne (Ne.symm hne)]
    exact getElem?_set_self' _ _ _ _ hl
  · simp only
    exact getElem?_set_self' _ _ _ br_ (by rw [List.getElem?_set_ne hne]; exact hr)

/-- ternary / `if`: the condition block selects by the condition (`cond_block`), each branch block stores its value
    in the sink and jumps to the join block (`sink_block`).  Over a final code with the three blocks wired as
    `visit_ternary_expression` wires them: the sink holds the value of the chosen branch at block `aRef + 1`. -/
theorem ternary_fragment (c : ICtx) (code : CodeBody) (cRef tRef aRef n : Nat) (blC blT blA : BasicBlock)
    (ssT ssA : List Statement) (cnd cons alt : Operand) (ty : TypeKind)
    (hbC : code.blocks[cRef]? = some blC) (htC : blC.terminator = some (.brCond cnd (cRef + 1) (tRef + 1)))
    (hbT : code.blocks[tRef]? = some blT) (hsT : blT.statements = ssT ++ [.assign n (.copy cons)])
    (htT : blT.terminator = some (.br (aRef + 1)))
    (hbA : code.blocks[aRef]? = some blA) (hsA : blA.statements = ssA ++ [.assign n (.copy alt)])
    (htA : blA.terminator = some (.br (aRef + 1)))
    (hn : code.locals[n]? = some ty)
    (st st1 : State) (hs1 : execStatements c code.locals blC.statements st = some st1)
    (x : Bool) (hx : evalOperand c st1.L cnd = some (.bool x))
    (fuel fuel2 : Nat) (st2 st3 : State) (v v' : Val) (hc : coerceTo (styOf ty).ty v = some v')
    -- the chosen branch: its code runs from its first block to its last block, whose leading statements leave its value
    (hbranch :
      runFrom c code fuel (if x then cRef + 1 else tRef + 1) st1 = runFrom c code (fuel2 + 1) (if x then tRef else aRef) st2 ∧
      execStatements c code.locals (if x then ssT else ssA) st2 = some st3 ∧
      evalOperand c st3.L (if x then cons else alt) = some v) :
    runFrom c code (fuel + 1) cRef st = runFrom c code fuel2 (aRef + 1) { st3 with L := upd st3.L n v' } := by
  rw [cond_block c code cRef (cRef + 1) (tRef + 1) fuel blC cnd hbC htC st st1 hs1 x hx]
  obtain ⟨h1, h2, h3⟩ := hbranch
  rw [h1]
  cases x with
  | true => exact sink_block c code tRef (aRef + 1) n fuel2 blT ssT cons ty hbT hsT htT hn st2 st3 h2 v v' h3 hc
  | false => exact sink_block c code aRef (aRef + 1) n fuel2 blA ssA alt ty hbA hsA htA hn st2 st3 h2 v v' h3 hc

/-- `if (c) A else B` / `if (c) A`: `visit_if_statement` finalises the condition block with
    `br_cond c (cRef+1) (tRef+1)`: control enters the consequence's first block iff the condition is true -/
theorem if_fragment (c : ICtx) (code : CodeBody) (cRef tRef : Nat) (blC : BasicBlock) (cnd : Operand)
    (hbC : code.blocks[cRef]? = some blC) (htC : blC.terminator = some (.brCond cnd (cRef + 1) (tRef + 1)))
    (st st1 : State) (hs1 : execStatements c code.locals blC.statements st = some st1)
    (x : Bool) (hx : evalOperand c st1.L cnd = some (.bool x)) (fuel : Nat) :
    runFrom c code (fuel + 1) cRef st = runFrom c code fuel (if x then cRef + 1 else tRef + 1) st1 :=
  cond_block c code cRef (cRef + 1) (tRef + 1) fuel blC cnd hbC htC st st1 hs1 x hx

/-- what `visit_if_statement` wires on open blocks when there is no `else` -/
theorem if_wiring (b : Builder) (cnd : Operand) (cRef tRef : Nat) (blC blT : BasicBlock)
    (hc : b.code.blocks[cRef]? = some blC) (hct : blC.terminator = none)
    (ht : b.code.blocks[tRef]? = some blT) (htt : blT.terminator = none) (hne : cRef ≠ tRef) :
    let b' := visitIfStatement b cnd cRef tRef none
    b'.code.blocks[cRef]? = some { blC with terminator := some (.brCond cnd (cRef + 1) (tRef + 1)) } ∧
    b'.code.blocks[tRef]? = some { blT with terminator := some (.br (tRef + 1)) } ∧
    b'.code.locals = b.code.locals := by
  have h := QV.Proofs.SemCfgStmtIf.visitIf1_patched b cnd cRef tRef blC blT hc hct ht htt hne
  have hC := h.at_ _ (List.mem_cons_self ..)
  have hT := h.at_ _ (List.mem_cons_of_mem _ (List.mem_cons_self ..))
  simp only [QV.Proofs.SemCfgCtl.BlockPatch.block, List.append_nil] at hC hT
  exact ⟨hC, hT, h.locals.trans (List.append_nil _)⟩

theorem return_of_completion (code : CodeBody) (startRef : Nat) (start : BasicBlock) (a : Operand)
    (hb : code.blocks[startRef]? = some start) (ht : start.terminator = none) (hc : start.completionValue = some a) :
    finalizeCompletionValues code startRef =
      ({ code with blocks := code.blocks.set startRef { start with completionValue := none, terminator := some (.ret a) } },
       none) :=
  QV.Proofs.SemFold.return_of_completion code startRef start a hb ht hc

/-- `build` of one expression statement whose walk, from the empty state, leaves one statement `st` in the builder's only
    block: the operand becomes that block's completion value, which `finalizeCompletionValues` turns into its `ret` -/
theorem build_expr_stmt (wc : QV.Model.Ctx) (cb : Bool) (e : Expr) (op : Operand) (locals : List TypeKind) (st : Statement)
    (h : (walkRvalue wc e).run {} = (some op, { b := ({ code := { locals := locals } } : Builder).pushStatement st })) :
    (build wc cb (.stmt (.expr e))).code =
      some { blocks := [{ statements := [st], terminator := some (.ret (ensureConcreteString op)) }], locals := locals } := by
  simp [build, walkProgram, QV.Proofs.SemWalk.run_expr_stmt, h, visitExpressionStatement, Builder.setCompletionValue,
    Builder.pushStatement, Builder.pushStatementAt, Builder.blockHasTerminator, Builder.modifyBlock, Builder.currentRef,
    finalizeCompletionValues, setBlock]

/-- the IR the model compiler builds for the binding `o.p` -/
theorem build_property_read (wc : QV.Model.Ctx) (o p cls : String) (ci : ClassInfo) (pinfo : PropInfo)
    (h1 : wc.objects.find? (·.1 = o) = some (o, cls))
    (h2 : wc.env.findClass cls = some ci)
    (h3 : ci.props.find? (·.name = p) = some pinfo)
    (h4 : pinfo.readable = true) (h5 : pinfo.ty ≠ .void) :
    (build wc false (.stmt (.expr (.member (.ident o) p)))).code =
      some { blocks := [{ statements := [.assign 0 (.readProperty (.namedObject o cls) pinfo)],
                          terminator := some (.ret (.local 0 pinfo.ty)) }],
             locals := [pinfo.ty] } := by
  refine build_expr_stmt wc false _ (.local 0 pinfo.ty) [pinfo.ty] _ ?_
  simp [walkRvalue, walkExpr, processIdentifier, getLocals, Locals.get?, Ctx.getRef, h1,
    processRef, processItemProperty, toConcreteType, Operand.typeDesc, Ctx.classOfType, h2, h3, TypeKind.isPointer,
    interToRvalue, getB, consume, visitObjectProperty, h4, ensureConcreteString, Builder.emitResult, Builder.alloca, h5, setB,
    bind, OptionT.bind, OptionT.mk, StateT.bind, pure, OptionT.pure, StateT.pure, get, getThe, MonadStateOf.get, StateT.get,
    modify, modifyGet, MonadStateOf.modifyGet, StateT.modifyGet, OptionT.lift, liftM, monadLift, MonadLift.monadLift,
    OptionT.run]

open QV.Proofs.SemWalk QV.Proofs.SemStraight

theorem agree_of_ctxAgree {wc : Ctx} {sc : QV.Spec.Sem.Ctx} {ic : ICtx} (h : CtxAgree wc sc ic) :
    Agree wc sc ic := ⟨h.host, h.float, h.objects, h.props⟩

open QV.Proofs.SemCfg QV.Proofs.SemCfgWalk QV.Proofs.SemCfgCtl QV.Proofs.SemCfgBlock

/-- `&&` / `||` inside the induction (`cfg_logical`): the right operand's blocks are entered only when the left operand
    does not decide -/
theorem walk_logical (wc : Ctx) (sc : QV.Spec.Sem.Ctx) (ic : ICtx) (wl : QV.Model.Locals) (vars : List QV.Spec.Sem.Var)
    (tok : BinaryToken) (lop : LogicOp) (l r : Expr) (htok : tok.toOp = some (.logical lop))
    (ihl : WalkOk wc sc ic wl vars l) (ihr : WalkOk wc sc ic wl vars r) : WalkOk wc sc ic wl vars (.binary tok l r) :=
  cfg_logical wc sc ic wl vars tok lop l r htok ihl ihr

/-- `?:` inside the induction (`cfg_ternary`): both branch values are stored — converted to the sink type, which is the
    type `(x.unify y).concrete` the reference semantics converts the chosen value to (`deduce_tyrel_ternary`) -/
theorem walk_ternary (wc : Ctx) (sc : QV.Spec.Sem.Ctx) (ic : ICtx) (wl : QV.Model.Locals) (vars : List QV.Spec.Sem.Var)
    (c a b : Expr) (ihc : WalkOk wc sc ic wl vars c) (iha : WalkOk wc sc ic wl vars a) (ihb : WalkOk wc sc ic wl vars b)
    (hsa : ∀ vars', shapeOf vars' = shapeOf vars → QV.Spec.Sem.staticTy sc vars' a = QV.Spec.Sem.staticTy sc vars a)
    (hsb : ∀ vars', shapeOf vars' = shapeOf vars → QV.Spec.Sem.staticTy sc vars' b = QV.Spec.Sem.staticTy sc vars b) :
    WalkOk wc sc ic wl vars (.ternary c a b) :=
  cfg_ternary wc sc ic wl vars c a b ihc iha ihb hsa hsb

/-- the induction over the fragment `CfgFrag wc scope` (`scope`: the names of the variables in scope):
      e ::= integer | true | false | x | o.p | unary-op e | e ⊕ e | e && e | e || e | e ? e : e -/
theorem walk_fragment (wc : Ctx) (sc : QV.Spec.Sem.Ctx) (ic : ICtx) (hag : CtxAgree wc sc ic)
    (scope : List String) (wl : QV.Model.Locals) (vars : List QV.Spec.Sem.Var) (hsc : ScopeOf scope wl) (e : Expr)
    (hf : CfgFrag wc scope e) : WalkOk wc sc ic wl vars e :=
  walk_cfg wc sc ic (agree_of_ctxAgree hag) scope wl vars hsc e hf

open QV.Proofs.SemCfgStmt QV.Proofs.SemCfgStmtRet in
/-- from the walk of the program's one statement up to the operand of its final expression / `return` (`finish`) and a
    simulation on the result of the run to the value of the binding: `build` is that walk from the initial builder and
    then `finalize_completion_values` (`ir_of_finish_r`); the reference semantics' value is
    the outcome's value, converted to the binding's type -/
theorem compile_correct_of_walk (wc : Ctx) (sc : QV.Spec.Sem.Ctx) (ic : ICtx) (st : Stmt) (isRet : Bool) (w : World)
    (h : ∀ s', QV.Proofs.BuilderInv.StmtRun wc none st {} s' → ∃ (s1 : WState) (op : Operand),
      s'.b = finish isRet s1.b op ∧ Walked ({} : WState).b s1.b ∧
      ∀ C, Covers C s1.b ({} : WState).b.currentRef → RetAt C s1.b op →
      ∀ out sst', QV.Spec.Sem.execStmt sc st { w := w } = some (out, sst') →
        ∃ val d res, outVal out = some val ∧ d ≤ s1.b.currentRef - ({} : WState).b.currentRef ∧
          ∀ fuel, runAt ic C (fuel + d) ({} : WState).b.currentRef (curLen ({} : WState).b)
            { w := w, L := fun _ => none, trace := [] } = some (val, res))
    (code : CodeBody) (hcode : (build wc false (.stmt st)).code = some code) (t : Ty) (v : Val)
    (hspec : QV.Spec.Sem.bindingValue sc (.stmt st) w t = some v) :
    IrSem.bindingValue ic code w t = some v := by
  unfold build at hcode
  simp only [walkProgram] at hcode
  cases hw0 : (walkStmt wc none st).run {} with
  | mk r s' =>
    simp only [OptionT.run] at hw0 hcode
    rw [hw0] at hcode
    cases r with
    | none => simp at hcode
    | some u =>
      obtain ⟨s1, op, hfin, hwalked, hsim⟩ := h s' (stmtRun hw0)
      simp only [Option.some.injEq] at hcode
      subst hcode
      simp only [QV.Spec.Sem.bindingValue, QV.Spec.Sem.run, QV.Spec.Sem.runStmt] at hspec
      cases hse : QV.Spec.Sem.execStmt sc st { w := w } with
      | none => simp [hse] at hspec
      | some p =>
        obtain ⟨out, sst'⟩ := p
        have hfinal : ∀ val, outVal out = some val → QV.Spec.Sem.coerceTo t val = some v := by
          intro val hout
          cases out with
          | ret x => simp only [outVal, Option.some.injEq] at hout; subst hout; simpa [hse] using hspec
          | brk wv => cases hout
          | normal wv =>
            cases wv with
            | none => cases hout
            | some x => simp only [outVal, Option.some.injEq] at hout; subst hout; simpa [hse] using hspec
        rw [hfin]
        obtain ⟨val, st', hout, hrunI⟩ := ir_of_finish_r isRet ic s1 op w (fun val => outVal out = some val) hwalked
          (fun C hC hret => hsim C hC hret out sst' hse)
        simp only [IrSem.bindingValue, hrunI, Option.bind_some]
        exact hfinal val hout

/-- C01, END-TO-END for the fragment
      P ::= e;   e ::= integer | true | false | o.p | unary-op e | e ⊕ e | e && e | e || e | e ? e : e
    (⊕ any binary operator except `&&`/`||`; `o` an object id, `p` a property of its class of non-void type: `CfgFrag`).
    If the model compiler builds code for the binding `e`, then in EVERY world (whose stored values are typed) where the
    reference semantics defines the value of `e` at the property type, executing the built IR — a CFG with one block per
    branch point — returns that value. -/
theorem compile_correct_partial (wc : Ctx) (sc : QV.Spec.Sem.Ctx) (ic : ICtx) (hag : CtxAgree wc sc ic)
    (e : Expr) (hs : CfgFrag wc [] e) (code : CodeBody)
    (hcode : (build wc false (.stmt (.expr e))).code = some code)
    (w : World) (hw : ∀ x q u, w.prop x q = some u → isCint u = false) (t : Ty) (v : Val)
    (hspec : QV.Spec.Sem.bindingValue sc (.stmt (.expr e)) w t = some v) :
    IrSem.bindingValue ic code w t = some v := by
  refine compile_correct_of_walk wc sc ic _ false w (fun s' hwalk => ?_) code hcode t v hspec
  cases hwalk with | @expr _ _ _ op s1 hr =>
  obtain ⟨_, hwalked, _, _, hsim, _⟩ :=
    walk_cfg wc sc ic (agree_of_ctxAgree hag) [] [] [] ScopeOf.nil e hs {} s1 op hr.run_eq rfl (VarRel.nil _) ⟨{}, rfl, rfl⟩
  refine ⟨s1, op, rfl, hwalked, fun C hC ⟨bE, hbE, hlen, hterm⟩ out sst' hse => ?_⟩
  rw [QV.Spec.Sem.execStmt.eq_def] at hse
  obtain ⟨⟨val, sa⟩, hev, heq⟩ := Option.map_eq_some_iff.mp hse
  cases heq
  -- the expression statement records the completion value in the exit block,
  -- `finalize_completion_values` turns it into `return`
  obtain ⟨_, d, st', hd, hrunE, hv, _⟩ :=
    hsim C hC { w := w, L := fun _ => none, trace := [] } { w := w } _ _ rfl rfl hw (ValRel.nil _ _) hev
  refine ⟨val, d, st', rfl, hd, fun fuel => ?_⟩
  rw [hrunE fuel, runAt_ret ic C _ _ _ bE _ st' hbE hlen hterm, evalOperand_ensure, hv]
  rfl

/-- C01, proved END-TO-END for the fragment  P ::= `o.p`  (`o` an object id of the document, `p` a readable property of
    its class): the IR built by the model compiler, executed in any world whose stored values are typed (`hw`), returns the
    value the reference semantics gives to the source expression. -/
theorem compile_correct_property_read (wc : QV.Model.Ctx) (sc : QV.Spec.Sem.Ctx) (ic : ICtx) (hag : CtxAgree wc sc ic)
    (o p cls : String) (ci : ClassInfo) (pinfo : PropInfo)
    (h1 : wc.objects.find? (·.1 = o) = some (o, cls))
    (h2 : wc.env.findClass cls = some ci)
    (h3 : ci.props.find? (·.name = p) = some pinfo)
    (h4 : pinfo.readable = true) (h5 : pinfo.ty ≠ .void)
    (code : CodeBody) (hcode : (build wc false (.stmt (.expr (.member (.ident o) p)))).code = some code)
    (w : World) (hw : ∀ x q v, w.prop x q = some v → isCint v = false)
    (t : Ty) (v : Val)
    (hspec : QV.Spec.Sem.bindingValue sc (.stmt (.expr (.member (.ident o) p))) w t = some v) :
    IrSem.bindingValue ic code w t = some v :=
  compile_correct_partial wc sc ic hag _ (.read o p cls ci pinfo h1 h2 h3 h5 (by simp)) code hcode w hw t v hspec

/-- the straight-line fragment (no `&&`, `||`, `?:`), a corollary -/
theorem compile_correct_straight (wc : Ctx) (sc : QV.Spec.Sem.Ctx) (ic : ICtx) (hag : CtxAgree wc sc ic)
    (e : Expr) (hs : Straight wc e) (code : CodeBody)
    (hcode : (build wc false (.stmt (.expr e))).code = some code)
    (w : World) (hw : ∀ x q u, w.prop x q = some u → isCint u = false) (t : Ty) (v : Val)
    (hspec : QV.Spec.Sem.bindingValue sc (.stmt (.expr e)) w t = some v) :
    IrSem.bindingValue ic code w t = some v :=
  compile_correct_partial wc sc ic hag e (straight_cfgFrag hs) code hcode w hw t v hspec

/-- `let x = e; rest` / `const x = e; rest` inside the induction over statement lists (`block_decl`): ONE local of the
    concrete type of the initialiser's operand, which is the type the reference semantics gives the variable
    (`tyrel_toConcrete`) -/
theorem walk_block_let (wc : Ctx) (sc : QV.Spec.Sem.Ctx) (ic : ICtx) (isRet : Bool) (wl : QV.Model.Locals)
    (vars : List QV.Spec.Sem.Var) (kind : DeclKind) (x : String) (e : Expr) (rest : List Stmt)
    (he : WalkOk wc sc ic wl vars e)
    (hse : ∀ vars', shapeOf vars' = shapeOf vars → QV.Spec.Sem.staticTy sc vars' e = QV.Spec.Sem.staticTy sc vars e)
    (hrest : ∀ (n : Nat) (sty : STy), BlockOk wc sc ic isRet (wl.insert x (n, kind))
      ({ name := x, sty := sty, const := kind = .const_, val := none } :: vars) rest) :
    BlockOk wc sc ic isRet wl vars (.lexical kind [{ name := x, ty := none, value := some e }] :: rest) :=
  block_decl wc sc ic isRet wl vars kind x e rest he hse hrest

/-- the induction over the block fragment `BlockFrag wc isRet scope`:
      B ::= e | return e | let x = e; B | const x = e; B      (e in `CfgFrag` with the variables declared so far) -/
theorem walk_block_fragment (wc : Ctx) (sc : QV.Spec.Sem.Ctx) (ic : ICtx) (hag : CtxAgree wc sc ic) (isRet : Bool)
    (scope : List String) (stmts : List Stmt) (hf : BlockFrag wc isRet scope stmts)
    (wl : QV.Model.Locals) (vars : List QV.Spec.Sem.Var) (hsc : ScopeOf scope wl) : BlockOk wc sc ic isRet wl vars stmts :=
  walk_block wc sc ic (agree_of_ctxAgree hag) isRet scope stmts hf wl vars hsc

/-- from the induction's conclusion on the result of the run (`ROk`, at the initial builder and the empty scope) to the
    value of the binding: the block statement walks the list and restores the name map -/
theorem compile_correct_of_rOk (wc : Ctx) (sc : QV.Spec.Sem.Ctx) (ic : ICtx) (isRet : Bool) (stmts : List Stmt)
    (h : QV.Proofs.SemCfgStmtRet.ROk wc sc ic isRet [] [] stmts) (code : CodeBody)
    (hcode : (build wc false (.stmt (.block stmts))).code = some code)
    (w : World) (hw : ∀ x q u, w.prop x q = some u → isCint u = false) (t : Ty) (v : Val)
    (hspec : QV.Spec.Sem.bindingValue sc (.stmt (.block stmts)) w t = some v) :
    IrSem.bindingValue ic code w t = some v := by
  open QV.Proofs.SemCfgStmt QV.Proofs.SemCfgStmtRet in
  refine compile_correct_of_walk wc sc ic _ isRet w (fun s' hwalk => ?_) code hcode t v hspec
  cases hwalk with | @block _ _ _ sA hss =>
  obtain ⟨s1, op, hfin, hwalked, _, hsim⟩ := h {} sA hss.run_eq rfl (VarRel.nil _) VarInj.nil ⟨{}, rfl, rfl⟩
  refine ⟨s1, op, hfin, hwalked, fun C hC hret out sst' hse => ?_⟩
  rw [QV.Spec.Sem.execStmt.eq_def] at hse
  obtain ⟨⟨out0, sst0⟩, hex, heq⟩ := Option.map_eq_some_iff.mp hse
  cases heq
  obtain ⟨val, hout, d, res, hd, hrun'⟩ :=
    hsim C hC hret { w := w, L := fun _ => none, trace := [] } { w := w } _ _ rfl rfl hw (ValRel.nil _ _) hex
  exact ⟨val, d, res, hout, hd, hrun'⟩

/-- C01, END-TO-END for blocks `{ let/const x₁ = e₁; …; let/const xₙ = eₙ; e }` (`isRet = false`) and
    `{ let/const x₁ = e₁; …; let/const xₙ = eₙ; return e }` (`isRet = true`) whose expressions are in the fragment of
    `compile_correct_partial` extended by reads of the variables declared before them (`BlockFrag`) -/
theorem compile_correct_block (wc : Ctx) (sc : QV.Spec.Sem.Ctx) (ic : ICtx) (hag : CtxAgree wc sc ic) (isRet : Bool)
    (stmts : List Stmt) (hs : BlockFrag wc isRet [] stmts) (code : CodeBody)
    (hcode : (build wc false (.stmt (.block stmts))).code = some code)
    (w : World) (hw : ∀ x q u, w.prop x q = some u → isCint u = false) (t : Ty) (v : Val)
    (hspec : QV.Spec.Sem.bindingValue sc (.stmt (.block stmts)) w t = some v) :
    IrSem.bindingValue ic code w t = some v :=
  compile_correct_of_rOk wc sc ic isRet stmts
    (QV.Proofs.SemCfgStmtRet.rOk_of_sOk (QV.Proofs.SemCfgStmt.sOk_of_blockOk
      (walk_block wc sc ic (agree_of_ctxAgree hag) isRet [] stmts hs [] [] ScopeOf.nil))) code hcode w hw t v hspec

/-- `-a.i % 2 < b.j` is in the straight-line fragment (given that `a`, `b` are object ids with those properties) -/
example (wc : QV.Model.Ctx) (ci : ClassInfo) (pi pj : PropInfo)
    (ha : wc.objects.find? (·.1 = "a") = some ("a", "VBase")) (hb : wc.objects.find? (·.1 = "b") = some ("b", "VBase"))
    (hc : wc.env.findClass "VBase" = some ci) (hi : ci.props.find? (·.name = "i") = some pi)
    (hj : ci.props.find? (·.name = "j") = some pj) (hti : pi.ty ≠ .void) (htj : pj.ty ≠ .void) :
    Straight wc (.binary .lessThan (.binary .rem (.unary .minus (.member (.ident "a") "i")) (.integer 2))
      (.member (.ident "b") "j")) :=
  .binary _ (.cmp .lt) _ _ rfl (by intro l h; cases h)
    (.binary _ (.arith .rem) _ _ rfl (by intro l h; cases h)
      (.unary _ _ (.read "a" "i" "VBase" ci pi ha hc hi hti)) (.int 2))
    (.read "b" "j" "VBase" ci pj hb hc hj htj)

/-- `(a.b && (a.i < 3 || b.j > 0)) ? a.i : -b.j` is in the fragment of `compile_correct_partial` -/
example (wc : QV.Model.Ctx) (ci : ClassInfo) (pi pj pb : PropInfo)
    (ha : wc.objects.find? (·.1 = "a") = some ("a", "VBase")) (hb : wc.objects.find? (·.1 = "b") = some ("b", "VBase"))
    (hc : wc.env.findClass "VBase" = some ci) (hi : ci.props.find? (·.name = "i") = some pi)
    (hj : ci.props.find? (·.name = "j") = some pj) (hbb : ci.props.find? (·.name = "b") = some pb)
    (hti : pi.ty ≠ .void) (htj : pj.ty ≠ .void) (htb : pb.ty ≠ .void) :
    CfgFrag wc [] (.ternary
      (.binary .logicalAnd (.member (.ident "a") "b")
        (.binary .logicalOr (.binary .lessThan (.member (.ident "a") "i") (.integer 3))
          (.binary .greaterThan (.member (.ident "b") "j") (.integer 0))))
      (.member (.ident "a") "i") (.unary .minus (.member (.ident "b") "j"))) :=
  .ternary _ _ _
    (.logical _ .and _ _ rfl (.read "a" "b" "VBase" ci pb ha hc hbb htb (by simp))
      (.logical _ .or _ _ rfl
        (.cmp .lt (.read "a" "i" "VBase" ci pi ha hc hi hti (by simp)) (.int 3))
        (.cmp .gt (.read "b" "j" "VBase" ci pj hb hc hj htj (by simp)) (.int 0))))
    (.read "a" "i" "VBase" ci pi ha hc hi hti (by simp)) (.unary _ _ (.read "b" "j" "VBase" ci pj hb hc hj htj (by simp)))

/-- `{ const n = a.i * 2; let ok = n > 0 && b.j < n; return ok ? n : -n }` is in the fragment of `compile_correct_block` -/
example (wc : QV.Model.Ctx) (ci : ClassInfo) (pi pj : PropInfo)
    (ha : wc.objects.find? (·.1 = "a") = some ("a", "VBase")) (hb : wc.objects.find? (·.1 = "b") = some ("b", "VBase"))
    (hc : wc.env.findClass "VBase" = some ci) (hi : ci.props.find? (·.name = "i") = some pi)
    (hj : ci.props.find? (·.name = "j") = some pj) (hti : pi.ty ≠ .void) (htj : pj.ty ≠ .void) :
    BlockFrag wc true []
      [.lexical .const_ [{ name := "n", ty := none, value := some (.binary .mul (.member (.ident "a") "i") (.integer 2)) }],
       .lexical .let_ [{ name := "ok", ty := none, value := some (.binary .logicalAnd (.binary .greaterThan (.ident "n") (.integer 0)) (.binary .lessThan (.member (.ident "b") "j") (.ident "n"))) }],
       .return_ (some (.ternary (.ident "ok") (.ident "n") (.unary .minus (.ident "n"))))] :=
  .decl _ _ _ _ _ _
    (.arith .mul (.read "a" "i" "VBase" ci pi ha hc hi hti (by simp)) (.int 2))
    (.decl _ _ _ _ _ _
      (.logical _ .and _ _ rfl
        (.cmp .gt (.var "n" (by simp)) (.int 0))
        (.cmp .lt (.read "b" "j" "VBase" ci pj hb hc hj htj (by simp))
          (.var "n" (by simp))))
      (.ret _ _ (.ternary _ _ _ (.var "ok" (by simp)) (.var "n" (by simp)) (.unary _ _ (.var "n" (by simp))))))

/-- the integer arithmetic of the reference semantics at its corners: `%` and `/` truncate, `>>` is arithmetic, `int`
    overflow is undefined, `uint` wraps -/
example : QV.Spec.Sem.arithInt .rem (-7) 2 = some (.int (-1)) ∧ QV.Spec.Sem.arithInt .div (-7) 2 = some (.int (-3)) ∧
    QV.Spec.Sem.shiftVal .shr (.int (-7)) 1 = some (.int (-4)) ∧ QV.Spec.Sem.arithInt .add 2147483647 1 = none ∧
    QV.Spec.Sem.arithInt .rem (-2147483648) (-1) = none ∧ QV.Spec.Sem.arithUint .sub 0 1 = some (.uint 4294967295) :=
  ⟨rfl, rfl, rfl, rfl, rfl, rfl⟩

section Assignments
open QV.Proofs.SemCfgStmt

/-- `x = e; rest` inside the induction over statement lists (`g_assign` at `sTail`): ONE store, converted to the local's
    type -/
theorem walk_block_assign (wc : Ctx) (sc : QV.Spec.Sem.Ctx) (ic : ICtx) (isRet : Bool) (wl : QV.Model.Locals)
    (vars : List QV.Spec.Sem.Var) (x : String) (n : Nat) (k : DeclKind) (e : Expr) (rest : List Stmt)
    (hx : wl.get? x = some (n, k)) (he : WalkOk wc sc ic wl vars e) (hrest : SOk wc sc ic isRet wl vars rest) :
    SOk wc sc ic isRet wl vars (.expr (.assign (.ident x) e) :: rest) :=
  sOk_iff_gOk.mpr (g_assign (sTail_ok ic isRet) wc sc ic isRet wl vars x n k e rest hx he (sOk_iff_gOk.mp hrest))

/-- the induction over `SFrag wc isRet scope`:
      S ::= e | return e | let x = e; S | const x = e; S | x = e; S     (x a variable in scope; e in `CfgFrag`) -/
theorem walk_statements (wc : Ctx) (sc : QV.Spec.Sem.Ctx) (ic : ICtx) (hag : CtxAgree wc sc ic) (isRet : Bool)
    (scope : List String) (stmts : List Stmt) (hf : SFrag wc isRet scope stmts)
    (wl : QV.Model.Locals) (vars : List QV.Spec.Sem.Var) (hsc : ScopeOf scope wl) : SOk wc sc ic isRet wl vars stmts :=
  QV.Proofs.SemCfgStmtIf.walk_i wc sc ic (agree_of_ctxAgree hag) isRet scope stmts (QV.Proofs.SemCfgStmtIf.sFrag_iFrag hf) wl vars hsc

/-- C01, END-TO-END for blocks with assignments:  P ::= { S },
      S ::= e | return e | let x = e; S | const x = e; S | x = e; S
    (an assignment to a `const` variable or of an operand that is not assignable to the variable's type is refused by
    the compiler: then there is no code and the theorem says nothing) -/
theorem compile_correct_block_assign (wc : Ctx) (sc : QV.Spec.Sem.Ctx) (ic : ICtx) (hag : CtxAgree wc sc ic) (isRet : Bool)
    (stmts : List Stmt) (hs : SFrag wc isRet [] stmts) (code : CodeBody)
    (hcode : (build wc false (.stmt (.block stmts))).code = some code)
    (w : World) (hw : ∀ x q u, w.prop x q = some u → isCint u = false) (t : Ty) (v : Val)
    (hspec : QV.Spec.Sem.bindingValue sc (.stmt (.block stmts)) w t = some v) :
    IrSem.bindingValue ic code w t = some v :=
  compile_correct_of_rOk wc sc ic isRet stmts
    (QV.Proofs.SemCfgStmtRet.rOk_of_sOk (QV.Proofs.SemCfgStmtIf.walk_i wc sc ic (agree_of_ctxAgree hag) isRet [] stmts
      (QV.Proofs.SemCfgStmtIf.sFrag_iFrag hs) [] [] ScopeOf.nil)) code hcode w hw t v hspec

/-- `{ let acc = a.i; const k = 3; acc = acc * k + b.j; acc = acc > 100 ? 100 : acc; return acc }` is in the fragment -/
example (wc : QV.Model.Ctx) (ci : ClassInfo) (pi pj : PropInfo)
    (ha : wc.objects.find? (·.1 = "a") = some ("a", "VBase")) (hb : wc.objects.find? (·.1 = "b") = some ("b", "VBase"))
    (hc : wc.env.findClass "VBase" = some ci) (hi : ci.props.find? (·.name = "i") = some pi)
    (hj : ci.props.find? (·.name = "j") = some pj) (hti : pi.ty ≠ .void) (htj : pj.ty ≠ .void) :
    SFrag wc true []
      [.lexical .let_ [{ name := "acc", ty := none, value := some (.member (.ident "a") "i") }],
       .lexical .const_ [{ name := "k", ty := none, value := some (.integer 3) }],
       .expr (.assign (.ident "acc") (.binary .add (.binary .mul (.ident "acc") (.ident "k")) (.member (.ident "b") "j"))),
       .expr (.assign (.ident "acc") (.ternary (.binary .greaterThan (.ident "acc") (.integer 100)) (.integer 100) (.ident "acc"))),
       .return_ (some (.ident "acc"))] :=
  .decl _ _ _ _ _ _ (.read "a" "i" "VBase" ci pi ha hc hi hti (by simp))
    (.decl _ _ _ _ _ _ (.int 3)
      (.assign _ _ _ _ _ (by simp)
        (.arith .add
          (.arith .mul (.var "acc" (by simp)) (.var "k" (by simp)))
          (.read "b" "j" "VBase" ci pj hb hc hj htj (by simp)))
        (.assign _ _ _ _ _ (by simp)
          (.ternary _ _ _ (.cmp .gt (.var "acc" (by simp)) (.int 100))
            (.int 100) (.var "acc" (by simp)))
          (.ret _ _ (.var "acc" (by simp))))))

end Assignments

section IfStatements
open QV.Proofs.SemCfgStmt QV.Proofs.SemCfgStmtIf

/-- `if (c) { A } else { B }; rest` inside the induction over statement lists (`g_if_else` at `sTail`); the branch blocks'
    completion values (`void`, recorded by the assignments) are dead because a statement follows -/
theorem walk_block_if_else (wc : Ctx) (sc : QV.Spec.Sem.Ctx) (ic : ICtx) (isRet : Bool) (wl : QV.Model.Locals)
    (vars : List QV.Spec.Sem.Var) (cnd : Expr) (A B rest : List Stmt)
    (hc : WalkOk wc sc ic wl vars cnd) (hA : BodyOk wc sc ic wl vars A) (hB : BodyOk wc sc ic wl vars B)
    (hrest : SOk wc sc ic isRet wl vars rest) :
    SOk wc sc ic isRet wl vars (.if_ cnd (.block A) (some (.block B)) :: rest) :=
  sOk_iff_gOk.mpr (g_if_else (sTail_ok ic isRet) false false nofun wc sc ic isRet wl vars cnd A B rest hc
    (branch_of_body hA) (branch_of_body hB) (sOk_iff_gOk.mp hrest))

/-- `if (c) { A }; rest`: the condition's exit block branches to the first block of `A` or to the join block -/
theorem walk_block_if (wc : Ctx) (sc : QV.Spec.Sem.Ctx) (ic : ICtx) (isRet : Bool) (wl : QV.Model.Locals)
    (vars : List QV.Spec.Sem.Var) (cnd : Expr) (A rest : List Stmt)
    (hc : WalkOk wc sc ic wl vars cnd) (hA : BodyOk wc sc ic wl vars A) (hrest : SOk wc sc ic isRet wl vars rest) :
    SOk wc sc ic isRet wl vars (.if_ cnd (.block A) none :: rest) :=
  sOk_iff_gOk.mpr (g_if1 (sTail_ok ic isRet) false nofun wc sc ic isRet wl vars cnd A rest hc
    (branch_of_body hA) (sOk_iff_gOk.mp hrest))

/-- the induction over `IFrag wc isRet scope`:
      S ::= e | return e | let x = e; S | const x = e; S | x = e; S | if (e) { A } else { A }; S | if (e) { A }; S
      A ::= ε | x = e; A -/
theorem walk_statements_if (wc : Ctx) (sc : QV.Spec.Sem.Ctx) (ic : ICtx) (hag : CtxAgree wc sc ic) (isRet : Bool)
    (scope : List String) (stmts : List Stmt) (hf : IFrag wc isRet scope stmts)
    (wl : QV.Model.Locals) (vars : List QV.Spec.Sem.Var) (hsc : ScopeOf scope wl) : SOk wc sc ic isRet wl vars stmts :=
  walk_i wc sc ic (agree_of_ctxAgree hag) isRet scope stmts hf wl vars hsc

/-- C01, END-TO-END for blocks with assignments and `if` statements:  P ::= { S },
      S ::= e | return e | let x = e; S | const x = e; S | x = e; S | if (e) { A } else { A }; S | if (e) { A }; S
      A ::= ε | x = e; A
    (the `if` is followed by at least the final expression / `return`; its branches assign to variables in scope) -/
theorem compile_correct_block_if (wc : Ctx) (sc : QV.Spec.Sem.Ctx) (ic : ICtx) (hag : CtxAgree wc sc ic) (isRet : Bool)
    (stmts : List Stmt) (hs : IFrag wc isRet [] stmts) (code : CodeBody)
    (hcode : (build wc false (.stmt (.block stmts))).code = some code)
    (w : World) (hw : ∀ x q u, w.prop x q = some u → isCint u = false) (t : Ty) (v : Val)
    (hspec : QV.Spec.Sem.bindingValue sc (.stmt (.block stmts)) w t = some v) :
    IrSem.bindingValue ic code w t = some v :=
  compile_correct_of_rOk wc sc ic isRet stmts
    (QV.Proofs.SemCfgStmtRet.rOk_of_sOk (walk_i wc sc ic (agree_of_ctxAgree hag) isRet [] stmts hs [] [] ScopeOf.nil))
    code hcode w hw t v hspec

/-- `{ let m = a.i; if (b.j > m) { m = b.j; } if (m < 0 || m > 100) { m = 0; } else { m = m * 2; m = m + 1; } return m }`
    is in the fragment -/
example (wc : QV.Model.Ctx) (ci : ClassInfo) (pi pj : PropInfo)
    (ha : wc.objects.find? (·.1 = "a") = some ("a", "VBase")) (hb : wc.objects.find? (·.1 = "b") = some ("b", "VBase"))
    (hc : wc.env.findClass "VBase" = some ci) (hi : ci.props.find? (·.name = "i") = some pi)
    (hj : ci.props.find? (·.name = "j") = some pj) (hti : pi.ty ≠ .void) (htj : pj.ty ≠ .void) :
    IFrag wc true []
      [.lexical .let_ [{ name := "m", ty := none, value := some (.member (.ident "a") "i") }],
       .if_ (.binary .greaterThan (.member (.ident "b") "j") (.ident "m"))
         (.block [.expr (.assign (.ident "m") (.member (.ident "b") "j"))]) none,
       .if_ (.binary .logicalOr (.binary .lessThan (.ident "m") (.integer 0)) (.binary .greaterThan (.ident "m") (.integer 100)))
         (.block [.expr (.assign (.ident "m") (.integer 0))])
         (some (.block [.expr (.assign (.ident "m") (.binary .mul (.ident "m") (.integer 2))),
                        .expr (.assign (.ident "m") (.binary .add (.ident "m") (.integer 1)))])),
       .return_ (some (.ident "m"))] :=
  .decl _ _ _ _ _ _ (.read "a" "i" "VBase" ci pi ha hc hi hti (by simp))
    (.if1 _ _ _ _ _
      (.cmp .gt (.read "b" "j" "VBase" ci pj hb hc hj htj (by simp))
        (.var "m" (by simp)))
      (.assign _ _ _ (by simp) (.read "b" "j" "VBase" ci pj hb hc hj htj (by simp)) .nil)
      (.ifElse _ _ _ _ _ _
        (.logical _ .or _ _ rfl
          (.cmp .lt (.var "m" (by simp)) (.int 0))
          (.cmp .gt (.var "m" (by simp)) (.int 100)))
        (.assign _ _ _ (by simp) (.int 0) .nil)
        (.assign _ _ _ (by simp) (.arith .mul (.var "m" (by simp)) (.int 2))
          (.assign _ _ _ (by simp) (.arith .add (.var "m" (by simp)) (.int 1))
            .nil))
        (.ret _ _ (.var "m" (by simp)))))

end IfStatements

section EarlyReturn
open QV.Proofs.SemCfgStmt QV.Proofs.SemCfgStmtIf QV.Proofs.SemCfgStmtRet

/-- `if (c) { T }; rest` where `T` ends in `return e` (`g_if1` at `rTail`): the empty block pushed after the `return`
    becomes the consequence's exit block and jumps to the join block, never executed -/
theorem walk_block_if_return (wc : Ctx) (sc : QV.Spec.Sem.Ctx) (ic : ICtx) (isRet : Bool) (wl : QV.Model.Locals)
    (vars : List QV.Spec.Sem.Var) (cnd : Expr) (T rest : List Stmt)
    (hc : WalkOk wc sc ic wl vars cnd) (hT : SOk wc sc ic true wl vars T) (hrest : ROk wc sc ic isRet wl vars rest) :
    ROk wc sc ic isRet wl vars (.if_ cnd (.block T) none :: rest) :=
  rOk_iff_gOk.mpr (g_if1 rTail_ok true (fun _ => rTail_ret) wc sc ic isRet wl vars cnd T rest hc
    (branch_of_sOk hT) (rOk_iff_gOk.mp hrest))

/-- the induction over `RFrag wc isRet scope` (result form) -/
theorem walk_statements_return (wc : Ctx) (sc : QV.Spec.Sem.Ctx) (ic : ICtx) (hag : CtxAgree wc sc ic) (isRet : Bool)
    (scope : List String) (stmts : List Stmt) (hf : RFrag wc isRet scope stmts)
    (wl : QV.Model.Locals) (vars : List QV.Spec.Sem.Var) (hsc : ScopeOf scope wl) : ROk wc sc ic isRet wl vars stmts :=
  walk_r wc sc ic (agree_of_ctxAgree hag) isRet scope stmts hf wl vars hsc

/-- C01, END-TO-END for blocks with assignments, `if` statements and EARLY RETURNS:  P ::= { S },
      S ::= e | return e | let x = e; S | const x = e; S | x = e; S | if (e) { A } else { A }; S | if (e) { A }; S
          | if (e) { T }; S | if (e) { T } else { A }; S | if (e) { A } else { T }; S | if (e) { T } else { T }; S
      T ::= an S without early return that ends in `return e`
      A ::= ε | x = e; A
    (after `if (e) { T } else { T }` the rest is dead code, but the program must still end in an expression / `return`) -/
theorem compile_correct_block_early_return (wc : Ctx) (sc : QV.Spec.Sem.Ctx) (ic : ICtx) (hag : CtxAgree wc sc ic) (isRet : Bool)
    (stmts : List Stmt) (hs : RFrag wc isRet [] stmts) (code : CodeBody)
    (hcode : (build wc false (.stmt (.block stmts))).code = some code)
    (w : World) (hw : ∀ x q u, w.prop x q = some u → isCint u = false) (t : Ty) (v : Val)
    (hspec : QV.Spec.Sem.bindingValue sc (.stmt (.block stmts)) w t = some v) :
    IrSem.bindingValue ic code w t = some v :=
  compile_correct_of_rOk wc sc ic isRet stmts
    (walk_r wc sc ic (agree_of_ctxAgree hag) isRet [] stmts hs [] [] ScopeOf.nil) code hcode w hw t v hspec

/-- `{ let m = a.i; if (m < 0) { return 0 } if (b.j > m) { m = b.j; } if (m > 100) { const c = m - 100; return c * 2 } m + 1 }`
    is in the fragment -/
example (wc : QV.Model.Ctx) (ci : ClassInfo) (pi pj : PropInfo)
    (ha : wc.objects.find? (·.1 = "a") = some ("a", "VBase")) (hb : wc.objects.find? (·.1 = "b") = some ("b", "VBase"))
    (hc : wc.env.findClass "VBase" = some ci) (hi : ci.props.find? (·.name = "i") = some pi)
    (hj : ci.props.find? (·.name = "j") = some pj) (hti : pi.ty ≠ .void) (htj : pj.ty ≠ .void) :
    RFrag wc false []
      [.lexical .let_ [{ name := "m", ty := none, value := some (.member (.ident "a") "i") }],
       .if_ (.binary .lessThan (.ident "m") (.integer 0)) (.block [.return_ (some (.integer 0))]) none,
       .if_ (.binary .greaterThan (.member (.ident "b") "j") (.ident "m"))
         (.block [.expr (.assign (.ident "m") (.member (.ident "b") "j"))]) none,
       .if_ (.binary .greaterThan (.ident "m") (.integer 100))
         (.block [.lexical .const_ [{ name := "c", ty := none, value := some (.binary .sub (.ident "m") (.integer 100)) }],
                  .return_ (some (.binary .mul (.ident "c") (.integer 2)))]) none,
       .expr (.binary .add (.ident "m") (.integer 1))] :=
  .decl _ _ _ _ _ _ (.read "a" "i" "VBase" ci pi ha hc hi hti (by simp))
    (.ifRet _ _ _ _ _
      (.cmp .lt (.var "m" (by simp)) (.int 0))
      (.ret _ _ (.int 0))
      (.if1 _ _ _ _ _
        (.cmp .gt (.read "b" "j" "VBase" ci pj hb hc hj htj (by simp))
          (.var "m" (by simp)))
        (.assign _ _ _ (by simp) (.read "b" "j" "VBase" ci pj hb hc hj htj (by simp)) .nil)
        (.ifRet _ _ _ _ _
          (.cmp .gt (.var "m" (by simp)) (.int 100))
          (.decl _ _ _ _ _ _ (.arith .sub (.var "m" (by simp)) (.int 100))
            (.ret _ _ (.arith .mul (.var "c" (by simp)) (.int 2))))
          (.expr _ _ (.arith .add (.var "m" (by simp)) (.int 1))))))

/-- `{ const n = a.i; if (n < 0) { return 0 - n } else { } if (n > 9) { } else { return n } if (b.j > 0) { return 1 } else { return 2 } 0 }`
    (returning consequence, returning alternative, both returning) is in the fragment -/
example (wc : QV.Model.Ctx) (ci : ClassInfo) (pi pj : PropInfo)
    (ha : wc.objects.find? (·.1 = "a") = some ("a", "VBase")) (hb : wc.objects.find? (·.1 = "b") = some ("b", "VBase"))
    (hc : wc.env.findClass "VBase" = some ci) (hi : ci.props.find? (·.name = "i") = some pi)
    (hj : ci.props.find? (·.name = "j") = some pj) (hti : pi.ty ≠ .void) (htj : pj.ty ≠ .void) :
    RFrag wc false []
      [.lexical .const_ [{ name := "n", ty := none, value := some (.member (.ident "a") "i") }],
       .if_ (.binary .lessThan (.ident "n") (.integer 0))
         (.block [.return_ (some (.binary .sub (.integer 0) (.ident "n")))]) (some (.block [])),
       .if_ (.binary .greaterThan (.ident "n") (.integer 9)) (.block []) (some (.block [.return_ (some (.ident "n"))])),
       .if_ (.binary .greaterThan (.member (.ident "b") "j") (.integer 0))
         (.block [.return_ (some (.integer 1))]) (some (.block [.return_ (some (.integer 2))])),
       .expr (.integer 0)] :=
  .decl _ _ _ _ _ _ (.read "a" "i" "VBase" ci pi ha hc hi hti (by simp))
    (.ifRetElse _ _ _ _ _ _
      (.cmp .lt (.var "n" (by simp)) (.int 0))
      (.ret _ _ (.arith .sub (.int 0) (.var "n" (by simp)))) .nil
      (.ifElseRet _ _ _ _ _ _
        (.cmp .gt (.var "n" (by simp)) (.int 9))
        .nil (.ret _ _ (.var "n" (by simp)))
        (.ifRetRet _ _ _ _ _ _
          (.cmp .gt (.read "b" "j" "VBase" ci pj hb hc hj htj (by simp)) (.int 0))
          (.ret _ _ (.int 1)) (.ret _ _ (.int 2))
          (.expr _ _ (.int 0)))))

end EarlyReturn

end QV.Props.C01
