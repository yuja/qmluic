/-
  C07 — Totality: any document yields output or diagnostics, never a crash or hang.

  PARTIAL BY NATURE.  A proof can carry the part of the property that is logic of qmluic itself:
    (i)   the value-shape contract between the type check and the `unwrap_*`/`panic!` sites of
          uigen/expr.rs + tir/interpret.rs  (`unwrap_never_fails`, `evaluated_shape`, `property_never_panics_partial`);
    (ii)  how diagnostic byte ranges are formed (`ranges_in_bounds`, `callback_span_valid`);
    (ii') the positions the switch adapter hands to `Vec::insert` / `Vec::remove` (`switch_*_never_panics`);
    (iii) termination of the modelled functions: every definition of QV.Model.Totality is structurally
          recursive, except the interpreter loop `runFrom`, which recurses on the shrinking list of unvisited
          blocks — Lean's acceptance of the definitions *is* the termination proof for the modelled core.
  It cannot carry: the tree-sitter parser and its error-recovery tree shapes, the CST→AST adapters of
  lib/src/qmlast (tested by the `c07` stream), stack depth on
  deeply nested input (finding F11 — a total Lean function cannot exhibit stack exhaustion) and allocation
  failure.  Every other panic site of lib/src is listed with its argument in pins/C07_panic_sites.md
  (regenerated and compared on every run by tools/panic_sites.py).

  Model : QV.Model.Totality (import-free).  `wfCode` states what the interpreter relies on from the TIR builder
          (indices in range, `Copy` only between assignable types, `MakeList`/`|`/`qsTr` typed as the builder types
          them); that the builder establishes it is C05/C06's subject and is exercised here by the c07 stream.
  Findings (each replayed on the real code, corpus/C07/*.c07.req; all repaired in /repo):
          F2  `expect("object ref must be valid")` fired for `QMenu { actions: [menuAction()] }` without id (ee6558b);
          F18 `unreachable!()` in the interpreter fired for `windowTitle: { switch (0) { default: break; } let z = 1 }`
              (root cause F1/C06, d950e95; the witness below shows that `wfCode` alone does not exclude it);
          F17 an `assert_eq!` of the builder fired for an empty `switch (0) {}` (outside this model, ae9e12f);
          F11 stack exhaustion on deep nesting (outside any model).
-/
import QV.Proofs.Totality
import QV.Props.C10
import QV.Props.C11

namespace QV.Props.C07
open QV.Model.Totality QV.Proofs.Totality

/-! ## (i) the value-shape contract

The shape relation is `QV.Proofs.Totality.hasShape` (described there).  What matters below: a constant `null` evaluates
to *no value*, so `buddy: null` never reaches `unwrap_object_ref`; `[]` evaluates to `EmptyList`, which has the shape of
every concrete list type (`unwrap_string_list` and `into_object_ref_list` both accept it: `model: []`, `actions: []`). -/

/-- whatever the property type is, if the evaluated value has the shape of the code's
    return type, `SerializableValue::build` takes no `unwrap_*`/`panic!` branch: the `verify_code_return_type`
    / `is_assignable` test in front of each unwrap admits only return types whose values the unwrap accepts
    (a QKeySequence property given an enum of another type, `cursor: 1`, `icon.name: 1`, … end in a diagnostic). -/
theorem unwrap_never_fails (env : Env) (ty : TypeKind) (ret : Option TypeDesc) (v : EvaluatedValue)
    (hs : ∀ rt, ret = some rt → hasShape v rt = true) (s : Site) :
    buildExpr env ty ret v ≠ .error s := by
  -- the one fact used everywhere: a passed check ⇒ the value has the shape of the *expected* type
  have key : ∀ e, verifyCodeReturnType env e ret = true → hasShape v (.concrete e) = true :=
    fun _ => verify_shape env hs
  have hok : ∀ {α : Type} (x : Option α), (Except.ok x : Except Site (Option α)) ≠ .error s := by
    intro α x h; cases h
  have hStr : verifyCodeReturnType env (.prim .qstring) ret = true → extractStaticString v ≠ .error s :=
    fun h => extractStaticString_ne (key _ h) s
  cases ty with
  | ptr c => exact ite_ne (fun h => map_ne (unwrapObjectRef_ne (key _ h) s)) (hok _)
  | list t =>
    simp only [buildExpr]
    refine ite_ne (fun ht => ?_) (hok _)
    subst ht
    exact ite_ne (fun h => extractStringList_ne (key _ h) s) (hok _)
  | ptrOther | other => exact hok _
  | enum e => exact ite_ne (fun h => map_ne (unwrapEnumSet_ne (key _ h) s)) (hok _)
  | prim p =>
    cases p
    case void => exact hok _
    case variant => exact hok _
    all_goals exact ite_ne (fun h => map_ne (unwrapIntoSimpleValue_ne (key _ h) s)) (hok _)
  | gadget c =>
    simp only [buildExpr, parseAsValueType, parseColorValue]
    refine ite_ne (fun _ => map_ne (ite_ne hStr (hok _))) ?_                  -- QBrush
    refine ite_ne (fun _ => map_ne (ite_ne hStr (hok _))) ?_                  -- QColor
    refine ite_ne (fun _ => ite_ne (fun h => map_ne (unwrapEnumSet_ne (key _ h) s)) (hok _)) ?_  -- QCursor
    refine ite_ne (fun _ => ?_) ?_
    · -- QKeySequence: enum StandardKey | QString
      cases ret with
      | none => exact hok _
      | some rt =>
        simp only
        refine ite_ne (fun h => map_ne (unwrapEnumSet_ne (key _ h) s)) ?_
        exact ite_ne (fun h => map_ne (unwrapIntoSimpleValue_ne (key _ h) s)) (hok _)
    · -- QPixmap, then every other class
      refine ite_ne (fun _ => ite_ne (fun h => map_ne (hStr h)) (hok _)) (hok _)

/-- `build_item_model` (`model:` of a combo box / list widget): same contract; `model: []` is accepted. -/
theorem item_model_never_fails (env : Env) (ret : Option TypeDesc) (v : EvaluatedValue)
    (hs : ∀ rt, ret = some rt → hasShape v rt = true) (s : Site) : buildItemModel env ret v ≠ .error s := by
  exact ite_ne (fun h => map_ne (unwrapStringList_ne (verify_shape env hs h) s)) (by intro h; cases h)

/-- `build_object_ref_list` (`actions:`) has no panicking branch at all -/
theorem object_ref_list_total (env : Env) (ty : TypeKind) (ret : Option TypeDesc) (v : EvaluatedValue) (s : Site) :
    buildObjectRefList env ty ret v ≠ .error s := by
  refine ite_ne (fun _ => ?_) (by intro h; cases h)
  cases v <;> simp

/-- on code with the builder's post-conditions, a value the interpreter produces has the
    shape of the code's resolved return type (the return type is an upper bound, w.r.t. `deduce_type`, of the
    types of all `return` operands; the value comes from one of them). -/
theorem evaluated_shape (env : Env) (code : Code) (hw : wfCode env code = true) (v : EvaluatedValue)
    (hev : evaluateCode code = .ok (some v)) (rt : TypeDesc) (hr : resolveReturnType env code = some rt) :
    hasShape v rt = true := by
  obtain ⟨a, ha, hs⟩ := (evaluate_ok env code hw).2 v hev
  exact resolve_shape env hr ha hs

/-- On builder-well-formed code the interpreter has exactly one panic left: `unreachable!()`, and only if some
    block carries the `Unreachable` terminator (every index panic is excluded). -/
theorem interp_panics_only_unreachable (env : Env) (code : Code) (hw : wfCode env code = true) (s : Site)
    (h : evaluateCode code = .error s) :
    s = .interpUnreachable ∧ ∃ b, b ∈ code.blocks ∧ b.term = some .unreachable :=
  (evaluate_ok env code hw).1 s h

def property_never_panics_full_statement : Prop :=
  ∀ (env : Env) (ty : TypeKind) (code : Code), wfCode env code = true → ∀ s, buildProperty env ty code ≠ .error s

/-- the IR of `windowTitle: { switch (0) { default: break; } let z = 1 }` as the builder produced it before the repair of
    F1: b0 head `br 2`; b1 exit `br 4`; b2 default body `br 1` (break); b3 dead block after the break `br 4`;
    b4 `z = 1; unreachable` — `finalize_completion_values` marked b4 `Unreachable` because it is entered through
    `br` only (`reachable[]` is seeded with block 0 and `BrCond` targets), although it is not empty. -/
def f18Witness : Code :=
  { blocks := [⟨[], some (.br 2)⟩, ⟨[], some (.br 4)⟩, ⟨[], some (.br 1)⟩, ⟨[], some (.br 4)⟩,
               ⟨[.assign 0 (.copy (.const (.integer 1)))], some .unreachable⟩],
    locals := [.prim .int] }

/-- classes: QBrush 0, QColor 1, QCursor 2, QKeySequence 3, QPixmap 4; enums: CursorShape 0, StandardKey 1 -/
def trivialEnv : Env :=
  { derives := fun _ _ => false, enumCompat := fun _ _ => false, isFlag := fun _ => false,
    brush := 0, color := 1, cursor := 2, keySequence := 3, pixmap := 4, cursorShape := 0, standardKey := 1 }

theorem f18_witness_wf : wfCode trivialEnv f18Witness = true := by decide

theorem f18_witness_panics : evaluateCode f18Witness = .error .interpUnreachable := by
  -- `runFrom` is defined by well-founded recursion and does not reduce by `rfl`/`decide`: its equation is rewritten
  simp [evaluateCode, f18Witness, runFrom, evalStmts, evalRvalue, toEvaluatedValue, Except.map, List.range,
    List.range.loop]

/-- refuted: `wfCode` alone does not exclude `unreachable!()` (finding F18 — before the F1 repair d950e95 the
    builder really produced this IR; replay/regression: corpus/C07/f18_unreachable.c07.req). -/
theorem property_never_panics_refuted : ¬ property_never_panics_full_statement := by
  intro h
  have := h trivialEnv (.prim .qstring) f18Witness f18_witness_wf .interpUnreachable
  simp [buildProperty, f18_witness_panics] at this

/-- what does hold: if NO block at all carries the `Unreachable` terminator, evaluating and building a property value
    never panics: no index panic in the interpreter, and no `unwrap_*` after the return-type check.  The hypothesis is
    stronger than what the builder gives: `finalize_completion_values` still marks an empty block that is entered by
    `br` only `Unreachable` (dead code after `return`/`break`), and C06's `build_no_reachable_unreachable` shows only
    that no such block is reached; the two are not composed here. -/
theorem property_never_panics_partial (env : Env) (ty : TypeKind) (code : Code) (hw : wfCode env code = true)
    (hu : ∀ b, b ∈ code.blocks → b.term ≠ some .unreachable) (s : Site) :
    buildProperty env ty code ≠ .error s := by
  unfold buildProperty
  cases hev : evaluateCode code with
  | error s' =>
    obtain ⟨_, b, hb, ht⟩ := interp_panics_only_unreachable env code hw s' hev
    exact absurd ht (hu b hb)
  | ok o =>
    cases o with
    | none => simp
    | some v =>
      simp only
      apply unwrap_never_fails
      intro rt hrt
      exact evaluated_shape env code hw v hev rt hrt

/-! ### `expect("object ref must be valid")` (uigen/object.rs) — finding F2 -/

def object_ref_valid_full_statement : Prop :=
  ∀ (ids refs : List String), widgetActions ids refs ≠ .error .objectRefMustBeValid

/-- refuted (finding F2): the evaluated reference of `menuAction()` on an object without id is the object's
    generated name, which is not an id.  Replay: corpus/C07/f2_menuaction_noid.c07.req. -/
theorem object_ref_valid_refuted : ¬ object_ref_valid_full_statement := by
  intro h; exact h [] ["menu"] rfl

theorem object_ref_valid_partial (ids refs : List String) (h : ∀ r, r ∈ refs → r ∈ ids) (s : Site) :
    widgetActions ids refs ≠ .error s := by
  unfold widgetActions
  have : refs.all (ids.contains ·) = true := by
    simp only [List.all_eq_true, List.contains_iff_mem]
    exact fun r hr => by simpa using h r hr
  rw [if_pos this]
  intro h'; cases h'

/-- after the repair of F2 (ee6558b) the lookup is gone; its model is the constant `.ok refs`, so this records the
    repaired behaviour and proves nothing more -/
theorem object_ref_valid_repaired (ids refs : List String) (s : Site) : widgetActionsRepaired ids refs ≠ .error s := by
  simp [widgetActionsRepaired]

/-! ## (ii) diagnostic ranges -/

/-- every range the code forms from node ranges — a node range itself, the zero-length
    `end..end`, the literal `0..0`, or a span from the start of one node to the end of another that does not
    precede it — lies inside the text if the node ranges do; and its end points are end points of node ranges
    (or 0), hence on character boundaries whenever the parser's node boundaries are. -/
theorem ranges_in_bounds (len : Nat) (e : RangeExpr) (hparts : ∀ r, r ∈ e.parts → r.valid len)
    (hspan : ∀ a b, e = .span a b → a.start ≤ b.stop) :
    e.eval.valid len ∧
    (e.eval.start = 0 ∨ ∃ r, r ∈ e.parts ∧ (e.eval.start = r.start ∨ e.eval.start = r.stop)) ∧
    (e.eval.stop = 0 ∨ ∃ r, r ∈ e.parts ∧ (e.eval.stop = r.start ∨ e.eval.stop = r.stop)) := by
  cases e with
  | node r =>
    have := hparts r (by simp [RangeExpr.parts])
    exact ⟨this, Or.inr ⟨r, by simp [RangeExpr.parts], Or.inl rfl⟩, Or.inr ⟨r, by simp [RangeExpr.parts], Or.inr rfl⟩⟩
  | endPoint r =>
    have := hparts r (by simp [RangeExpr.parts])
    refine ⟨⟨Nat.le_refl _, this.2⟩, Or.inr ⟨r, by simp [RangeExpr.parts], Or.inr rfl⟩,
      Or.inr ⟨r, by simp [RangeExpr.parts], Or.inr rfl⟩⟩
  | span a b =>
    have hb := hparts b (by simp [RangeExpr.parts])
    refine ⟨⟨hspan a b rfl, hb.2⟩, Or.inr ⟨a, by simp [RangeExpr.parts], Or.inl rfl⟩,
      Or.inr ⟨b, by simp [RangeExpr.parts], Or.inr rfl⟩⟩
  | zero => exact ⟨⟨Nat.le_refl _, Nat.zero_le _⟩, Or.inl rfl, Or.inl rfl⟩

/-- (`verify_callback_parameter_type`, "too many callback arguments"): inside the guard
    `parameter_count > arguments_len`, with `parameter_count ≤ locals.len()` and the parameters' ranges in source
    order, both indexings succeed and the span `locals[arguments_len].start .. locals[parameter_count-1].end`
    lies inside the text. -/
theorem callback_span_valid (len : Nat) (params : List Rng) (argumentsLen parameterCount : Nat)
    (hguard : argumentsLen < parameterCount) (hcount : parameterCount ≤ params.length)
    (hvalid : ∀ r, r ∈ params → r.valid len) (hord : ordered params) :
    ∃ e, callbackSpan params argumentsLen parameterCount = some e ∧ e.eval.valid len := by
  have h1 : argumentsLen < params.length := by omega
  have h2 : parameterCount - 1 < params.length := by omega
  refine ⟨.span params[argumentsLen] params[parameterCount - 1], ?_, ?_⟩
  · simp [callbackSpan, List.getElem?_eq_getElem h1, List.getElem?_eq_getElem h2]
  · have hle := ordered_le hord (fun r hr => (hvalid r hr).1) h1 h2 (by omega)
    exact ⟨hle, (hvalid _ (List.getElem_mem h2)).2⟩

/-! ## (ii') positions handed from the parser adapter to `Vec::insert` / `Vec::remove`

`typedexpr.rs walk_stmt: body_statements.insert(d.position, &d.body)` and
`tir/builder.rs visit_switch_statement: case_body_start_refs.remove(p)` are implicit panic sites whose guard is in
another crate module: `SwitchStatement::with_cursor` must hand out `position ≤ cases.len()`.  It does, for EVERY sequence
of child kinds the parser can produce (comments anywhere, error-recovery nodes, several defaults).  The variant of seeded
change C07/1 (comments skipped after `enumerate()` counted them) does not: kernel-checked witness. -/

/-- invariant of the clause loop: the enumerate index is the number of clauses consumed so far, the cases and the
    default if there was one; a default sits at the number of cases before it -/
theorem clauseLoop_inv : ∀ (l : List ClauseKind) (i : Nat) (s s' : SwitchShape),
    i = s.cases + (if s.defaultPos.isSome then 1 else 0) → (∀ p, s.defaultPos = some p → p ≤ s.cases) →
    clauseLoop l i s = .ok s' → ∀ p, s'.defaultPos = some p → p ≤ s'.cases
  | [], _, s, s', _, h2, h => by cases h; exact h2
  | .case :: rest, i, s, s', h1, h2, h =>
    clauseLoop_inv rest (i + 1) { s with cases := s.cases + 1 } s' (by rw [h1]; exact Nat.add_right_comm ..)
      (fun p hp => Nat.le_succ_of_le (h2 p hp)) h
  | .default :: rest, i, s, s', h1, _, h => by
    simp only [clauseLoop] at h
    split at h
    · cases h
    · rename_i hnone
      rw [if_neg hnone] at h1
      exact clauseLoop_inv rest (i + 1) { s with defaultPos := some i } s' (by rw [h1]; rfl)
        (fun p hp => by cases hp; exact Nat.le_of_eq h1) h
  | .extra :: _, _, _, _, _, _, h => by cases h
  | .other :: _, _, _, _, _, _, h => by cases h

/-- `SwitchDefault.position ≤ cases.len()` for every switch body the adapter accepts -/
theorem switch_default_position_le_cases (children : List ClauseKind) (s : SwitchShape)
    (h : switchWithCursor children = .ok s) : ∀ p, s.defaultPos = some p → p ≤ s.cases := by
  unfold switchWithCursor at h
  exact clauseLoop_inv _ 0 ⟨0, none⟩ s rfl (by intro p hp; cases hp) h

/-- `body_statements.insert(d.position, …)` in `walk_stmt` never panics -/
theorem switch_insert_never_panics (children : List ClauseKind) (s : SwitchShape)
    (h : switchWithCursor children = .ok s) : walkSwitchBodies s ≠ none := by
  unfold walkSwitchBodies
  cases hd : s.defaultPos with
  | none => simp
  | some p =>
    have := switch_default_position_le_cases children s h p hd
    simp [vecInsertLen, this]

/-- `case_body_start_refs.remove(p)` in `visit_switch_statement` never panics -/
theorem switch_remove_never_panics (children : List ClauseKind) (s : SwitchShape)
    (h : switchWithCursor children = .ok s) : visitSwitchStarts s ≠ none := by
  unfold visitSwitchStarts
  cases hd : s.defaultPos with
  | none => simp
  | some p =>
    have := switch_default_position_le_cases children s h p hd
    simp [vecRemoveLen]; omega

/-- comments do not change what the adapter returns (they are extras): the trivia oracle of the c07 stream, for this adapter -/
theorem switch_comments_are_trivia (children : List ClauseKind) :
    switchWithCursor children = switchWithCursor (children.filter (· ≠ .extra)) := by
  unfold switchWithCursor
  rw [List.filter_filter]
  simp

def counting_extras_full_statement : Prop :=
  ∀ children s, switchWithCursorCountingExtras children = .ok s → walkSwitchBodies s ≠ none

/-- seeded change C07/1: `switch (x) { /* c */ case 1: …; default: … }` is accepted with position 2 > 1 = cases.len():
    `Vec::insert` panics ("insertion index (is 2) should be <= len (is 1)") -/
theorem counting_extras_refuted : ¬ counting_extras_full_statement := by
  intro h
  exact h [.extra, .case, .default] ⟨1, some 2⟩ rfl (by decide)

/-! ## obligations discharged in other property files -/

/-- the unique-name search (`expect("unused id must be found within N+1 tries")`) never fails — C10 -/
theorem name_search_never_panics (nodes : List (Option QV.Model.Names.Str × QV.Model.Names.Str)) :
    QV.Model.Names.ensureObjectNames nodes ≠ none := QV.Props.C10.ensure_never_panics nodes

/-- the index-driven rebuild of the form from the flattened object tree never gets stuck — C11 -/
theorem form_rebuild_total (info : QV.Model.FormTree.Info) (ch : QV.Model.FormTree.Forest) (fuel : Nat)
    (hf : QV.Model.FormTree.depth ch ≤ fuel) (hr : info.resolves = true) :
    ∃ r, QV.Model.FormTree.buildForm fuel (.cons info ch .nil) = some r := QV.Props.C11.build_total info ch fuel hf hr

/-! ## non-vacuity -/

/-- default in the middle, first, last, absent, twice; comments in between -/
example : switchWithCursor [.extra, .case, .extra, .default, .case, .extra] = .ok ⟨2, some 1⟩ := rfl
example : switchWithCursor [.default, .extra, .case] = .ok ⟨1, some 0⟩ := rfl
example : switchWithCursor [.case, .case, .extra, .default] = .ok ⟨2, some 2⟩ := rfl
example : switchWithCursor [.extra] = .ok ⟨0, none⟩ := rfl
example : switchWithCursor [.default, .default] = .error .multipleDefaultLabels := rfl
example : walkSwitchBodies ⟨1, some 2⟩ = none := by decide

/-- `shortcut: Qt.Key_A` (an enum of another type on a QKeySequence property): diagnostic, not a panic -/
example : buildExpr trivialEnv (.gadget 3) (some (.concrete (.enum 7))) (.enumSet ["Qt::Key_A"]) = .ok none := rfl
/-- `shortcut: QKeySequence.Copy` -/
example : buildExpr trivialEnv (.gadget 3) (some (.concrete (.enum 1))) (.enumSet ["QKeySequence::Copy"])
    = .ok (some (.enum_ ["QKeySequence::Copy"])) := rfl
/-- `model: []` -/
example : buildItemModel trivialEnv (some .emptyList) .emptyList = .ok (some []) := rfl
/-- without the type check the unwrap *would* panic: the contract is not vacuous -/
example : unwrapEnumSet (.integer 1) = .error .unwrapEnumSet := rfl
/-- `cursor: 1` is stopped by the check -/
example : buildExpr trivialEnv (.gadget 2) (some .constInteger) (.integer 1) = .ok none := rfl
/-- a three-parameter callback on a one-argument signal: span from the 2nd to the 3rd parameter -/
example : (callbackSpan [⟨10, 17⟩, ⟨19, 25⟩, ⟨27, 37⟩] 1 3).map RangeExpr.eval = some ⟨19, 37⟩ := by decide

end QV.Props.C07
