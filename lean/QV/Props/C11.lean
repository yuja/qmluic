/-
  C11 — The object tree and child order of the QML document are preserved.

  Model : QV.Model.FormTree — `populate_node_rec` (post-order flattening with child indices, unresolved
          subtrees skipped) followed by the index-driven rebuild of `UiForm/UiObject/Widget/Layout::build`.
  Spec  : QV.Spec.FormTree.specForm — the same skeleton by direct recursion on the tree.
  Tie   : stream `c11`: generated trees through the real pipeline; the element skeleton of the real .ui
          (read by the harness' own XML reader) is compared with the model (kind=model), with the Lean
          specification (kind=spec) and with an independent Rust-side rendering of the generator's tree
          (kind=oracle).
-/
import QV.Proofs.FormTree

namespace QV.Props.C11
open QV.Model.FormTree QV.Spec.FormTree QV.Proofs.FormTree

/-- **Flatten/unflatten**: for every object tree, rebuilding the form from the post-order vector and the
    child index lists gives exactly the form defined by direct recursion on the tree — every resolving object
    once, inside its parent's element, siblings in source order; unresolved objects disappear with their
    subtree.  (Any fuel ≥ the tree depth; the real recursion is bounded by the same depth.) -/
theorem form_tree_preserved (root : Forest) (fuel : Nat) (hf : depth root ≤ fuel + 1) :
    buildForm fuel root = specForm root := by
  match root with
  | .nil => rfl
  | .cons info ch (.cons _ _ _) => rfl  -- a root with siblings: `none` on both sides
  | .cons info ch .nil =>
    have := build_populate ch [] [] fuel .obj (Nat.le_of_succ_le_succ (Nat.le_trans (Nat.le_max_left _ _) hf))
    rw [List.append_nil] at this
    simp only [buildForm, specForm, this]

theorem fuel_irrelevant (root : Forest) (f1 f2 : Nat) (h1 : depth root ≤ f1 + 1) (h2 : depth root ≤ f2 + 1) :
    buildForm f1 root = buildForm f2 root := by
  rw [form_tree_preserved root f1 h1, form_tree_preserved root f2 h2]

/-- the rebuild never gets stuck (no out-of-range index, fuel suffices): it yields a form whenever the root
    object's type resolves -/
theorem build_total (info : Info) (ch : Forest) (fuel : Nat) (hf : depth ch ≤ fuel) (hr : info.resolves = true) :
    ∃ r, buildForm fuel (.cons info ch .nil) = some r := by
  rw [form_tree_preserved (.cons info ch .nil) fuel (Nat.max_le.mpr ⟨Nat.succ_le_succ hf, Nat.zero_le _⟩)]
  simp [specForm, hr]

/-- **Actions rule**: the `<addaction>` list of a widget is the explicit `actions` list when one is given,
    else the action-like children (actions, separators, menus) in declaration order. -/
theorem actions_rule (info : Info) (kids : List (Built × Nat)) :
    widgetOf info kids =
      XF.elem "widget" [("class", info.cls), ("name", info.name)]
        ((addActions (match info.actions with
          | some l => l
          | none => actionLike (kids.map (·.1)))).append (xmlOfBuilts (kids.map (·.1)))) := rfl

/-- names of the object elements (`widget`, `layout`, `spacer`, `action`) in document order -/
def namesOf : XF → List Str
  | .nil => []
  | .cons tag attrs ch rest =>
    (if tag = "widget" ∨ tag = "layout" ∨ tag = "spacer" ∨ tag = "action" then
        (attrs.filter (·.1 = "name")).map (·.2) else [])
      ++ namesOf ch ++ namesOf rest

/-- pre-order names of the objects that get an element: everything that resolves, except static separators
    and whatever is (illegally) placed under an action or spacer -/
def preorder (mode : Mode) : Forest → List Str
  | .nil => []
  | .cons info ch rest =>
    (if info.resolves then
      match mode with
      | .obj =>
        if info.isAction then (if info.separator then [] else [info.name])
        else if info.isLayout then info.name :: preorder .item ch
        else info.name :: preorder .obj ch
      | .item =>
        if info.isLayout then info.name :: preorder .item ch
        else if info.isSpacer then [info.name]
        else info.name :: preorder .obj ch
    else []) ++ preorder mode rest

theorem namesOf_append (a b : XF) : namesOf (a.append b) = namesOf a ++ namesOf b := by
  induction a with
  | nil => rfl
  | cons t at' c r _ ihr => simp [XF.append, namesOf, ihr, List.append_assoc]

theorem namesOf_addActions (l : List Str) : namesOf (addActions l) = [] := by
  induction l with
  | nil => rfl
  | cons n rest ih => simp [addActions, namesOf, ih]

theorem namesOf_wrapItems (bs : List Built) : namesOf (wrapItems bs) = namesOf (xmlOfBuilts bs) := by
  induction bs with
  | nil => rfl
  | cons b rest ih => simp [wrapItems, xmlOfBuilts, namesOf, namesOf_append, ih]

/-- **Source order**: the names of the object elements of the specified form, read in document order, are the
    pre-order traversal of the accepted QML objects. -/
theorem spec_names_preorder (F : Forest) : ∀ mode,
    namesOf (xmlOfBuilts ((specForest mode F).map (·.1))) = preorder mode F := by
  induction F with
  | nil => intro mode; rfl
  | cons info ch rest ihc ihr =>
    intro mode
    simp only [specForest, preorder]
    by_cases hres : info.resolves = true
    · obtain ⟨b, hb⟩ := assemble_some mode info (hasResolving ch) (fun m => specForest m ch)
      simp only [hres, if_true, hb, List.map_cons, xmlOfBuilts, namesOf_append, ihr]
      congr 1
      -- apply `namesOf ·.1.xml` to both sides of `hb` and push it through the `if`s of `assemble` (`apply_ite`):
      -- every branch then shows its own element, whose names the last `simp` computes (children: `ihc`)
      refine Option.some.inj ((congrArg (Option.map fun b : Built × Nat => namesOf b.1.xml) hb).symm.trans ?_)
      cases mode <;>
        simp only [assemble, apply_ite (Option.map fun b : Built × Nat => namesOf b.1.xml), apply_ite some,
          apply_ite Built.xml, apply_ite namesOf, Option.map_some] <;>
        simp [Built.xml, widgetOf, layoutOf, XF.elem, namesOf, namesOf_append, namesOf_addActions,
          namesOf_wrapItems, ihc]
    · simp only [hres, Bool.false_eq_true, if_false, ihr, List.nil_append]

private def w (n : String) (ch rest : Forest) : Forest :=
  .cons { cls := "QWidget".toList, name := n.toList, isWidget := true } ch rest
private def a (n : String) (rest : Forest) : Forest :=
  .cons { cls := "QAction".toList, name := n.toList, isAction := true } .nil rest
private def l (n : String) (ch rest : Forest) : Forest :=
  .cons { cls := "QVBoxLayout".toList, name := n.toList, isLayout := true } ch rest

example : (buildForm 5 (w "root" (l "lay" (w "x" .nil (w "y" .nil .nil)) (a "act" .nil)) .nil)).map
    (fun r => (namesOf r.1, r.2)) = some (["root", "lay", "x", "y", "act"].map String.toList, 0) := by
  decide +kernel

example : buildForm 5 (w "root" (.cons { cls := "Nope".toList, name := "n".toList, resolves := false }
    (w "gone" .nil .nil) (w "kept" .nil .nil)) .nil) = buildForm 5 (w "root" (w "kept" .nil .nil) .nil) := by
  decide +kernel

end QV.Props.C11
