/-
  C19 — Colour strings are read the way Qt reads them.

  Model  : QV.Model.Color  (mirrors lib/src/color.rs, `From<Color> for Gadget`)
  Spec   : QV.Spec.QtColor (positional digit meaning, SVG 1.1 table typed in independently)
  Tie    : QV.Gen.colorTable is regenerated from color.rs on every run; the model's executable
           `parse` is compared with `Color::from_str` (exhaustively on short hex strings) and with the
           `<color>` elements of real `.ui` output by the harness (stream `c19`).
-/
import QV.Proofs.Color
import QV.Gen.ColorTable

namespace QV.Props.C19
open QV.Model.Color QV.Spec.QtColor QV.Proofs.Color

/-- Every keyword of the implementation's table is lower case (so the second, lower-cased lookup
    subsumes the first). -/
theorem impl_keys_lowercase : ∀ row ∈ QV.Gen.colorTable, asciiLower row.1 = row.1 := by
  decide +kernel

/-- The implementation's table answers every key as the SVG 1.1 table does. -/
theorem keyword_lookup_eq (k : List Char) :
    lookupLast QV.Gen.colorTable k = lookup QV.Spec.svgTable k :=
  tablesAgree_sound (by decide +kernel) k

/-- Hex part, for every digit string of every length: shifts and masks = positional meaning;
    non-digits, wrong lengths (incl. empty and > 8 digits, where `u32` parsing may overflow) give nothing. -/
theorem parse_hex_eq_spec (ds : List Char) :
    parseHexColor ds = readColor ('#' :: ds) := by
  simp only [readColor]
  cases h : digits? ds with
  | none =>
    rw [parseHexColor, any_nondigit, h]
    rfl
  | some vs =>
    have hd := (digits_spec h).2.1
    have hfit := fromStrRadix16_digits h
    rw [parseHexColor_digits h]
    -- one bullet per number of digits
    rcases vs with
      _ | ⟨a, _ | ⟨b, _ | ⟨c, _ | ⟨d, _ | ⟨e,
        _ | ⟨f, _ | ⟨g, _ | ⟨i, _ | ⟨j, vs⟩⟩⟩⟩⟩⟩⟩⟩⟩
    · -- 0
      exact bind_unpack_none _ (by simp)
    · -- 1
      exact bind_unpack_none _ (by simp)
    · -- 2
      exact bind_unpack_none _ (by simp)
    · -- 3: #rgb
      simp only [List.forall_mem_cons] at hd
      rw [hfit (List.cons_ne_nil _ _) (by simp)]
      simp only [Option.bind, List.length, List.foldl, unpack, shr_digit, and_digit, mul17, Nat.shiftRight_zero,
        hd]
    · -- 4: #argb
      simp only [List.forall_mem_cons] at hd
      rw [hfit (List.cons_ne_nil _ _) (by simp)]
      simp only [Option.bind, List.length, List.foldl, unpack, shr_digit, and_digit, mul17, Nat.shiftRight_zero,
        hd]
    · -- 5
      exact bind_unpack_none _ (by simp)
    · -- 6: #rrggbb
      simp only [List.forall_mem_cons] at hd
      rw [hfit (List.cons_ne_nil _ _) (by simp)]
      simp only [Option.bind, List.length, List.foldl, unpack, shr_digit, and_byte, Nat.shiftRight_zero, hd]
    · -- 7
      exact bind_unpack_none _ (by simp)
    · -- 8: #aarrggbb
      simp only [List.forall_mem_cons] at hd
      rw [hfit (List.cons_ne_nil _ _) (by simp)]
      simp only [Option.bind, List.length, List.foldl, unpack, shr_digit, and_byte, Nat.shiftRight_zero, hd]
    · -- 9 and more
      exact bind_unpack_none _ (by simp)

/-- **C19, main theorem.**  For *every* string the implementation model (over the table regenerated from
    the current source) returns exactly the colour the specification reads, and rejects exactly the
    strings the specification does not read (with the error class the diagnostic shows). -/
theorem parse_color_eq_spec (s : List Char) :
    parse QV.Gen.colorTable s =
      match readColor s with
      | some c => .ok c
      | none => .error (if s.head? = some '#' then .invalidHex else .unknownName) := by
  unfold parse
  split
  · rename_i ds
    rw [parse_hex_eq_spec]
    cases readColor ('#' :: ds) <;> rfl
  · rename_i hs
    have hh : s.head? ≠ some '#' := by
      intro h
      cases s with
      | nil => cases h
      | cons c cs => cases h; exact hs cs rfl
    have hr : readColor s = (if s.map lower = transparentKw then some (.rgba8 0 0 0 0)
         else match lookup QV.Spec.svgTable (s.map lower) with
           | some (r, g, b) => some (.rgb8 r g b)
           | none => none) := by
      unfold readColor
      split
      · exact absurd rfl (hs _)
      · rfl
    rw [hr, if_neg hh]
    have htr : eqIgnoreAsciiCase s transparentKw = (s.map lower == transparentKw) := by
      rw [eqIgnoreAsciiCase, asciiLower_eq_spec, show asciiLower transparentKw = transparentKw by decide]
    rw [htr]
    by_cases ht : s.map lower = transparentKw
    · rw [if_pos (beq_iff_eq.2 ht), if_pos ht]
    · rw [if_neg (mt beq_iff_eq.1 ht), if_neg ht, ← keyword_lookup_eq, ← asciiLower_eq_spec]
      -- a key found as it stands is lower case already
      cases h1 : lookupLast QV.Gen.colorTable s with
      | none => cases lookupLast QV.Gen.colorTable (asciiLower s) <;> rfl
      | some v =>
        have hlow : asciiLower s = s := impl_keys_lowercase (s, v) (lookupLast_mem h1)
        rw [hlow, h1]

/-- the form carries the channels the specification assigns to the colour -/
theorem gadget_channels (c : Color) : toGadget c = channels c := by
  cases c <;> rfl

/-- An opaque colour is written with alpha 255. -/
theorem opaque_alpha_255 (r g b : Nat) : (toGadget (.rgb8 r g b)).1 = 255 := rfl

/-- Every channel the model produces fits a byte (so the `as u8` casts and `* 0x11` never truncate). -/
theorem hex_channels_in_byte (ds : List Char) (c : Color) (h : parseHexColor ds = some c) :
    match c with
    | .rgb8 r g b => r < 256 ∧ g < 256 ∧ b < 256
    | .rgba8 r g b a => r < 256 ∧ g < 256 ∧ b < 256 ∧ a < 256 := by
  have m4 (x : Nat) : (x &&& 0xf) * 0x11 < 256 :=
    Nat.lt_of_le_of_lt (Nat.mul_le_mul_right _ Nat.and_le_right) (by decide)
  have m8 (x : Nat) : (x &&& 0xff) < 256 := Nat.lt_succ_of_le Nat.and_le_right
  unfold parseHexColor at h
  split at h
  · simp at h
  · split at h
    · simp at h
    · split at h
      · cases h; exact ⟨m4 _, m4 _, m4 _⟩
      · cases h; exact ⟨m4 _, m4 _, m4 _, m4 _⟩
      · cases h; exact ⟨m8 _, m8 _, m8 _⟩
      · cases h; exact ⟨m8 _, m8 _, m8 _, m8 _⟩
      · cases h

-- the kernel decodes a string literal byte by byte, quadratically in its length: the literals are opened by rewriting
example : parse QV.Gen.colorTable "#F48c".toList = .ok (.rgba8 0x44 0x88 0xcc 0xff) := by
  rw [String.toList_ofList]; decide +kernel
example : readColor "#F48c".toList = some (.rgba8 0x44 0x88 0xcc 0xff) := by
  rw [String.toList_ofList]; decide +kernel
example : parse QV.Gen.colorTable "DarkSlateGrey".toList = .ok (.rgb8 47 79 79) := by
  rw [String.toList_ofList]; decide +kernel
example : parse QV.Gen.colorTable "#000000001".toList = .error .invalidHex := by
  rw [String.toList_ofList]; decide +kernel
example : readColor "rebeccapurple".toList = none := by
  rw [String.toList_ofList]; decide +kernel

end QV.Props.C19
