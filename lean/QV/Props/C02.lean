/-
  C02 — Dynamic bindings stay current when any property they read changes.

  Model:  QV.Model.Finalize (`analyzeBlock`, `analyzePropertyDependency` = /repo/lib/src/tir/propdep.rs),
          QV.Model.Observe (`covered`, the abstract signal/slot world, `run`/`update`/`setup`/`Step`,
          `findNotifySignal` = typemap/class.rs `find_notify_signal`).

  Four clauses, the letter in each theorem's docstring: (a) the output of the analysis is covered, (b) a covered body
  stays current, (c) a notify-less read is diagnosed, (d) the choice of the notify signal.  (a) and (b) are then stated
  for every body the model builder produces, and the bodies `evaluate_code` folds to a constant are characterised.

  Fragment of (b) (`QV.Model.Observe.evalR/runFrom`): `readProperty` through a pointer reads the world (null = undefined);
  `copy` exact; every other rvalue is an arbitrary deterministic function `S.pure` of its operands' values (operators, casts,
  builtins, gadget reads, *pure* method calls — a method whose result depends on hidden object state is not a property
  and is outside the property text); `writeProperty`/`writeSubscript` inside a binding and evaluations that come back
  to a block are undefined (`none`).  The theorem speaks about histories along which every evaluation is defined
  (`Steps` exists only then).  Outside the abstract world: queued connections, threads, deletion of observed objects.
-/
import QV.Proofs.Observe
import QV.Proofs.PropDep
import QV.Gen.VerifEnv
import QV.Proofs.BuilderStatements
import QV.Proofs.PropDepShape
import QV.Proofs.InterpEntry

namespace QV.Props.C02
open QV.Model QV.Model.Observe QV.Proofs.Observe QV.Proofs.PropDep

/-- the builder never emits observe statements; the analysis is run once on such a body -/
def noObserve (c : CodeBody) : Prop := ∀ b ∈ c.blocks, ∀ s ∈ b.statements, stmtObs s = []

/-- (a) the model of propdep.rs produces covered code from every body without observe statements (any static deps /
    observer count it started with), whenever it reports no diagnostic and does not panic -/
theorem propdep_covers (c : CodeBody) (hno : noObserve c)
    (hd : (analyzePropertyDependency c).2.1 = []) (hp : (analyzePropertyDependency c).2.2 = none) :
    covered (analyzePropertyDependency c).1 = true := by
  rw [apd_eq] at hd hp ⊢
  obtain ⟨B, D, G, N, P, he, hcov, hobs, _⟩ :=
    fold_pdStep_spec c.locals.length c.blocks [] c.staticDeps [] c.observerCount none
  simp only [he, List.nil_append, Option.none_or] at hd hp ⊢
  -- the handles are `observerCount, …, observerCount + N - 1`: distinct and below the new count
  have hobs := hobs hno
  simp only [covered, allObs, Bool.and_eq_true, List.all_eq_true, decide_eq_true_eq]
  refine ⟨⟨fun b hb => hcov hd hp _ (fun e he => List.mem_append_right _ he) b hb, ?_⟩, ?_⟩
  · exact decide_eq_true (by rw [hobs]; exact List.nodup_range' (step := 1) (by decide))
  · intro e he
    have : e.1 ∈ (B.flatMap blockObs).map (·.1) := List.mem_map_of_mem he
    rw [hobs, List.mem_range'_1] at this
    exact this.2

/-- the invariant: the target is current and everything the last evaluation read is subscribed -/
theorem binding_subscribed (S : Sem) (c : CodeBody) (hc : covered c = true) (s0 : Store) (W0 W : World)
    (hist : List Change) (h0 : setup S c s0 = some W0) (hs : Steps S c W0 hist W) : Inv S c W :=
  steps_inv hc hs (update_establishes hc (obsWf_init c) h0)

/-- (b) for any covered body: after `setup()` and after any finite history of property changes with notification
    (value changes, re-pointing and nulling of the pointer properties the binding reads through, changes of unrelated
    or notify-less properties), the target holds the value of the expression in the current state -/
theorem binding_current (S : Sem) (c : CodeBody) (hc : covered c = true) (s0 : Store) (W0 W : World)
    (hist : List Change) (h0 : setup S c s0 = some W0) (hs : Steps S c W0 hist W) :
    W.target = evalBody S c W.store ∧ (evalBody S c W.store).isSome = true := by
  obtain ⟨_, v, e, hr, ht, _⟩ := binding_subscribed S c hc s0 W0 W hist h0 hs
  simp [evalBody, hr, ht]

theorem stepFn_step (S : Sem) (c : CodeBody) (W W' : World) (ch : Change) (hk : ch.prop.constant = false)
    (h : stepFn S c W ch = some W') : Step S c W ch W' := by
  unfold stepFn at h
  split at h
  · rename_i sig hsig
    have hl := live_iff_count S c W (ch.obj, sig)
    generalize ((staticConns S c).eraseDups.filter (· = (ch.obj, sig))).length +
      ((List.range c.observerCount).filter fun h => decide ((W.obs h).conn = some (ch.obj, sig))).length = n at h hl
    cases n with
    | zero =>
      cases h
      refine .quiet hk fun sig' hs' => ?_
      cases hsig.symm.trans hs'
      exact Bool.eq_false_iff.mpr fun hlv => Nat.lt_irrefl 0 (hl.mp hlv)
    | succ n => exact .notify hk hsig (hl.mpr (Nat.succ_pos n)) (fold_delivered n _ _ h)
  · rename_i hne
    cases h
    exact .quiet hk fun sig hs => absurd hs (hne sig)

/-- (c) "rejected rather than stale": a statement that reads a non-constant property without notify signal through a
    pointer makes `analyze_block` report `unobservable property: <name>` -/
theorem unobservable_rejected (stmts : List Statement) (n start : Nat) (s : Statement) (a : Operand) (p : PropInfo)
    (hs : s ∈ stmts) (hshape : (∃ l, s = .assign l (.readProperty a p)) ∨ s = .exec (.readProperty a p))
    (hptr : a.typeDesc.isPointer = true) (hconst : p.constant = false) (hnotify : p.notify = none) :
    s!"unobservable property: {p.name}" ∈ (analyzeBlock stmts n start).2.2.1 := by
  rw [analyzeBlock_eq]
  refine scan_diag stmts _ 0 s _ hs ?_
  rcases hshape with ⟨l, rfl⟩ | rfl <;> exact readDecision_unobservable hptr hconst hnotify

/-- (c) for a whole body: the analysis reports a diagnostic (the document is then not generated at all: C04) -/
theorem unobservable_body_rejected (c : CodeBody) (h : hasUnobservableRead c = true) :
    (analyzePropertyDependency c).2.1 ≠ [] := by
  rw [apd_eq]
  obtain ⟨B, D, G, N, P, he, _, _, hdiag, _⟩ :=
    fold_pdStep_spec c.locals.length c.blocks [] c.staticDeps [] c.observerCount none
  simp only [he, List.nil_append]
  simp only [hasUnobservableRead, List.any_eq_true] at h
  obtain ⟨b, hb, s, hs, hu⟩ := h
  have hd : ∃ m, ∀ locals, decision locals s = .diag m := by
    unfold unobservableRead at hu
    split at hu
    -- in the default arm `hu : false = true` closes the goal
    all_goals simp only [Bool.and_eq_true, Bool.not_eq_true', Option.isNone_iff_eq_none, Bool.false_eq_true] at hu
    all_goals exact ⟨_, readDecision_unobservable hu.1.1 hu.1.2 hu.2⟩
  obtain ⟨m, hd⟩ := hd
  exact List.ne_nil_of_mem (hdiag b hb m (scan_diag b.statements _ 0 s m hs hd))

/-- (d) `find_notify_signal` returns a *signal* among the overloads of that name that takes no argument or whose first
    argument has the property's type, with the most arguments among those; it fails iff there is none -/
theorem notify_choice (overloads : List MethodInfo) (ty : TypeKind) :
    match findNotifySignal overloads ty with
    | none => ∀ m ∈ overloads, m.kind = .signal → notifyEligible ty m = false
    | some r => r ∈ overloads ∧ r.kind = .signal ∧ notifyEligible ty r = true ∧
        ∀ m ∈ overloads, m.kind = .signal → notifyEligible ty m = true → m.args.length ≤ r.args.length := by
  have := best_fold ty (overloads.filter fun m => m.kind = .signal) [] none (fun _ h => absurd h List.not_mem_nil)
  rw [List.nil_append] at this
  unfold findNotifySignal
  generalize (overloads.filter fun m => m.kind = .signal).foldl (findNotifyStep ty) none = res at this ⊢
  cases res with
  | none => exact fun m hm hk => this m (List.mem_filter.mpr ⟨hm, decide_eq_true hk⟩)
  | some r =>
    obtain ⟨h1, h2, h3⟩ := this
    obtain ⟨ho, hk⟩ := List.mem_filter.mp h1
    exact ⟨ho, of_decide_eq_true hk, h2,
      fun m hm hk he => h3 m (List.mem_filter.mpr ⟨hm, decide_eq_true hk⟩) he⟩

/-- for every class of the environment and every property whose notify signal the real type map resolved, the model's
    choice among the class's own overloads of that name is that signal; a property whose signal is not among the
    class's own methods (inherited) is skipped by `| none => true` -/
def notifyAgrees (env : Env) : Bool :=
  env.classes.all fun c => c.props.all fun p =>
    match p.notify with
    | some (some m) =>
      (match c.methods.find? (·.1 = m.name) with
       | some (_, ovs) => findNotifySignal ovs p.ty == some m
       | none => true)
    | _ => true

theorem notify_choice_verifEnv : notifyAgrees QV.Gen.verifEnv = true := by decide +kernel

section Examples
def sigOf (cls n : String) : MethodInfo := { cls := cls, name := n, args := [], ret := .void, kind := .signal }
def propOf (cls n : String) (ty : TypeKind) : PropInfo :=
  { cls := cls, name := n, ty := ty, readable := true, writable := true, constant := false,
    notify := some (some (sigOf cls (n ++ "Changed"))), readFn := n, writeFn := "set" ++ n }
def pBase : TypeKind := .pointer (.cls "VBase")
def nextP := propOf "VBase" "next" pBase
def sP := propOf "VBase" "s" .string
def iP := propOf "VBase" "i" .int
def bP := propOf "VBase" "b" .bool
def nnP : PropInfo := { propOf "VBase" "nn" .int with notify := none }

/-- `a.next.next.s` before the analysis -/
def chainPre : CodeBody :=
  { blocks := [{ statements := [.assign 0 (.readProperty (.namedObject "a" "VBase") nextP),
                                .assign 1 (.readProperty (.local 0 pBase) nextP),
                                .assign 2 (.readProperty (.local 1 pBase) sP)],
                 terminator := some (.ret (.local 2 .string)) }],
    locals := [pBase, pBase, .string] }

/-- `{ let p = a; if (a.b) { p = b }; return p.i }` : a local holding an object assigned in another block -/
def branchPre : CodeBody :=
  { blocks := [{ statements := [.assign 0 (.copy (.namedObject "a" "VBase")),
                                .assign 1 (.readProperty (.namedObject "a" "VBase") bP)],
                 terminator := some (.brCond (.local 1 .bool) 1 2) },
               { statements := [.assign 0 (.copy (.namedObject "b" "VBase"))], terminator := some (.br 2) },
               { statements := [.assign 2 (.readProperty (.local 0 pBase) iP)],
                 terminator := some (.ret (.local 2 .int)) }],
    locals := [pBase, .bool, .int] }

/-- within one block the copy is tracked: `{ let p = a; return p.i }` gets a static dependency, no observer -/
def copyPre : CodeBody :=
  { blocks := [{ statements := [.assign 0 (.copy (.namedObject "a" "VBase")),
                                .assign 1 (.readProperty (.local 0 pBase) iP)],
                 terminator := some (.ret (.local 1 .int)) }],
    locals := [pBase, .int] }

example : (analyzePropertyDependency chainPre).2 = ([], none) ∧
    (analyzePropertyDependency chainPre).1.observerCount = 2 ∧
    (analyzePropertyDependency chainPre).1.staticDeps = [("a", sigOf "VBase" "nextChanged")] ∧
    covered (analyzePropertyDependency chainPre).1 = true := by decide +kernel
example : (analyzePropertyDependency branchPre).1.observerCount = 1 ∧
    covered (analyzePropertyDependency branchPre).1 = true := by decide +kernel
example : (analyzePropertyDependency copyPre).1.observerCount = 0 ∧
    (analyzePropertyDependency copyPre).1.staticDeps = [("a", sigOf "VBase" "iChanged")] ∧
    covered (analyzePropertyDependency copyPre).1 = true := by decide +kernel
-- the un-analysed body is NOT covered, and neither is the analysed body with `observerCount` below handle 1
example : covered chainPre = false := by decide +kernel
example : covered { (analyzePropertyDependency chainPre).1 with observerCount := 1 } = false := by decide +kernel
/-- notify-less read: diagnosed -/
example : (analyzePropertyDependency
    { blocks := [{ statements := [.assign 0 (.readProperty (.namedObject "a" "VBase") nnP)],
                   terminator := some (.ret (.local 0 .int)) }], locals := [.int] }).2.1
    = ["unobservable property: nn"] := by decide +kernel
/-! the chain in a concrete world: objects 0 = a, 1 = b; a.next = b, b.next = a, a.s = "x": `a.next.next.s` = "x";
    `setup` succeeds, observers 0 and 1 end up on (b, nextChanged) and (a, sChanged); after re-pointing `b.next := b`
    (served by observer 0) the target is b.s = "y" -/
def exS : Sem := { named := fun n => if n = "a" then 0 else 1, constVal := fun _ => none, pure := fun _ _ => none }
def exStore : Store := fun o p =>
  if p = nextP then .ptr (some (1 - o)) else if p = sP then .str (if o = 0 then ['x'] else ['y']) else .other 0
def chainPost : CodeBody := (analyzePropertyDependency chainPre).1
example : (setup exS chainPost exStore).map (·.target) = some (some (.str ['x'])) := by decide +kernel
example : ((setup exS chainPost exStore).bind fun W => stepFn exS chainPost W ⟨1, nextP, .ptr (some 1)⟩).map (·.target)
    = some (some (.str ['y'])) := by decide +kernel
example : ((setup exS chainPost exStore).map fun W => ((W.obs 0).conn, (W.obs 1).conn))
    = some (some (1, sigOf "VBase" "nextChanged"), some (0, sigOf "VBase" "sChanged")) := by decide +kernel
/-- nulling an intermediate pointer makes the expression undefined (C++: null dereference): `stepFn` is `none` -/
example : ((setup exS chainPost exStore).bind fun W => stepFn exS chainPost W ⟨0, nextP, .ptr none⟩).isNone = true := by
  decide +kernel
end Examples

end QV.Props.C02

/- The hypotheses `hno` and `hp` of `propdep_covers` hold for every output of the model builder (`QV.Model.build`, tied
   to the real `tir::build` by the exact-IR stream), by induction over the walk (`QV.Proofs.BuilderStatements`): the
   builder never emits an observe statement, and the object operand of every `readProperty` it emits is never the
   null constant (it comes from name resolution, which yields a named object, or from `process_item_property`, which
   requires a concrete type) — so the analysis never reaches `panic!("invald read_property")` (sic).
   The namespace is reopened with `QV.Proofs.BuilderInv` opened as well. -/

namespace QV.Props.C02
open QV.Model QV.Model.Observe QV.Proofs.Observe QV.Proofs.PropDep QV.Proofs.BuilderInv

/-- the builder never emits observe statements: hypothesis `hno` of `propdep_covers`, for all programs -/
theorem build_noObserve (ctx : Ctx) (callback : Bool) (p : Program) (code : CodeBody)
    (h : (build ctx callback p).code = some code) : noObserve code :=
  fun b hb s hs => goodSt_noObs (build_statements_good ctx callback p code h b hb s hs)

/-- the analysis never panics on a built body: hypothesis `hp` of `propdep_covers`, for all programs -/
theorem build_analysis_never_panics (ctx : Ctx) (callback : Bool) (p : Program) (code : CodeBody)
    (h : (build ctx callback p).code = some code) : (analyzePropertyDependency code).2.2 = none :=
  analyze_no_panic code (build_statements_good ctx callback p code h)

/-- **(a) for all programs**: the analysed body of every program on which the analysis reports no diagnostic is
    covered -/
theorem build_propdep_covers (ctx : Ctx) (callback : Bool) (p : Program) (code : CodeBody)
    (h : (build ctx callback p).code = some code) (hd : (analyzePropertyDependency code).2.1 = []) :
    covered (analyzePropertyDependency code).1 = true :=
  propdep_covers code (build_noObserve ctx callback p code h) hd (build_analysis_never_panics ctx callback p code h)

/-- **(b) for all programs**: for every program whose analysis reports no diagnostic, after `setup()` and after any
    finite history of property changes the target holds the value of the expression in the current state — no
    coverage hypothesis left -/
theorem build_binding_current (ctx : Ctx) (callback : Bool) (p : Program) (code : CodeBody)
    (h : (build ctx callback p).code = some code) (hd : (analyzePropertyDependency code).2.1 = [])
    (S : Sem) (s0 : Store) (W0 W : World) (hist : List Change)
    (h0 : setup S (analyzePropertyDependency code).1 s0 = some W0)
    (hs : Steps S (analyzePropertyDependency code).1 W0 hist W) :
    W.target = evalBody S (analyzePropertyDependency code).1 W.store ∧
      (evalBody S (analyzePropertyDependency code).1 W.store).isSome = true :=
  binding_current S _ (build_propdep_covers ctx callback p code h hd) s0 W0 W hist h0 hs

/-- `unobservable_body_rejected` for a built body (the build hypothesis is not needed) -/
theorem build_unobservable_rejected (ctx : Ctx) (callback : Bool) (p : Program) (code : CodeBody)
    (_h : (build ctx callback p).code = some code) (hu : hasUnobservableRead code = true) :
    (analyzePropertyDependency code).2.1 ≠ [] :=
  unobservable_body_rejected code hu

end QV.Props.C02

/- A binding whose body `evaluate_code` evaluates to a value is written to the .ui file as a constant and gets no
   update path; every other accepted binding gets `setup`/`update`/`eval` code (uigen).  So "stays current" also
   needs: a body that depends on the state is not evaluated as a constant.  What `QV.Model.evaluateCode` (tied by the
   `eval` field of the exact-IR stream) looks at is proved in `QV.Proofs.InterpEntry`; its three theorems are restated
   here, in the property's namespace, with only `QV.Model` and `QV.Proofs.InterpEntry` open.  (A fast path looking at
   the last block would make `{ if (check.checked) return edit.text; "Unchecked" }` the constant "Unchecked".) -/

namespace QV.Props.C02
open QV.Model QV.Proofs.InterpEntry

theorem evaluated_constant_entry (env : Env) (code : CodeBody) (v : EvaluatedValue)
    (h : evaluateCode env code = .value (some v)) :
    ∃ b0, code.blocks[0]? = some b0 ∧
      ((∃ cv, b0.terminator = some (.ret (.const cv)) ∧ toEvaluatedValue env [] (.const cv) .noTr = some v) ∨
       ((∀ c x y, b0.terminator ≠ some (.brCond c x y)) ∧
        ∀ l a p, Statement.assign l (.readProperty a p) ∉ b0.statements)) :=
  QV.Proofs.InterpEntry.evaluated_constant_entry env code v h

/-- the branch comes from `if`, `switch`, `?:`, `&&`, `||` on the way to the result -/
theorem branching_entry_not_constant (env : Env) (code : CodeBody) (b0 : BasicBlock) (c : Operand) (x y : Nat)
    (hb : code.blocks[0]? = some b0) (ht : b0.terminator = some (.brCond c x y)) :
    ∀ v, evaluateCode env code ≠ .value (some v) :=
  QV.Proofs.InterpEntry.branching_entry_not_constant env code b0 c x y hb ht

theorem reading_entry_not_constant (env : Env) (code : CodeBody) (b0 : BasicBlock) (l : Nat) (a : Operand) (p : PropInfo)
    (hb : code.blocks[0]? = some b0) (hs : Statement.assign l (.readProperty a p) ∈ b0.statements)
    (hne : ∀ cv, b0.terminator ≠ some (.ret (.const cv))) :
    ∀ v, evaluateCode env code ≠ .value (some v) :=
  QV.Proofs.InterpEntry.reading_entry_not_constant env code b0 l a p hb hs hne

/-- the entry block branches, the last block returns a literal -/
def lastBlockLiteral : CodeBody :=
  { blocks := [{ statements := [.assign 0 (.readProperty (.namedObject "a" "VBase") bP)],
                 terminator := some (.brCond (.local 0 .bool) 1 2) },
               { statements := [.assign 1 (.readProperty (.namedObject "a" "VBase") sP)],
                 terminator := some (.ret (.local 1 .string)) },
               { statements := [], terminator := some (.ret (.const (.qstring ['U']))) }],
    locals := [.bool, .string] }

/-- `lastBlockLiteral` is not a constant, for any environment -/
example (env : Env) : ∀ v, evaluateCode env lastBlockLiteral ≠ .value (some v) :=
  branching_entry_not_constant env lastBlockLiteral _ _ _ _ rfl rfl

end QV.Props.C02

#print axioms QV.Props.C02.propdep_covers
#print axioms QV.Props.C02.binding_current
#print axioms QV.Props.C02.binding_subscribed
#print axioms QV.Props.C02.stepFn_step
#print axioms QV.Props.C02.unobservable_rejected
#print axioms QV.Props.C02.unobservable_body_rejected
#print axioms QV.Props.C02.notify_choice
#print axioms QV.Props.C02.notify_choice_verifEnv
#print axioms QV.Props.C02.build_noObserve
#print axioms QV.Props.C02.build_analysis_never_panics
#print axioms QV.Props.C02.build_propdep_covers
#print axioms QV.Props.C02.build_binding_current
#print axioms QV.Props.C02.evaluated_constant_entry
#print axioms QV.Props.C02.branching_entry_not_constant
#print axioms QV.Props.C02.reading_entry_not_constant
