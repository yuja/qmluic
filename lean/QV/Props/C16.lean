/-
  C16 — The support header is self-consistent, valid C++ over the documented Qt API.

  Model : QV.Model.CxxEmit (uigen/binding.rs: name prefixes and the shared `UniqueNameGenerator`, function inventory,
          `BindingIndex`, `bindingGuard_` size and word/bit arithmetic, observer arrays, include rule,
          `format_cxx_string_literal` and the Rust `{:?}` spelling before it; tir/propdep.rs observer allocation),
          QV.Model.RustDebugTable (toolchain table).
  Spec  : QV.Spec.CxxLit (how a C++17 compiler reads the characters of a `u"…"` / ordinary string literal), validated
          against g++ by the stream (`spec-cxxlit`).
  Tie   : stream `c16` — header inventory and literal spellings of REAL headers vs the model (kind=model); token scan
          of real headers (kind=oracle); every accepted header compiled with g++ -std=c++17 against declarations
          generated from the same metatypes (kind=oracle); every literal compiled and RUN (kind=oracle).

  "A C++ compiler accepts the header" is not a theorem (no compiler is modelled): correspondence only.

  The model follows the code after the repairs of F3b (5f82544), F3a (0f767b2), F13 (bd13865), F22 (61d18c3),
  F24 (5a4a210), F23 (17832f1), F70 (4e55b2c); what the code did before each is a definition of its own (`…Old`,
  `…Pre70`) with a witness that it fails (`…_old_refuted`, `literal_*_witness`).
-/
import QV.Proofs.CxxEmit
import QV.Spec.CxxLit

namespace QV.Props.C16
open QV.Model.Names QV.Model.CxxEmit QV.Proofs.CxxEmit

/-- **Every name issued while building the support code is issued once** — over the whole sequence of `generate`
    calls (bindings, gadget sub-bindings with prefixes built from generated names, callbacks; all objects), whatever
    the object and property names are (colliding concatenations, names ending in digits). -/
theorem issued_names_distinct (objs : List Obj) (b : Built) (h : build objs = some b) : b.issued.Nodup := by
  unfold build at h
  split at h
  · cases h
  · rename_i bs cs g hg
    cases h
    exact (genObjects_issued objs {} g bs cs hg).1

/-- **Member functions are pairwise distinct**: the `setup…/update…/eval…/on…` functions defined in the header, in
    the order they are written, contain no name twice (so each call `this->f()` has exactly one definition). -/
theorem fn_names_distinct (objs : List Obj) (b : Built) (h : build objs = some b) : b.defs.Nodup := by
  have hn := issued_names_distinct objs b h
  have key := units_nodup (b.bindings.map bindingUnit ++ b.callbacks.map callbackUnit)
    (by
      intro u hu
      rcases List.mem_append.1 hu with hu | hu
      · obtain ⟨g, _, rfl⟩ := List.mem_map.1 hu
        exact bindingUnit_good g
      · obtain ⟨c, _, rfl⟩ := List.mem_map.1 hu
        exact callbackUnit_good c)
    (by
      simp only [Built.issued] at hn
      simp only [List.flatMap_append, List.flatMap_map, bindingUnit, callbackUnit, ← List.map_eq_flatMap]
      exact hn)
  simpa [Built.defs, List.flatMap_append, List.flatMap_map, bindingUnit, callbackUnit] using key

/-- every member function's name is a tag followed by an issued name -/
theorem defs_are_tagged (b : Built) : ∀ x ∈ b.defs, ∃ t ∈ tags, ∃ n ∈ b.issued, x = t ++ n := by
  intro x hx
  simp only [Built.defs, List.mem_append, List.mem_flatMap] at hx
  rcases hx with ⟨g, hg, hx⟩ | ⟨c, hc, hx⟩
  · obtain ⟨t, ht, n, hn, rfl⟩ := (bindingUnit_good g).2 x hx
    refine ⟨t, ht, n, ?_, rfl⟩
    simp only [Built.issued, List.mem_append, List.mem_flatMap]
    exact Or.inl ⟨g, hg, hn⟩
  · obtain ⟨t, ht, n, hn, rfl⟩ := (callbackUnit_good c).2 x hx
    refine ⟨t, ht, n, ?_, rfl⟩
    simp only [callbackUnit, List.mem_cons, List.not_mem_nil, or_false] at hn
    subst hn
    simp only [Built.issued, List.mem_append, List.mem_map]
    exact Or.inr ⟨c, hc, rfl⟩

/-- the `generate` search never panics while the nodes of one property are named (C10's totality lemma) -/
theorem build_total_group (objCap : Str) : ∀ (nodes : List PNode) (stack : List Str) (g : Gen),
    genGroup objCap nodes stack g ≠ none := by
  intro nodes
  induction nodes with
  | nil => intro _ _; simp [genGroup]
  | cons nd rest ih =>
    intro stack g
    simp only [genGroup]
    split
    · rename_i hg
      exact absurd hg (QV.Proofs.Names.generate_total _ _ _)
    · rename_i name g1 _
      split
      · rename_i hr
        exact absurd hr (ih _ _)
      · simp

/-- **Each binding has its own index**: one enumerator per binding, the k-th with value k (`indexOf` is the identity, so
    clauses 2 and 3 hold by definition); the enumerator names of the non-empty groups are pairwise distinct. -/
theorem index_per_binding (objs : List Obj) (b : Built) (h : build objs = some b) :
    b.indexEnum.length = b.bindingCount ∧
    (∀ j k, j < b.bindingCount → k < b.bindingCount → b.indexOf j = b.indexOf k → j = k) ∧
    (∀ k, k < b.bindingCount → b.indexOf k < b.bindingCount) ∧
    ((b.bindings.filter (· ≠ [])).map bindingName).Nodup := by
  refine ⟨by simp [Built.indexEnum, Built.bindingCount], fun j k _ _ e => e, fun k hk => hk, ?_⟩
  have hn := issued_names_distinct objs b h
  simp only [Built.issued] at hn
  -- the name of a non-empty group is one of the names issued for it
  refine nodup_map_filter_of_nodup_flatMap (f := groupNames) (fun g _ hg => ?_) (List.nodup_append.1 hn).1
  cases g with
  | nil => simp at hg
  | cons it tl => simp [bindingName, groupNames]

/-- colliding prefixes: `foo`+`windowTitle` and `fooWindow`+`title` (and `title1`) get distinct names -/
example :
    (build [
      { name := "foo".toList,
        props := [[{ depth := 0, name := "windowTitle".toList,
                     kind := .expr { dynamic := true, observers := 0, uses := [], lits := [] } }]],
        callbacks := [] },
      { name := "fooWindow".toList,
        props := [[{ depth := 0, name := "title".toList, kind := .expr { dynamic := true, observers := 0, uses := [], lits := [] } }],
                  [{ depth := 0, name := "title1".toList, kind := .expr { dynamic := true, observers := 0, uses := [], lits := [] } }]],
        callbacks := [] }]).map (·.indexEnum.map String.ofList)
      = some ["FooWindowTitle", "FooWindowTitle1", "FooWindowTitle11"] := by
  -- the kernel decodes a string literal byte by byte, quadratically in its length: the literals are opened by rewriting
  repeat rw [String.toList_ofList]
  decide +kernel

/-- **The guard array is large enough**: for `n` bindings every index `i < n` addresses a word inside
    `bindingGuard_[(n+31)/32]`, a bit below 32, and (word, bit) determines `i`. -/
theorem guard_large_enough (n i : Nat) (h : i < n) :
    guardWord i < guardLen n ∧ guardBit i < 32 ∧ i = 32 * guardWord i + guardBit i := by
  rw [guardWord_eq, guardBit_eq]
  unfold guardLen
  omega

/-- distinct bindings never share a guard bit -/
theorem guard_slots_distinct (i j : Nat) (hw : guardWord i = guardWord j) (hb : guardBit i = guardBit j) : i = j := by
  rw [guardWord_eq, guardWord_eq] at hw
  rw [guardBit_eq, guardBit_eq] at hb
  omega

/-- no zero-length array: the array is declared iff there is a binding, and then has at least one element -/
theorem guard_decl (n : Nat) :
    (guardDecl n = none ↔ n = 0) ∧ ∀ k, guardDecl n = some k → 1 ≤ k ∧ n ≤ 32 * k := by
  unfold guardDecl guardLen
  constructor
  · by_cases h : n = 0 <;> simp [h]
  · intro k hk
    by_cases h : n = 0
    · simp [h] at hk
    · simp only [h, if_false, Option.some.injEq] at hk
      omega

example : guardDecl 0 = none ∧ guardDecl 32 = some 1 ∧ guardDecl 33 = some 2 ∧ guardWord 40 = 1 ∧ guardBit 40 = 8 := by
  decide

/-- **Observer arrays are large enough**: the observer indexes `observed[k]` allocated for the blocks of one binding
    are all below the declared size `property_observer_count`; the array is declared whenever an index is used and
    never with length 0. -/
theorem observer_arrays_large_enough (name : Str) (blocks : List Nat) :
    let r := allocObservers 0 blocks
    (∀ ids ∈ r.1, ∀ k ∈ ids, k < r.2) ∧
    (observerDecl name r.2 = none ↔ r.2 = 0) ∧
    (∀ d, observerDecl name r.2 = some d → d.2 = r.2 ∧ 0 < d.2) := by
  obtain ⟨h1, h2⟩ := allocObservers_spec blocks 0
  refine ⟨?_, ?_, ?_⟩
  · intro ids hids k hk
    have := h2 ids hids k hk
    omega
  · unfold observerDecl
    by_cases h : (allocObservers 0 blocks).2 = 0 <;> simp [h]
  · intro d hd
    unfold observerDecl at hd
    by_cases h : (allocObservers 0 blocks).2 = 0
    · simp [h] at hd
    · simp only [h, if_false, Option.some.injEq] at hd
      subst hd
      exact ⟨rfl, Nat.pos_of_ne_zero h⟩

example : allocObservers 0 [1, 0, 2] = ([[0], [], [1, 2]], 3) := by decide

/-- a declared array is named `observed` + the binding's name + `_` -/
theorem observer_decl_name (name : Str) (n : Nat) (d : Str × Nat) (h : observerDecl name n = some d) :
    d.1 = "observed".toList ++ name ++ "_".toList := by
  unfold observerDecl at h
  by_cases hn : n = 0
  · simp [hn] at h
  · simp only [hn, if_false, Option.some.injEq] at h
    subst h; rfl

/-- **Facilities used are included** (on the model's summary of the code): if any code body calls `Math.max/min`
    the header includes `<algorithm>`, if any calls `console.*` it includes `<QtDebug>`, if any takes the remainder of
    doubles (`std::fmod`) it includes `<cmath>`. -/
theorem includes_cover (objs : List Obj) :
    ((allUses objs).contains .max = true ∨ (allUses objs).contains .min = true → incAlgorithm ∈ systemIncludes objs) ∧
    ((allUses objs).contains .log = true → incQtDebug ∈ systemIncludes objs) ∧
    ((allUses objs).contains .fmod = true → incCmath ∈ systemIncludes objs) := by
  unfold systemIncludes
  refine ⟨?_, ?_, ?_⟩
  · intro h
    have hc : ((allUses objs).contains .max || (allUses objs).contains .min) = true := by
      rcases h with h | h
      · rw [h]; rfl
      · rw [h]; exact Bool.or_true _
    rw [if_pos hc]
    exact List.mem_append.2 (Or.inl (List.mem_append.2 (Or.inr (List.mem_singleton.2 rfl))))
  · intro h
    rw [if_pos h]
    exact List.mem_append.2 (Or.inl (List.mem_append.2 (Or.inl (List.mem_singleton.2 rfl))))
  · intro h
    rw [if_pos h]
    exact List.mem_append.2 (Or.inr (List.mem_singleton.2 rfl))

/-- **Every operator the type checker admits is spelled as something a C++17 compiler accepts on those operands**:
    arithmetic (`%` on doubles is `std::fmod`, recorded as a use of `<cmath>`), comparison (no ordering of pointers),
    bitwise operators with enumeration operands — unscoped, QFlags or scoped (`enum class`: printed as
    `static_cast<int>(operand)`), result cast back through `int` — for enumerations with and without
    `Q_DECLARE_OPERATORS_FOR_FLAGS`. -/
theorem ops_subset_cxx :
    (∀ (op : ArithOp) (t : PTy), implAcceptsArith op t = true →
        cxxAcceptsArith (spellArith op t) op t = true ∧
        (spellArith op t = .fmod → Builtin.fmod ∈ arithUses (spellArith op t))) ∧
    (∀ (op : CmpOp) (o : CmpOperands), implAcceptsCmp op o = true → cxxAcceptsCmp op o = true) ∧
    (∀ (flagOps : Bool) (op : BitOp) (l r : ETy), isEnumOperand l = true → isEnumOperand r = true →
        cxxAcceptsBit flagOps op l r = true) ∧
    (∀ (a : ETy), isEnumOperand a = true → cxxAcceptsNot a = true) := by
  refine ⟨?_, ?_, ?_, ?_⟩
  · intro op t
    cases op <;> cases t <;> decide
  · -- C++ refuses only `pointer < nullptr`, where the two tables coincide
    intro op o h
    cases o with
    | pointerNull => exact h
    | _ => rfl
  · intro f op l r _ _
    cases l <;> cases r <;> rfl
  · intro a _
    cases a <;> rfl

/-- the code before 4e55b2c: `v.scoped & v2.scoped2` and `~v.scoped` were printed with the operands as they are, but
    `enum class` values have no bitwise operators (finding F70, fixed) -/
theorem bit_scoped_old_refuted :
    (¬ ∀ (flagOps : Bool) (op : BitOp) (l r : ETy), isEnumOperand l = true → isEnumOperand r = true →
        cxxAcceptsBitPre70 flagOps op l r = true) ∧
    cxxAcceptsNotPre70 .scopedEnum = false := by
  refine ⟨?_, by decide⟩
  intro h
  exact absurd (h false .and .scopedEnum .scopedEnum (by decide) (by decide)) (by decide)

example : formatBitwiseOperand true "a0".toList = "static_cast<int>(a0)".toList ∧
    formatBitwiseOperand false "a0".toList = "a0".toList ∧
    bitwiseIntCasts ⟨false, true, true⟩ = 3 ∧ bitwiseIntCasts ⟨true, true, false⟩ = 2 ∧
    bitwiseIntCasts ⟨false, false, false⟩ = 1 := by
  repeat rw [String.toList_ofList]
  decide +kernel

/-- the code before 0f767b2: `double % double` was admitted and printed as `%` (finding F3a, fixed) -/
theorem ops_subset_cxx_old_refuted :
    ¬ ∀ (op : ArithOp) (t : PTy), implAcceptsArith op t = true → cxxAcceptsArith (spellArithOld op t) op t = true := by
  intro h
  exact absurd (h .rem .double (by decide)) (by decide)

/-- the code before 5a4a210: `pointer < null` was admitted, `a0 < nullptr` is ill-formed (finding F24, fixed) -/
theorem cmp_subset_cxx_old_refuted :
    ¬ ∀ (op : CmpOp) (o : CmpOperands), implAcceptsCmpOld op o = true → cxxAcceptsCmp op o = true := by
  intro h
  exact absurd (h .lt .pointerNull (by decide)) (by decide)

/-- the code before 17832f1: `enum & enum` is `int`, which does not convert to the enumeration-typed local; neither
    does `FlagA & flags` to `QFlags`, nor `~enum` (finding F23, fixed) -/
theorem bit_subset_cxx_old_refuted :
    (¬ ∀ (flagOps : Bool) (op : BitOp) (l r : ETy), isEnumOperand l = true → isEnumOperand r = true →
        cxxAcceptsBitOld flagOps op l r = true) ∧
    cxxAcceptsBitOld true .and .enum .qflags = false ∧ cxxAcceptsNotOld .enum = false := by
  refine ⟨?_, by decide, by decide⟩
  intro h
  exact absurd (h false .and .enum .enum (by decide) (by decide)) (by decide)

/-- C++ [dcl.enum]: the enumerators of an unscoped enumeration are declared in the scope that contains the
    enum-specifier (and may also be named through the enumeration); those of a scoped enumeration (`enum class`) can
    ONLY be named through the enumeration.  `parent` = the qualified name of that containing class/namespace. -/
def cxxNamesEnumerator (u : EnumUse) (spelling : Str) : Bool :=
  spelling == u.parent ++ scopeSep ++ u.enumName ++ scopeSep ++ u.variant ||
  (!u.isScoped && spelling == u.parent ++ scopeSep ++ u.variant)

/-- **Every enumerator operand is spelled by a qualified name that denotes it**, scoped or not. -/
theorem enumerator_spelling_resolves (u : EnumUse) : cxxNamesEnumerator u (qualifyCxxVariantName u) = true := by
  unfold cxxNamesEnumerator qualifyCxxVariantName
  cases h : u.isScoped <;> simp

/-- dropping the parent scope of a scoped enumerator (`ExclusionPolicy::Exclusive` for
    `QActionGroup::ExclusionPolicy::Exclusive`) does not name it -/
example : cxxNamesEnumerator ⟨"QActionGroup".toList, "ExclusionPolicy".toList, true, "Exclusive".toList⟩
    "ExclusionPolicy::Exclusive".toList = false ∧
    qualifyCxxVariantName ⟨"QActionGroup".toList, "ExclusionPolicy".toList, true, "Exclusive".toList⟩
      = "QActionGroup::ExclusionPolicy::Exclusive".toList ∧
    qualifyCxxVariantName ⟨"Qt".toList, "Alignment".toList, false, "AlignLeft".toList⟩ = "Qt::AlignLeft".toList := by
  repeat rw [String.toList_ofList]
  decide +kernel

/-- the convention of the Qt headers (and of tools/gen_mock_decls.py) for a signal parameter whose normalised type is
    recorded in the metatypes: values of class type — QString, QVariant, containers, gadgets — are taken by reference to
    const, everything else (arithmetic types, enumerations, QFlags, pointers) by value -/
def declaredParam (a : Str × ArgKind) : Str :=
  match a.2 with
  | .prim | .enum | .pointer => a.1
  | .qstring | .qvariant | .cls | .list => "const ".toList ++ a.1 ++ " &".toList

/-- **`QOverload<Args…>::of` names the declared signal**: it selects a member only by its EXACT parameter list, and the
    list printed by `format_signal_pointer` is the declared one, argument by argument — lists and gadgets included. -/
theorem signal_pointer_matches_declaration (u : SignalUse) :
    u.args.map overloadArg = u.args.map declaredParam := by
  apply List.map_congr_left
  intro a _
  rcases a with ⟨t, k⟩
  cases k <;> simp [overloadArg, declaredParam, isConstRefPreferred]

example : formatSignalPointer ⟨"QFileDialog".toList, "filesSelected".toList, [("QStringList".toList, .list)]⟩
      = "QOverload<const QStringList &>::of(&QFileDialog::filesSelected)".toList ∧
    formatSignalPointer ⟨"WBase".toList, "sigMix2".toList,
        [("QStringList".toList, .list), ("int".toList, .prim), ("WBase*".toList, .pointer)]⟩
      = "QOverload<const QStringList &, int, WBase*>::of(&WBase::sigMix2)".toList ∧
    formatSignalPointer ⟨"QAbstractButton".toList, "clicked".toList, []⟩ = "QOverload<>::of(&QAbstractButton::clicked)".toList ∧
    formatNonFinite .negInf = "-qInf()".toList := by
  repeat rw [String.toList_ofList]
  decide +kernel

/-- **Both arguments of every admitted `Math.max/min` call are accepted by `std::max/min` as spelled**: same type for
    deduction, or the explicit `<uint>` when a `uint` value meets an integer literal. -/
theorem builtin_calls_welltyped (a b : MaxArg) (h : implAcceptsMax a b = true) : cxxAcceptsMax a b = true := by
  revert h
  rcases a with s | _ <;> rcases b with t | _
  · -- typed, typed
    cases s <;> cases t <;> decide
  · -- typed, literal
    cases s <;> decide
  · -- literal, typed
    cases t <;> decide
  · -- two literals
    decide

/-- the code before bd13865: `std::max(a1, 1)` with `a1 : uint` deduces `uint` and `int` (finding F13, fixed) -/
theorem builtin_calls_welltyped_old_refuted :
    ¬ ∀ (a b : MaxArg), implAcceptsMax a b = true → cxxAcceptsMaxOld a b = true := by
  intro h
  exact absurd (h (.typed .uint) .intLiteral (by decide)) (by decide)

example : spellArith .rem .double = .fmod ∧ spellArith .rem .int = .infix ∧ uintTemplateArgument (.typed .uint) .intLiteral = true ∧
    uintTemplateArgument (.typed .int) .intLiteral = false := by decide

open QV.Spec.CxxLit

/-- the element a character becomes: escaped characters are numeric/simple escapes (one element with the character's
    value), everything else is the character itself -/
def elemOf (c : Char) : Elem :=
  if c = '"' ∨ c = '\\' ∨ c = '\n' ∨ c = '\r' ∨ c = '\t' ∨ isCxxControl c = true then .unit c.toNat else .cp c.toNat

theorem octVal_digit : ∀ k < 8, octVal (octDigit k) = some k := by decide

/-- **a three-digit octal escape is read as ONE element and cannot absorb what follows** (whatever `R` starts with) -/
theorem octal3_read (n : Nat) (hn : n < 512) (R : Str) :
    elements .normal ('\\' :: (octal3 n ++ R)) = (elements .normal R).map (Elem.unit n :: ·) := by
  have h1 := octVal_digit (n / 64 % 8) (Nat.mod_lt _ (by decide))
  have h2 := octVal_digit (n / 8 % 8) (Nat.mod_lt _ (by decide))
  have h3 := octVal_digit (n % 8) (Nat.mod_lt _ (by decide))
  have hv : (n / 64 % 8 * 8 + n / 8 % 8) * 8 + n % 8 = n := by omega
  simp only [octal3, List.cons_append, List.nil_append, elements, h1, h2, h3]
  simp [hv]

theorem elements_escapeCxxChar (c : Char) (R : Str) :
    elements .normal (escapeCxxChar c ++ R) = (elements .normal R).map (elemOf c :: ·) := by
  by_cases hs : c = '"' ∨ c = '\\' ∨ c = '\n' ∨ c = '\r' ∨ c = '\t'
  · -- read back by evaluation, whatever follows
    rcases hs with rfl | rfl | rfl | rfl | rfl <;> rfl
  · simp only [not_or] at hs
    simp only [escapeCxxChar, elemOf, hs, if_false, false_or]
    split
    · rename_i h6
      have hn : c.toNat < 512 := by
        simp only [isCxxControl, Bool.or_eq_true, decide_eq_true_eq, beq_iff_eq] at h6
        omega
      rw [List.cons_append, octal3_read _ hn]
    · simp [elements, plain, hs]

theorem elements_fmt : ∀ (s : Str), elements .normal (formatStringLiteral s) = some (s.map elemOf) := by
  intro s
  induction s with
  | nil => simp [formatStringLiteral, elements]
  | cons c rest ih =>
    show elements .normal (escapeCxxChar c ++ formatStringLiteral rest) = _
    rw [elements_escapeCxxChar, ih]
    rfl

theorem escaped_lt_128 (c : Char)
    (h : c = '"' ∨ c = '\\' ∨ c = '\n' ∨ c = '\r' ∨ c = '\t' ∨ isCxxControl c = true) : c.toNat < 128 := by
  rcases h with rfl | rfl | rfl | rfl | rfl | h
  iterate 5 decide
  simp only [isCxxControl, Bool.or_eq_true, decide_eq_true_eq, beq_iff_eq] at h
  omega

theorem elemOf_cases (c : Char) : elemOf c = .cp c.toNat ∨ elemOf c = .unit c.toNat ∧ c.toNat < 128 := by
  unfold elemOf
  split
  · exact .inr ⟨rfl, escaped_lt_128 c ‹_›⟩
  · exact .inl rfl

/-- in an encoding that leaves ASCII as it is, the escape of an ASCII character denotes the very unit that encodes it -/
theorem encode_map {enc : Nat → List Nat} {maxUnit : Nat} (henc : ∀ n < 128, n ≤ maxUnit ∧ enc n = [n])
    {el : Char → Elem} (hel : ∀ c, el c = .cp c.toNat ∨ el c = .unit c.toNat ∧ c.toNat < 128) :
    ∀ s : Str, encodeWith enc maxUnit (s.map el) = some (s.flatMap fun c => enc c.toNat)
  | [] => rfl
  | c :: rest => by
    rw [List.map_cons, List.flatMap_cons]
    rcases hel c with h | ⟨h, hlt⟩ <;> rw [h, encodeWith, encode_map henc hel rest]
    · rfl
    · rw [if_pos (henc _ hlt).1, (henc _ hlt).2]; rfl

theorem utf16_ascii : ∀ n < 128, n ≤ 0xFFFF ∧ utf16 n = [n] := fun n h =>
  ⟨by omega, if_pos (by omega)⟩

theorem utf8_ascii : ∀ n < 128, n ≤ 0xFF ∧ utf8 n = [n] := fun n h =>
  ⟨by omega, if_pos (by omega)⟩

/-- **String literals denote the source strings** — for EVERY string of Unicode scalar values: the spelling written
    into `QStringLiteral("…")` (a `u"…"` literal) is read by a C++17 compiler as exactly the UTF-16 code units of the
    string (NUL, control characters followed by digits, quotes, backslashes, non-ASCII and astral characters included). -/
theorem literal_roundtrip (s : Str) : decode16 (formatStringLiteral s) = some (units16 s) := by
  unfold decode16
  rw [elements_fmt s]
  exact encode_map utf16_ascii elemOf_cases s

/-- the ordinary literals (`QCoreApplication::translate("…", "…")`, `qDebug() << "…"`) are read as the UTF-8 bytes -/
theorem literal_roundtrip_narrow (s : Str) : decode8 (formatStringLiteral s) = some (bytes8 s) := by
  unfold decode8
  rw [elements_fmt s]
  exact encode_map utf8_ascii elemOf_cases s

example : decode16 (formatStringLiteral "a\"b\\\n".toList) = some [97, 34, 98, 92, 10] := by decide +kernel
example : decode16 (formatStringLiteral ['q', '\x01', '7', '́', '😀']) = some [113, 1, 55, 769, 55357, 56832] := by
  decide +kernel

/-- witness 1: U+0001 was spelled `\u{1}`, which is not a C++17 escape sequence -/
theorem literal_control_char_witness :
    formatStringLiteralOld ['\x01'] = ['\\', 'u', '{', '1', '}'] ∧ decode16 (formatStringLiteralOld ['\x01']) = none := by
  decide +kernel

/-- witness 2: NUL followed by "12" was spelled `\012`, which a C++ compiler reads as ONE character, LF -/
theorem literal_nul_digit_witness :
    formatStringLiteralOld ['\x00', '1', '2'] = ['\\', '0', '1', '2'] ∧
    decode16 (formatStringLiteralOld ['\x00', '1', '2']) = some [10] ∧ units16 ['\x00', '1', '2'] = [0, 49, 50] := by
  decide +kernel

theorem literal_roundtrip_old_refuted : ¬ ∀ s : Str, decode16 (formatStringLiteralOld s) = some (units16 s) := by
  intro h
  have h1 := h ['\x01']
  rw [literal_control_char_witness.2] at h1
  exact absurd h1 (by simp)

example : formatStringLiteral ['\x01'] = ['\\', '0', '0', '1'] ∧
    formatStringLiteral ['\x00', '1', '2'] = ['\\', '0', '0', '0', '1', '2'] := by decide +kernel

def elemOfOld (c : Char) : Elem :=
  if c = '\x00' ∨ c = '\t' ∨ c = '\r' ∨ c = '\n' ∨ c = '\\' ∨ c = '"' then .unit c.toNat else .cp c.toNat

def headNotOctal : Str → Bool
  | [] => true
  | d :: _ => (octVal d).isNone

/-- the strings on which the round trip holds: no character that `{:?}` prints as `\u{…}`, and no NUL directly
    followed by an octal digit -/
def goodStr (uni : Char → Bool) : Str → Bool
  | [] => true
  | c :: rest => !uni c && (c != '\x00' || headNotOctal rest) && goodStr uni rest

/-- an octal escape ends where no octal digit follows -/
theorem octal_flush (v n : Nat) : ∀ (R : Str), headNotOctal R = true →
    elements (.octal v n) R = (elements .normal R).map (Elem.unit v :: ·) := by
  intro R h
  cases R with
  | nil => simp [elements]
  | cons c rest =>
    simp only [headNotOctal, Option.isNone_iff_eq_none] at h
    simp only [elements, h]
    by_cases hb : c = '\\'
    · simp [hb]
    · simp [hb]

theorem ite_both {α} {P : α → Prop} {c : Prop} [Decidable c] {a b : α} (ha : P a) (hb : P b) :
    P (if c then a else b) := by
  split <;> assumption

/-- the seven escape sequences of `{:?}` start with a backslash -/
theorem escapeDebugChar_head (uni : Char → Bool) (d : Char) :
    escapeDebugChar uni d = [d] ∨ ∃ tl, escapeDebugChar uni d = '\\' :: tl := by
  unfold escapeDebugChar
  iterate 7 refine ite_both (P := fun s => s = [d] ∨ ∃ tl, s = '\\' :: tl) (.inr ⟨_, rfl⟩) ?_
  exact .inl rfl

theorem headNotOctal_fmt (uni : Char → Bool) : ∀ s : Str, headNotOctal s = true →
    headNotOctal (formatStringLiteralWith uni s) = true
  | [], _ => rfl
  | d :: tl, hd => by
    show headNotOctal (escapeDebugChar uni d ++ formatStringLiteralWith uni tl) = true
    rcases escapeDebugChar_head uni d with h | ⟨_, h⟩ <;> rw [h]
    · exact hd
    · rfl

theorem elements_escapeDebugChar (uni : Char → Bool) (c : Char) (R : Str) (hu : uni c = false) :
    elements .normal (escapeDebugChar uni c ++ R) =
      if c = '\x00' then elements (.octal 0 1) R else (elements .normal R).map (elemOfOld c :: ·) := by
  by_cases hs : c = '\x00' ∨ c = '"' ∨ c = '\\' ∨ c = '\n' ∨ c = '\r' ∨ c = '\t'
  · rcases hs with rfl | rfl | rfl | rfl | rfl | rfl <;> rfl
  · simp only [not_or] at hs
    simp [escapeDebugChar, elemOfOld, hs, hu, elements, plain]

theorem elements_fmtOld (uni : Char → Bool) : ∀ (s : Str), goodStr uni s = true →
    elements .normal (formatStringLiteralWith uni s) = some (s.map elemOfOld) := by
  intro s
  induction s with
  | nil => intro _; simp [formatStringLiteralWith, elements]
  | cons c rest ih =>
    intro hg
    simp only [goodStr, Bool.and_eq_true, Bool.not_eq_true', Bool.or_eq_true, bne_iff_ne, ne_eq] at hg
    obtain ⟨⟨hu, hn⟩, hr⟩ := hg
    have ihr := ih hr
    show elements .normal (escapeDebugChar uni c ++ formatStringLiteralWith uni rest) = _
    rw [elements_escapeDebugChar uni c _ hu]
    by_cases h0 : c = '\x00'
    · rw [if_pos h0, octal_flush 0 1 _ (headNotOctal_fmt uni rest (hn.resolve_left fun h => h h0)), ihr]
      simp [elemOfOld, h0]
    · simp only [h0, if_false]
      rw [ihr]
      simp

theorem elemOfOld_cases (c : Char) : elemOfOld c = .cp c.toNat ∨ elemOfOld c = .unit c.toNat ∧ c.toNat < 128 := by
  unfold elemOfOld
  split
  · rename_i h
    refine .inr ⟨rfl, ?_⟩
    rcases h with rfl | rfl | rfl | rfl | rfl | rfl
    all_goals decide
  · exact .inl rfl

/-- the former printer was right on strings without `\u{…}`-escaped characters and without NUL before an octal digit
    (for any Unicode table) -/
theorem literal_roundtrip_old_partial (uni : Char → Bool) (s : Str) (h : goodStr uni s = true) :
    decode16 (formatStringLiteralWith uni s) = some (units16 s) := by
  unfold decode16
  rw [elements_fmtOld uni s h]
  exact encode_map utf16_ascii elemOfOld_cases s

example : goodStr QV.Model.RustDebugTable.needsUnicodeEscape ['\x00', '7'] = false := by decide +kernel

end QV.Props.C16
