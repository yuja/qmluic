/-
  C12 — Layout items land in the documented cells; per-row/column settings follow.

  Model : QV.Model.Layout (mirrors lib/src/uigen/layout.rs: LayoutIndexCounter, maybe_parse_layout_index,
          maybe_insert_into_opt_i32_array, process_{grid,form,vbox,hbox}_layout_children)
  Spec  : QV.Spec.Layout  (place / advance / cells on ℕ; "first value given for an index is recorded")
  Tie   : harness stream `c12` — generated grids/forms/boxes through the real pipeline; the `<item>`
          attributes and the layout's array attributes of the real .ui are compared with the model
          (kind=model) and with the specification (kind=spec).

  One clause of the property is FALSE of the code (finding F9): the row minimum height is recorded at the
  child's *column*.  It is refuted below by a concrete witness; what does hold is `grid_cells_and_arrays_partial`.
-/
import QV.Proofs.Layout

namespace QV.Props.C12
open QV.Model.Layout QV.Spec.Layout QV.Proofs.Layout

/-- What `Repr` means for the text written into the `.ui`: the formatted array has one slot per index up
    to the largest one set, each holding the recorded value or the default. -/
theorem format_of_repr {arr : List (Option Int)} {seen : List (Nat × Int)} (h : Repr arr seen) (d : Int) :
    formatArray arr d = array seen d := by
  obtain ⟨hlen, hget⟩ := h
  apply List.ext_getElem
  · simp [formatArray, array, hlen]
  · intro i h1 h2
    simp only [formatArray, array, List.getElem_map, List.getElem_range]
    have hi : i < arr.length := by simpa [formatArray] using h1
    have := hget i
    rw [List.getD_eq_getElem?_getD, List.getElem?_eq_getElem hi] at this
    simp at this
    rw [this]

/-- What is recorded for index `i` is the first value given for `i` (so later different values can only be
    conflicts), for any order of children. -/
theorem recorded_first (entries : List (Nat × Int)) (i : Nat) :
    recorded (absorb [] entries) i = recorded entries i := by
  simpa using recorded_absorb [] entries i

/-- **Cells and arrays of a grid layout, for every flow, wrap count and child sequence.**
    With `cs` the cells the *specification* assigns (explicit indexes honoured iff in range; `specCells` is
    `Spec.Layout.cells` on the validated indexes: `Proofs.Layout.specCells_eq_cells`):
    * child `k` is emitted at `cs[k]`, its spans copied;
    * `columnstretch`, `columnminimumwidth` record, per column index, the first value given by a child in
      that column; `rowstretch` per row index likewise;
    * `rowminimumheight` is recorded per **column** index (F9) — see `row_min_height_at_row_refuted`. -/
theorem grid_cells_and_arrays_partial (ltr : Bool) (n : Nat) (hn : 0 < n) (children : List Attached) :
    let res := processGrid (flowOf ltr n) children
    let cs := specCells ltr n (0, 0) (children.map fun a => (a.row, a.column))
    res.2.1 = List.zipWith (fun (p : Nat × Nat) a => Item.ofAttached (some (p.1 : Int)) (some (p.2 : Int)) a) cs children
    ∧ Repr res.1.columnMinimumWidth (absorb [] (entriesOf (cs.map (·.2)) (children.map (·.columnMinimumWidth))))
    ∧ Repr res.1.columnStretch (absorb [] (entriesOf (cs.map (·.2)) (children.map (·.columnStretch))))
    ∧ Repr res.1.rowMinimumHeight (absorb [] (entriesOf (cs.map (·.2)) (children.map (·.rowMinimumHeight))))
    ∧ Repr res.1.rowStretch (absorb [] (entriesOf (cs.map (·.1)) (children.map (·.rowStretch))))
    ∧ res.1.stretch = [] := by
  have h0 : InFlow ltr n (0, 0) := by cases ltr <;> exact hn
  exact gridGo_spec ltr n hn children (0, 0) h0 {} [] [] [] [] repr_nil repr_nil repr_nil repr_nil

/-- The full statement the property makes about the row minimum height (recorded at the child's *row*). -/
def row_min_height_at_row_full_statement : Prop :=
  ∀ (ltr : Bool) (n : Nat), 0 < n → ∀ children : List Attached,
    let res := processGrid (flowOf ltr n) children
    let cs := specCells ltr n (0, 0) (children.map fun a => (a.row, a.column))
    Repr res.1.rowMinimumHeight (absorb [] (entriesOf (cs.map (·.1)) (children.map (·.rowMinimumHeight))))

/-- F9: refuted by one child at row 1, column 0 with `rowMinimumHeight: 20` in a 2-column grid: the code
    records `[20]` (index 0 = its column) where the property demands `[_, 20]` (index 1 = its row). -/
theorem row_min_height_at_row_refuted : ¬ row_min_height_at_row_full_statement := by
  intro h
  -- `.1`: already the lengths differ
  have := (h true 2 (by decide) [{ row := some 1, column := some 0, rowMinimumHeight := some 20 }]).1
  revert this
  decide

/-- A conflicting value is diagnosed (quoting the recorded one) and does not overwrite it. -/
theorem conflict_diagnosed {arr : List (Option Int)} {seen : List (Nat × Int)} (h : Repr arr seen)
    (j : Nat) (v v0 : Int) (hr : recorded seen j = some v0) (hne : v0 ≠ v) :
    (maybeInsert arr j (some v)).2 = [.mismatch v0] ∧ Repr (maybeInsert arr j (some v)).1 seen := by
  rw [maybeInsert_recorded h hr, if_pos hne]
  exact ⟨rfl, h⟩

/-- An equal or first value is stored silently. -/
theorem no_spurious_conflict {arr : List (Option Int)} {seen : List (Nat × Int)} (h : Repr arr seen)
    (j : Nat) (v : Int) (hr : recorded seen j = none ∨ recorded seen j = some v) :
    (maybeInsert arr j (some v)).2 = [] := by
  rcases hr with hr | hr
  · exact (maybeInsert_fresh h hr v).1
  · rw [maybeInsert_recorded h hr, if_neg (fun hne => hne rfl)]

/-- Out-of-range explicit indexes are diagnosed and ignored; in-range ones are honoured silently. -/
theorem index_checks (field : String) (v max : Int) :
    (v < 0 → parseIndex field (some v) max = (none, [.negativeIndex field])) ∧
    (0 ≤ v → v > max → parseIndex field (some v) max = (none, [.indexTooLarge field])) ∧
    (0 ≤ v → v ≤ max → parseIndex field (some v) max = (some v, [])) := by
  refine ⟨fun h => by simp [parseIndex, h], fun h1 h2 => ?_, fun h1 h2 => ?_⟩
  · have : ¬ v < 0 := by omega
    simp [parseIndex, this, h2]
  · have a : ¬ v < 0 := by omega
    have b : ¬ v > max := by omega
    simp [parseIndex, a, b]

/-- **Auto-flow**: with no explicit positions, the children after cell number `k` occupy the cells numbered
    `k, k+1, …` — `(i / n, i % n)` left-to-right, `(i % n, i / n)` top-to-bottom. -/
theorem autoflow_closed_form (ltr : Bool) (n : Nat) (hn : 0 < n) (m k : Nat) :
    specCells ltr n (if ltr then (k / n, k % n) else (k % n, k / n)) (List.replicate m (none, none))
      = (List.range' k m).map fun i => if ltr then (i / n, i % n) else (i % n, i / n) := by
  induction m generalizing k with
  | zero => rfl
  | succ m ih =>
    simp only [List.replicate_succ, specCells, List.range'_succ, List.map_cons]
    have hp : specPlace ltr n (if ltr then (k / n, k % n) else (k % n, k / n)) none none
        = (if ltr then (k / n, k % n) else (k % n, k / n)) := by
      simp [specPlace, validIndex, place]
    rw [hp, advance_div_mod ltr n k hn, ih (k + 1)]

/-- Child `k` of a grid without explicit positions is emitted at `(k / n, k % n)` (resp. `(k % n, k / n)`). -/
theorem autoflow_grid (ltr : Bool) (n : Nat) (hn : 0 < n) (children : List Attached)
    (hauto : ∀ a ∈ children, a.row = none ∧ a.column = none) :
    (processGrid (flowOf ltr n) children).2.1 =
      List.zipWith (fun (i : Nat) a =>
          let p := if ltr then (i / n, i % n) else (i % n, i / n)
          Item.ofAttached (some (p.1 : Int)) (some (p.2 : Int)) a)
        (List.range children.length) children := by
  have h := (grid_cells_and_arrays_partial ltr n hn children).1
  have hmap : (children.map fun a => (a.row, a.column)) = List.replicate children.length (none, none) :=
    List.map_eq_replicate_iff.mpr fun a ha => Prod.ext (hauto a ha).1 (hauto a ha).2
  have h00 : ((0 : Nat), (0 : Nat)) = (if ltr then (0 / n, 0 % n) else (0 % n, 0 / n)) := by
    cases ltr <;> simp
  rw [h, hmap, h00, autoflow_closed_form ltr n hn, List.range_eq_range']
  simp [List.zipWith_map_left]

/-- **Form layout**: a fixed two-column (label, field) left-to-right flow under the same placement rule. -/
theorem form_cells (children : List Attached) :
    (processForm children).2.1 =
      List.zipWith (fun (p : Nat × Nat) a => Item.ofAttached (some (p.1 : Int)) (some (p.2 : Int)) a)
        (specCells true 2 (0, 0) (children.map fun a => (a.row, a.column))) children := by
  exact formGo_spec children (0, 0) Nat.zero_lt_two

/-- **Box layouts** record the stretch of child `k` at position `k` (vbox: its rowStretch, hbox: its
    columnStretch). -/
theorem box_stretch_at_position (vertical : Bool) (children : List Attached) :
    Repr (processBox vertical children).1.stretch
      (absorb [] (entriesOf (List.range children.length)
        (children.map fun a => if vertical then a.rowStretch else a.columnStretch))) := by
  have := boxGo_spec vertical children 0 [] [] repr_nil
  simpa [processBox, List.range_eq_range'] using this

example : (processGrid (.leftToRight 2) [{}, {}, {}, { row := some 2 }, {}, { column := some 1 }]).2.1.map
    (fun it => (it.row, it.column)) =
    [(some 0, some 0), (some 0, some 1), (some 1, some 0), (some 2, some 0), (some 2, some 1), (some 3, some 1)] := by
  decide +kernel
example : (processGrid (.topToBottom 3) [{}, {}, {}, {}, { column := some 3 }, { row := some 2 }]).2.1.map
    (fun it => (it.row, it.column)) =
    [(some 0, some 0), (some 1, some 0), (some 2, some 0), (some 0, some 1), (some 0, some 3), (some 2, some 3)] := by
  decide +kernel
example : (processGrid (.leftToRight 3)
    [{ columnStretch := some 3 }, { columnStretch := some 4 }, {}, { columnStretch := some 9 }]).2.2 = [.mismatch 3] := by
  decide +kernel

end QV.Props.C12
