/-
  C20 — Preview-mode error recovery is local to the faulty object.

  Model : QV.Model.Passes (`run .omit`: what the preview runs), QV.Model.Layout for the cell cursor.
  Tie   : stream `c20` (documents with one planted fault through the real pipeline in preview mode, compared with
          the fault-free twin outside the faulted object; the counterexamples below are replayed in corpus/C20).
-/
import QV.Proofs.PassesModes
import QV.Model.Layout

namespace QV.Props.C20
open QV.Model.Passes QV.Proofs.Passes

/-- Preview always yields a form: when the root object's type resolves and no consumer panics, `omit`
    builds a form — whatever was diagnosed on the way. -/
theorem omit_yields_form (root : Obj) (ch : Forest) (hr : root.resolves = true)
    (hp : (run .omit (.cons root ch .nil)).panic = false) :
    ((run .omit (.cons root ch .nil)).form).isSome = true := by
  have hv : valid (.cons root ch .nil) = true := hr
  rw [run_valid .omit _ hv] at hp ⊢
  simp only at hp
  simp [Result.form, hp]

/-- An error does not stop the passes: every diagnostic of every phase (code map construction, constant
    pass, left-over attached check) of every placed object is in the result. -/
theorem errors_not_lost (doc : Forest) : ∀ p ∈ (run .omit doc).objects, ∀ d,
    (d ∈ codeMapDiags p.obj ∨ d ∈ p.formDiags ∨ d ∈ leftoverDiags p) → d ∈ (run .omit doc).diags :=
  fun _ hp _ hd => run_diags_mem hp hd

/-- the diagnostic of every object whose type does not resolve (`(place …).2`) is in the result as well -/
theorem unresolved_objects_reported (root : Obj) (ch : Forest) (hr : root.resolves = true) :
    ∀ d ∈ (place .root (.cons root ch .nil)).2, d ∈ (run .omit (.cons root ch .nil)).diags := by
  intro d hd
  have hv : valid (.cons root ch .nil) = true := hr
  rw [run_valid .omit _ hv]
  exact List.mem_append_left _ (by simp [commonDiags, hd])

/-- full reading: whatever generate mode reports for a document, preview (omit) mode reports as well -/
def every_error_reported_full_statement : Prop :=
  ∀ doc : Forest, ∀ d ∈ (run .generate doc).diags, d ∈ (run .omit doc).diags

/-- Every error is still reported (/repo commit c47e7fb, the repair of F21): preview mode builds the support code
    for its diagnostics and discards it, so it reports the errors of every phase — object tree, code maps, constant
    pass, left-over attached check (`errors_not_lost`) *and* the C++ pass (return type of code that is not an evaluated
    constant, missing READ / WRITE of its target, nested dynamic maps). -/
theorem every_error_reported : every_error_reported_full_statement :=
  fun doc _ hd => run_omit_diags doc ▸ hd

theorem omit_diags_eq_generate (doc : Forest) : (run .omit doc).diags = (run .generate doc).diags :=
  run_omit_diags doc

/-- `QWidget { text: srcSpin.value }`-like document: a dynamic binding whose return type does not fit the property.
    Only `UiSupportCode::build` runs `verify_code_return_type` on code that is not an evaluated constant. -/
def dynamicMismatchDoc : Forest :=
  .cons { oid := 0, isWidget := true,
          entries := [.leaf { id := 10, name := "text".toList, const := none, retTypeOk := false }] } .nil .nil

/-- preview mode of /repo before its commit c47e7fb: the support code is not built, only the diagnostics of the phases
    before the mode switch are reported -/
def runOmitOld (doc : Forest) : Result :=
  let r := run .omit doc
  if valid doc then { r with diags := commonDiags r.objects (place .root doc).2 } else r

/-- finding F21: generate mode reports the ill-typed dynamic binding, `runOmitOld` accepts the document silently,
    preview mode reports it -/
theorem runOmitOld_loses_error :
    (run .generate dynamicMismatchDoc).diags = [⟨10, .cxxRetType⟩] ∧
    (runOmitOld dynamicMismatchDoc).diags = [] ∧ (runOmitOld dynamicMismatchDoc).accepted = true ∧
    (run .omit dynamicMismatchDoc).diags = [⟨10, .cxxRetType⟩] ∧ (run .omit dynamicMismatchDoc).accepted = false := by
  decide +kernel

/- The planted faults are `editAt n …` written out, so that the statements read without it; the `editAt` lemmas apply
   because `plantX n …` and `editAt n _` unify by unfolding both: a fault must have the shape `if o.oid = n then … else o`. -/

/-- a binding rejected while the code map is built: unknown property, type error, unsupported expression -/
def plantRejectedLeaf (n : Nat) (l : Leaf) (o : Obj) : Obj :=
  if o.oid = n then { o with entries := o.entries ++ [.leaf { l with enters := false }] } else o
/-- a signal handler rejected while the code map is built -/
def plantRejectedCallback (n : Nat) (c : Callback) (o : Obj) : Obj :=
  if o.oid = n then { o with callbacks := o.callbacks ++ [{ c with enters := false }] } else o
/-- bindings to an attaching type that does not resolve -/
def plantUnknownAttached (n : Nat) (a : AttMap) (o : Obj) : Obj :=
  if o.oid = n then { o with attached := o.attached ++ [{ a with resolves := false }] } else o
/-- one more scalar binding -/
def plantLeaf (n : Nat) (l : Leaf) (o : Obj) : Obj :=
  if o.oid = n then { o with entries := o.entries ++ [.leaf l] } else o
/-- a duplicated property / callback binding: `build_binding_map` fails -/
def setMapFault (n : Nat) (o : Obj) : Obj := if o.oid = n then { o with mapFault := true } else o
def eraseProps (n : Nat) (o : Obj) : Obj := if o.oid = n then { o with entries := [], callbacks := [] } else o
/-- a duplicated attached binding: `build_attached_type_map` fails -/
def setAttFault (n : Nat) (o : Obj) : Obj := if o.oid = n then { o with attFault := true } else o
def eraseAttached (n : Nat) (o : Obj) : Obj := if o.oid = n then { o with attached := [] } else o

/-- A binding rejected at code-map construction changes nothing anywhere: it never enters the map
    (`is_action_separator` sees the same map), so the form is that of the document without it. -/
theorem fault_local_rejected_binding (n : Nat) (l : Leaf) (doc : Forest) :
    (run .omit (mapObj (plantRejectedLeaf n l) doc)).form = (run .omit doc).form :=
  form_omit_editAt n _ (fun o => view_entries o _) (fun o => codeMap_rejected_leaf o l) doc

theorem fault_local_rejected_callback (n : Nat) (c : Callback) (doc : Forest) :
    (run .omit (mapObj (plantRejectedCallback n c) doc)).form = (run .omit doc).form :=
  form_omit_editAt n _ (fun o => view_callbacks o _) (fun o => codeMap_rejected_callback o c) doc

theorem fault_local_unknown_attached (n : Nat) (a : AttMap) (doc : Forest) :
    (run .omit (mapObj (plantUnknownAttached n a) doc)).form = (run .omit doc).form :=
  form_omit_editAt n _ (fun o => view_attached o _) (fun o => codeMap_unknown_attached o a) doc

/-- a rejected binding is reported, for every placed object it was planted in (unless that object's whole map was
    dropped for a duplicate, which is reported instead) -/
theorem rejected_binding_reported (n : Nat) (l : Leaf) (doc : Forest) :
    ∀ p ∈ (run .omit (mapObj (plantRejectedLeaf n l) doc)).objects, p.obj.oid = n → p.obj.mapFault = false →
      ⟨l.id, .build⟩ ∈ (run .omit (mapObj (plantRejectedLeaf n l) doc)).diags :=
  edit_diag_reported n _ ⟨l.id, .build⟩ (fun o => o.mapFault = false) doc
    (fun o hm => diags_rejected_leaf o l hm)

theorem rejected_callback_reported (n : Nat) (c : Callback) (doc : Forest) :
    ∀ p ∈ (run .omit (mapObj (plantRejectedCallback n c) doc)).objects, p.obj.oid = n → p.obj.mapFault = false →
      ⟨c.id, .build⟩ ∈ (run .omit (mapObj (plantRejectedCallback n c) doc)).diags :=
  edit_diag_reported n _ ⟨c.id, .build⟩ (fun o => o.mapFault = false) doc
    (fun o hm => diags_rejected_callback o c hm)

theorem unknown_attached_reported (n : Nat) (a : AttMap) (doc : Forest) :
    ∀ p ∈ (run .omit (mapObj (plantUnknownAttached n a) doc)).objects, p.obj.oid = n → p.obj.attFault = false →
      ⟨a.tid, .attachedType⟩ ∈ (run .omit (mapObj (plantUnknownAttached n a) doc)).diags :=
  edit_diag_reported n _ ⟨a.tid, .attachedType⟩ (fun o => o.attFault = false) doc
    (fun o hm => diags_unknown_attached o a hm)

/-- A constant whose typed conversion fails (`enabled: "yes"`) enters the map, is diagnosed and embeds nothing.
    Outside actions the form is that of the document without it. -/
theorem fault_local_failing_constant_partial (n : Nat) (l : Leaf) (he : l.enters = true)
    (hf : l.const = some .fail) (doc : Forest) (ha : ∀ o ∈ objs doc, o.oid = n → o.isAction = false) :
    (run .omit (mapObj (plantLeaf n l) doc)).form = (run .omit doc).form :=
  form_omit_plant_fail n l he hf doc ha

/-- the same without the restriction to non-actions -/
def fault_local_full_statement : Prop :=
  ∀ (n : Nat) (l : Leaf) (doc : Forest), l.enters = true → l.const = some .fail →
    (run .omit (mapObj (plantLeaf n l) doc)).form = (run .omit doc).form

/-- `Action { separator: true }` is a separator only while `separator` is the action's *sole* binding: a second
    binding — even one that fails to convert — makes `is_action_separator` false, and `separator` (excluded from the
    ordinary properties) is then consumed by nobody -/
private def sepDoc : Forest :=
  .cons { oid := 0, isWidget := true }
    (.cons { oid := 1, isAction := true
             entries := [.leaf { id := 10, name := "separator".toList, const := some (.ok 1) }] } .nil .nil) .nil

private def failingText : Leaf := { id := 11, name := "text".toList, const := some .fail }

/-- The unrestricted statement is false (finding F20): a failing constant planted in a separator action changes
    the fate of the action's *other* binding (`separator`: embedded → dropped): the static separator becomes an action. -/
theorem fault_local_full_refuted : ¬ fault_local_full_statement := by
  intro h
  have := h 1 failingText sepDoc rfl rfl
  revert this
  decide +kernel

/-- A duplicated binding costs the object its own property values, nothing else: the form is that of the
    document in which the object has no properties and no callbacks. -/
theorem fault_local_duplicate_binding (n : Nat) (doc : Forest) :
    (run .omit (mapObj (setMapFault n) doc)).form = (run .omit (mapObj (eraseProps n) doc)).form :=
  form_omit_editAt₂ n _ _ view_mapFault_erase codeMap_mapFault_erase doc

/-- likewise for a duplicated attached binding, at the level of binding fates (for the cells see
    `duplicate_attached_shifts_sibling_witness`) -/
theorem fault_local_duplicate_attached (n : Nat) (doc : Forest) :
    (run .omit (mapObj (setAttFault n) doc)).form = (run .omit (mapObj (eraseAttached n) doc)).form :=
  form_omit_editAt₂ n _ _ view_attFault_erase codeMap_attFault_erase doc

/-- An object whose type does not resolve disappears with exactly its subtree. -/
theorem fault_local_unknown_type (root : Obj) (ch : Forest) (hr : root.resolves = true) :
    (run .omit (.cons root ch .nil)).form = (run .omit (prune (.cons root ch .nil))).form ∧
      (run .omit (.cons root ch .nil)).objects = (run .omit (prune (.cons root ch .nil))).objects := by
  have hp : prune (.cons root ch .nil) = .cons root (prune ch) .nil := by simp [prune, hr]
  have hv2 : valid (prune (.cons root ch .nil)) = true := by rw [hp]; exact hr
  rw [run_valid .omit _ (show valid (.cons root ch .nil) = true from hr), run_valid .omit _ hv2]
  simp only [Result.form, place_prune (.cons root ch .nil) .root, and_self]

open QV.Model.Layout in
/-- Cells are computed from the attached values by a cursor that runs over the siblings.  Losing child `a`'s
    whole attached map — what a duplicated `QLayout.row` does (`setAttFault`) — moves the *sibling* `b` from cell
    (3,1) to (0,1).  This refutes the strict reading "identical outside the faulted object" for the
    duplicate-attached fault (finding F19); the real-code replay is in corpus/C20. -/
theorem duplicate_attached_shifts_sibling_witness :
    let a3 : Attached := { row := some 3 }
    let a0 : Attached := {}
    let b : Attached := {}
    ((processGrid (.leftToRight 2) [a3, b]).2.1.map fun i => (i.row, i.column)) =
        [(some 3, some 0), (some 3, some 1)] ∧
      ((processGrid (.leftToRight 2) [a0, b]).2.1.map fun i => (i.row, i.column)) =
        [(some 0, some 0), (some 0, some 1)] ∧
      ((processGrid (.leftToRight 2) [a3, b]).2.1.map fun i => (i.row, i.column))[1]? ≠
        ((processGrid (.leftToRight 2) [a0, b]).2.1.map fun i => (i.row, i.column))[1]? := by
  decide +kernel

private def w (n : Nat) (es : List Entry) (ch rest : Forest) : Forest :=
  .cons { oid := n, isWidget := true, entries := es } ch rest

private def base : Forest :=
  w 0 [] (w 1 [.leaf { id := 10, name := "text".toList, const := some (.ok 7) }]
            .nil (w 2 [.leaf { id := 20, name := "enabled".toList, const := some (.ok 1) }] .nil .nil)) .nil

/-- a rejected binding: reported, form unchanged and present -/
example : (run .omit (mapObj (plantRejectedLeaf 1 { id := 11, name := "bogus".toList }) base)).diags
      = [⟨11, .build⟩] ∧
    (run .omit (mapObj (plantRejectedLeaf 1 { id := 11, name := "bogus".toList }) base)).form =
      some [(0, .widget, []), (1, .widget, [(10, 7)]), (2, .widget, [(20, 1)])] := by
  decide +kernel

/-- a failing constant in a widget: reported by the constant pass, the sibling binding and object keep their values -/
example : (run .omit (mapObj (plantLeaf 1 failingText) base)).diags = [⟨11, .convert⟩] ∧
    (run .omit (mapObj (plantLeaf 1 failingText) base)).form = (run .omit base).form := by
  decide +kernel

/-- the separator counterexample, spelled out -/
example : (run .omit sepDoc).form = some [(0, .widget, []), (1, .action, [(10, 1)])] ∧
    (run .omit (mapObj (plantLeaf 1 failingText) sepDoc)).form = some [(0, .widget, []), (1, .action, [])] := by
  and_intros <;> decide +kernel

/-- a duplicated binding in object 1: one diagnostic, object 1 loses its values, object 2 keeps them -/
example : (run .omit (mapObj (setMapFault 1) base)).diags = [⟨1, .mapFault⟩] ∧
    (run .omit (mapObj (setMapFault 1) base)).form =
      some [(0, .widget, []), (1, .widget, []), (2, .widget, [(20, 1)])] := by
  decide +kernel

/-- an unknown type: the object vanishes with its subtree, one diagnostic, the sibling stays -/
example :
    (run .omit (w 0 [] (.cons { oid := 1, resolves := false } (w 3 [] .nil .nil)
      (w 2 [.leaf { id := 20, name := "enabled".toList, const := some (.ok 1) }] .nil .nil)) .nil)).diags
      = [⟨1, .objectType⟩] ∧
    (run .omit (w 0 [] (.cons { oid := 1, resolves := false } (w 3 [] .nil .nil)
      (w 2 [.leaf { id := 20, name := "enabled".toList, const := some (.ok 1) }] .nil .nil)) .nil)).form
      = some [(0, .widget, []), (2, .widget, [(20, 1)])] := by
  decide +kernel

end QV.Props.C20
