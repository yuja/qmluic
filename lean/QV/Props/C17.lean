/-
  C17 — Type lookups agree with the class graph and always terminate.

  Model : QV.Model.ClassGraph (lib/src/typemap; its head names the functions mirrored) is the code BEFORE the
          repair of F10 (/repo 8d2984c); its walk and method table are unchanged.  /repo today is
          QV.Model.ClassGraph.Repaired (section "since the repair of F10") with the member types of
          QV.Model.ClassGraph.Typed (section "which declaration decides").
  Spec  : QV.Spec.Graph (reflexive–transitive closure `Derives` of "public super class that denotes a class";
          `Declares…`; `Inherits`; `DanglingFrom`), on the graph reading `toGraph` of a table
  Tie   : harness stream `c17` — generated class tables (DAGs, diamonds, cycles, self-loops, unknown and
          non-class super names, private supers, duplicate names, shadowed members) loaded through the real
          `ModuleData::extend`/`TypeMap`, every query kind for every class (pair) through the public API;
          compared with the model (kind=model, exact answers incl. BFS-order dependent owners and errors) and
          with the specification (kind=spec).
  Members with types are stated against `Decides` of QV.Spec.GraphMembers; which type names resolve (`typeResolves` there,
  `resolveTypeExpr` in the model) is compared by the stream only.

  For every table: all queries terminate; a positive "derives from", a member that is found, a common base
  and an enum found by variant are always *right* (sound).  For tables in which no unresolved super-class
  reference is reachable from the queried class the answers are also *complete* — the full property.
  With a reachable unresolved reference the code before the repair gave up (finding F10): the complete statements
  are stated as `…_full_statement`, refuted for that code by kernel-checked witnesses, and what each outcome then
  means is stated in `…_with_dangling`; for the repaired code they hold on every table (`…_repaired`).
-/
import QV.Proofs.ClassGraph
import QV.Proofs.ClassGraphRepaired
import QV.Proofs.ClassGraphBefore
import QV.Proofs.ClassGraphTyped

namespace QV.Props.C17
open QV.Model.ClassGraph QV.Spec.Graph QV.Proofs.ClassGraph

/-- **Every walk terminates**, from every iterator state and on every table (cycles, self-loops, dangling
    names included): the loop of `BaseClasses::next`, written as a relation without fuel, has a result, it
    is unique, and it is what the model computes. -/
theorem base_classes_terminates (t : Table) (pending : List (List Name)) (visited : List Name) :
    ∃ items, Run t pending visited items ∧ (∀ items', Run t pending visited items' → items' = items) ∧
      ∀ fuel, bfsFuel t pending visited ≤ fuel → bfsAux t fuel pending visited = items :=
  ⟨_, bfsAux_run t _ pending visited (Nat.le_refl _),
    fun _ h => Run.functional h (bfsAux_run t _ pending visited (Nat.le_refl _)),
    fun fuel h => bfsAux_fuel_irrelevant t fuel pending visited h⟩

/-- **What the walk enumerates (all tables)**: exactly the classes reached from a public super class that resolves
    (on a cycle that includes the class itself); each once: `base_classes_each_once`. -/
theorem base_classes_spec {t : Table} {c : Name} {self : ClassDecl} (hc : lookupClass t.classes c = some self)
    (b : ClassDecl) :
    .ok b ∈ baseClasses t self ↔
      lookupClass t.classes b.name = some b ∧ ∃ s, Edge (toGraph t) c s ∧ Derives (toGraph t) s b.name := by
  rw [baseClasses_ok_iff]
  constructor
  · rintro ⟨n, hn, c', hc', hr⟩
    exact ⟨reach_handle hr hc', n,
      ⟨nodeOf self, classOf_of_lookup hc, hn, isClass_iff.mpr ⟨c', hc'⟩⟩, reach_derives hc' hr⟩
  · rintro ⟨hb, s, ⟨d, hd, hs, hcs⟩, hder⟩
    rw [classOf_of_lookup hc] at hd
    cases hd
    obtain ⟨c', hc'⟩ := isClass_iff.mp hcs
    exact ⟨s, hs, c', hc', (derives_iff_reach_of_lookup hc' hb).mp hder⟩

theorem base_classes_each_once (t : Table) (self : ClassDecl) :
    ((baseClasses t self).filterMap fun | .ok c => some c.name | .err _ => none).Nodup :=
  (run_ok_fresh (baseClasses_run t self)).2

/-- the walk yields an error iff the class or an ancestor lists a public super class that does not resolve -/
theorem base_classes_errors {t : Table} {c : Name} {self : ClassDecl} (hc : lookupClass t.classes c = some self) :
    (∃ e, .err e ∈ baseClasses t self) ↔ DanglingFrom (toGraph t) c := by
  rw [dangling_iff_not_clean hc]
  exact Classical.not_forall_not.symm

/-- all tables: a positive answer is reflexive–transitive public inheritance -/
theorem derives_sound {t : Table} {a b : Name} {x y : ClassDecl}
    (ha : lookupClass t.classes a = some x) (hb : lookupClass t.classes b = some y)
    (h : isDerivedFrom t x y = true) : Derives (toGraph t) a b :=
  (derives_iff_reach_of_lookup ha hb).mpr (isDerivedFrom_sound (lookupClass_self ha) (lookupClass_self hb) h)

/-- **'derives from' holds exactly for reflexive–transitive public inheritance** — whenever no unresolved
    super-class reference is reachable from the class (in particular for every table without dangling
    references, with or without cycles). -/
theorem derives_iff_reachable {t : Table} {a b : Name} {x y : ClassDecl}
    (ha : lookupClass t.classes a = some x) (hb : lookupClass t.classes b = some y)
    (hnd : ¬ DanglingFrom (toGraph t) a) :
    isDerivedFrom t x y = true ↔ Derives (toGraph t) a b :=
  ⟨derives_sound ha hb, fun h =>
    isDerivedFrom_complete ((clean_iff_not_dangling ha).mpr hnd) ((derives_iff_reach_of_lookup ha hb).mp h)⟩

/-- all tables: what a negative answer means -/
theorem derives_with_dangling {t : Table} {a b : Name} {x y : ClassDecl}
    (ha : lookupClass t.classes a = some x) (hb : lookupClass t.classes b = some y)
    (h : isDerivedFrom t x y = false) : ¬ Derives (toGraph t) a b ∨ DanglingFrom (toGraph t) a := by
  rw [derives_iff_reach_of_lookup ha hb, dangling_iff_not_clean ha]
  exact isDerivedFrom_false h

/-- the property's clause for all tables, dangling references included -/
def derives_iff_reachable_full_statement : Prop :=
  ∀ (t : Table) (a b : Name) (x y : ClassDecl), lookupClass t.classes a = some x → lookupClass t.classes b = some y →
    (isDerivedFrom t x y = true ↔ Derives (toGraph t) a b)

def baseF10 : ClassDecl := { name := "Base", props := ["p"] }
def cF10 : ClassDecl := { name := "C", supers := [("Dangling", true), ("Base", true)] }
/-- F10: class `C : Dangling, Base` where `Dangling` is not loaded and `Base` declares `p` -/
def tableF10 : Table := { classes := [baseF10, cF10] }

private theorem f10_derives : Derives (toGraph tableF10) "C" "Base" :=
  .step ⟨nodeOf cF10, rfl, by decide, ⟨nodeOf baseF10, rfl⟩⟩ (.refl _)

/-- F10 (the code before the repair): `C` publicly inherits `Base`, yet `C.is_derived_from(Base)` is false because the
    unresolved `Dangling` is met first. -/
theorem derives_iff_reachable_refuted : ¬ derives_iff_reachable_full_statement := by
  intro h
  have h1 := (h tableF10 "C" "Base" cF10 baseF10 (by decide) (by decide)).mpr f10_derives
  revert h1
  decide +kernel

/-- Everything the property says about one member lookup `res` made on class `c` (handle `cls`), where `Q a`
    says that class `a` declares the member and `owner` extracts the class the answer belongs to. -/
structure LookupSpec {α : Type} (t : Table) (c : Name) (cls : ClassDecl) (res : Lookup α)
    (owner : α → ClassDecl) (Q : String → Prop) : Prop where
  /-- all tables: what is found is declared by the class or a public ancestor -/
  found_sound : ∀ x, res = .found x → Derives (toGraph t) c (owner x).name ∧ Q (owner x).name
  /-- all tables: "not found" means nobody declares it (and nothing was unresolved) -/
  notFound_sound : res = .notFound → ¬ Inherits (toGraph t) Q c ∧ ¬ DanglingFrom (toGraph t) c
  /-- all tables: an error means an unresolved reference is reachable -/
  error_dangling : ∀ e, res = .error e → DanglingFrom (toGraph t) c
  /-- no reachable unresolved reference: found exactly when declared by the class or a public ancestor -/
  found_iff : ¬ DanglingFrom (toGraph t) c → ((∃ x, res = .found x) ↔ Inherits (toGraph t) Q c)
  /-- … with the class's own declaration taking precedence -/
  own_first : ¬ DanglingFrom (toGraph t) c → Q c → ∃ x, res = .found x ∧ owner x = cls

theorem member_lookup_spec {α : Type} {t : Table} {f : ClassDecl → Lookup α} {P : ClassDecl → Prop}
    {owner : α → ClassDecl} (m : MemberLookup t f P owner) (Q : String → Prop)
    (hPQ : ∀ d, lookupClass t.classes d.name = some d → (P d ↔ Q d.name))
    {c : Name} {self : ClassDecl} (hc : lookupClass t.classes c = some self) :
    LookupSpec t c self (findMapSelfAndBaseClasses t self f) owner Q := by
  have hinh := inherits_iff_reach hPQ hc
  have hcl := clean_iff_not_dangling hc
  refine ⟨fun x h => ?found_sound, fun h => ⟨fun hi => ?notFound_sound, hcl.mp (m.none h).1⟩,
    fun e h => (dangling_iff_not_clean hc).mpr (m.err h),
    fun hnd => ⟨fun ⟨x, h⟩ => hinh.mpr ⟨_, m.sound h⟩, fun hi => ?found_iff⟩, fun hnd hq => ?own_first⟩
  case found_sound =>
    obtain ⟨hr, hp⟩ := m.sound h
    exact ⟨reach_derives hc hr, (hPQ _ (reach_handle hr hc)).mp hp⟩
  case notFound_sound =>
    obtain ⟨d, hr, hp⟩ := hinh.mp hi
    exact (m.none h).2 d hr hp
  case found_iff =>
    obtain ⟨d, hr, hp⟩ := hinh.mp hi
    exact m.complete (hcl.mpr hnd) hr hp
  case own_first =>
    refine m.own_first (hcl.mpr hnd) ((hPQ self (lookupClass_self hc)).mpr ?_)
    rwa [lookupClass_name hc]

theorem property_lookup_spec {t : Table} {c : Name} {self : ClassDecl} (hc : lookupClass t.classes c = some self)
    (p : Name) :
    LookupSpec t c self (getProperty t self p) id (fun a => DeclaresProp (toGraph t) a p) :=
  member_lookup_spec (getProperty_member t p) (fun a => DeclaresProp (toGraph t) a p) (declaresProp_iff p) hc

/-- **A property is found exactly when the class or one of its public ancestors declares it** (no reachable
    unresolved reference). -/
theorem lookup_iff_declared {t : Table} {c : Name} {self : ClassDecl} (hc : lookupClass t.classes c = some self)
    (hnd : ¬ DanglingFrom (toGraph t) c) (p : Name) :
    (∃ o, getProperty t self p = .found o) ↔ Inherits (toGraph t) (fun a => DeclaresProp (toGraph t) a p) c :=
  (property_lookup_spec hc p).found_iff hnd

/-- **… with the class's own declaration taking precedence.** -/
theorem lookup_own_first {t : Table} {c : Name} {self : ClassDecl} (hc : lookupClass t.classes c = some self)
    (hnd : ¬ DanglingFrom (toGraph t) c) (p : Name) (hp : DeclaresProp (toGraph t) c p) :
    getProperty t self p = .found self := by
  obtain ⟨x, hx, ho⟩ := (property_lookup_spec hc p).own_first hnd hp
  rw [hx]; exact congrArg _ ho

/-- **All tables (dangling references included)**: what each of the three possible outcomes implies. -/
theorem lookup_with_dangling {t : Table} {c : Name} {self : ClassDecl} (hc : lookupClass t.classes c = some self)
    (p : Name) :
    (∀ o, getProperty t self p = .found o →
        Derives (toGraph t) c o.name ∧ DeclaresProp (toGraph t) o.name p) ∧
    (getProperty t self p = .notFound →
        ¬ Inherits (toGraph t) (fun a => DeclaresProp (toGraph t) a p) c ∧ ¬ DanglingFrom (toGraph t) c) ∧
    (∀ e, getProperty t self p = .error e → DanglingFrom (toGraph t) c) :=
  let h := property_lookup_spec hc p
  ⟨h.found_sound, h.notFound_sound, h.error_dangling⟩

def lookup_iff_declared_full_statement : Prop :=
  ∀ (t : Table) (c p : Name) (self : ClassDecl), lookupClass t.classes c = some self →
    ((∃ o, getProperty t self p = .found o) ↔ Inherits (toGraph t) (fun a => DeclaresProp (toGraph t) a p) c)

/-- F10 (the code before the repair): `Base` declares `p` and `C` publicly inherits `Base`, yet `C.get_property("p")` is
    `Err(InvalidTypeRef("Dangling"))`. -/
theorem lookup_iff_declared_refuted : ¬ lookup_iff_declared_full_statement := by
  intro h
  have hi : Inherits (toGraph tableF10) (fun a => DeclaresProp (toGraph tableF10) a "p") "C" :=
    ⟨"Base", f10_derives, nodeOf baseF10, rfl, by decide⟩
  obtain ⟨o, ho⟩ := (h tableF10 "C" "p" cF10 (by decide)).mpr hi
  have : getProperty tableF10 cF10 "p" = .error (.invalidTypeRef "Dangling") := by decide +kernel
  rw [this] at ho; cases ho

def own_declaration_first_full_statement : Prop :=
  ∀ (t : Table) (c p : Name) (self : ClassDecl), lookupClass t.classes c = some self →
    DeclaresProp (toGraph t) c p → getProperty t self p = .found self

def ownF10 : ClassDecl := { name := "C", supers := [("Dangling", true)], props := ["p"] }

/-- F10 (the code before the repair), second face: a class that declares `p` itself but lists an unresolved super class
    does not find its own property (`Property::new` resolves the type `int` through the class scope, which walks the bases). -/
theorem own_declaration_first_refuted : ¬ own_declaration_first_full_statement := by
  intro h
  have := h { classes := [ownF10] } "C" "p" ownF10 (by decide) ⟨nodeOf ownF10, rfl, by decide⟩
  revert this
  decide +kernel

/-- the same supers in the other order: both queries succeed — the outcome depends on the order in which
    the super classes are listed -/
example :
    let c : ClassDecl := { name := "C", supers := [("Base", true), ("Dangling", true)] }
    let t : Table := { classes := [baseF10, c] }
    isDerivedFrom t c baseF10 = true ∧ getProperty t c "p" = .found baseF10 := by decide +kernel

theorem method_lookup_spec {t : Table} {c : Name} {self : ClassDecl} (hc : lookupClass t.classes c = some self)
    (m : Name) :
    LookupSpec t c self (getPublicMethod t self m) (·.1) (fun a => DeclaresMethod (toGraph t) a m) :=
  member_lookup_spec (getPublicMethod_member t m) (fun a => DeclaresMethod (toGraph t) a m) (declaresMethod_iff m) hc

theorem method_iff_declared {t : Table} {c : Name} {self : ClassDecl} (hc : lookupClass t.classes c = some self)
    (hnd : ¬ DanglingFrom (toGraph t) c) (m : Name) :
    (∃ r, getPublicMethod t self m = .found r) ↔ Inherits (toGraph t) (fun a => DeclaresMethod (toGraph t) a m) c :=
  (method_lookup_spec hc m).found_iff hnd

/-- **Method table**: what is found is the owner's public methods of that name — all of them, in declaration
    order (signals, slots, methods) — i.e. the binary search on the sorted table loses and adds nothing. -/
theorem method_table_lookup {t : Table} {self : ClassDecl} {m : Name} {r : ClassDecl × List MethodData}
    (h : getPublicMethod t self m = .found r) :
    r.2 = (publicMethods r.1).filter (fun x => x.name = m) ∧ r.2 ≠ [] := by
  obtain ⟨hs, hne⟩ := getPublicMethod_found_slice h
  rw [hs, ← methodSlice_methodTable]
  exact ⟨rfl, hne⟩

theorem nested_enum_lookup_spec {t : Table} {c : Name} {self : ClassDecl}
    (hc : lookupClass t.classes c = some self) (n : Name) :
    LookupSpec t c self (getType t self n) (·.1) (fun a => DeclaresEnum (toGraph t) a n) :=
  member_lookup_spec (getType_member t n) (fun a => DeclaresEnum (toGraph t) a n) (declaresEnum_iff n) hc

theorem variant_lookup_spec {t : Table} {c : Name} {self : ClassDecl}
    (hc : lookupClass t.classes c = some self) (v : Name) :
    LookupSpec t c self (getEnumByVariant t self v) (·.1) (fun a => ListsVariant (toGraph t) a v) :=
  member_lookup_spec (getEnumByVariant_member t v) (fun a => ListsVariant (toGraph t) a v) (listsVariant_iff v) hc

/-- **An enum variant resolves to the enum that lists it** (all tables): the enum returned is an unscoped
    nested enum of the class or of a public ancestor, and it lists the variant. -/
theorem variant_resolves_to_listing_enum {t : Table} {c : Name} {self : ClassDecl}
    (hc : lookupClass t.classes c = some self) {v : Name} {r : ClassDecl × EnumDecl}
    (h : getEnumByVariant t self v = .found r) :
    Derives (toGraph t) c r.1.name ∧ r.2 ∈ r.1.enums ∧ r.2.isScoped = false ∧ v ∈ r.2.variants :=
  ⟨((variant_lookup_spec hc v).found_sound r h).1, getEnumByVariant_found_enum h⟩

/-- a nested enum found by name is an enum of that name of the class or of a public ancestor (all tables) -/
theorem nested_enum_resolves {t : Table} {c : Name} {self : ClassDecl}
    (hc : lookupClass t.classes c = some self) {n : Name} {r : ClassDecl × EnumDecl}
    (h : getType t self n = .found r) :
    Derives (toGraph t) c r.1.name ∧ r.2 ∈ r.1.enums ∧ r.2.name = n :=
  ⟨((nested_enum_lookup_spec hc n).found_sound r h).1, getType_found_enum h⟩

/-- **A common base of two classes is an ancestor-or-self of both** (all tables). -/
theorem common_base_is_ancestor_of_both {t : Table} {a b : Name} {x y z : ClassDecl}
    (ha : lookupClass t.classes a = some x) (hb : lookupClass t.classes b = some y)
    (h : commonBaseClass t x y = .found z) :
    Derives (toGraph t) a z.name ∧ Derives (toGraph t) b z.name :=
  (commonBaseClass_found (lookupClass_self ha) (lookupClass_self hb) h).imp (reach_derives ha) (reach_derives hb)

/-- a common base is found exactly when one exists (no reachable unresolved reference) -/
theorem common_base_exists_iff {t : Table} {a b : Name} {x y : ClassDecl}
    (ha : lookupClass t.classes a = some x) (hb : lookupClass t.classes b = some y)
    (hna : ¬ DanglingFrom (toGraph t) a) (hnb : ¬ DanglingFrom (toGraph t) b) :
    (∃ z, commonBaseClass t x y = .found z) ↔ ∃ n, Derives (toGraph t) a n ∧ Derives (toGraph t) b n := by
  rw [common_derives_iff ha hb]
  exact ⟨fun ⟨z, hz⟩ => ⟨z, commonBaseClass_found (lookupClass_self ha) (lookupClass_self hb) hz⟩,
    fun ⟨_, h1, h2⟩ => commonBaseClass_complete ((clean_iff_not_dangling ha).mpr hna) ((clean_iff_not_dangling hb).mpr hnb) h1 h2⟩

/-- all tables: "none" is right, and an error means a reachable unresolved reference -/
theorem common_base_with_dangling {t : Table} {a b : Name} {x y : ClassDecl}
    (ha : lookupClass t.classes a = some x) (hb : lookupClass t.classes b = some y) :
    (commonBaseClass t x y = .notFound → ¬ ∃ n, Derives (toGraph t) a n ∧ Derives (toGraph t) b n) ∧
    (∀ e, commonBaseClass t x y = .error e → DanglingFrom (toGraph t) a ∨ DanglingFrom (toGraph t) b) := by
  rw [common_derives_iff ha hb]
  refine ⟨fun h ⟨z, h1, h2⟩ => commonBaseClass_notFound h z h1 h2, fun e h => ?_⟩
  rw [dangling_iff_not_clean ha, dangling_iff_not_clean hb]
  exact commonBaseClass_error h

/-! ### the specification's executable oracle (what kind=spec cases are compared with) -/

theorem spec_oracle_is_reachability {g : Graph} {a : String} {s : List String} (h : ancestors? g a = some s)
    (b : String) : b ∈ s ↔ Derives g a b := ancestors?_spec h b

/-! ### non-vacuity: a diamond, a cycle, a self-loop, private supers -/

def root : ClassDecl := { name := "Root", props := ["r"], enums := [{ name := "E", variants := ["V"] }] }
def mid1 : ClassDecl := { name := "Mid1", supers := [("Root", true)], props := ["m"] }
def mid2 : ClassDecl := { name := "Mid2", supers := [("Root", true)], props := ["m"], slots := [{ name := "s" }] }
def leaf : ClassDecl := { name := "Leaf", supers := [("Mid1", true), ("Mid2", true)] }
def diamond : Table := { classes := [root, mid1, mid2, leaf] }

example : baseClasses diamond leaf = [.ok mid1, .ok mid2, .ok root] := by decide +kernel
example : isDerivedFrom diamond leaf root = true ∧ isDerivedFrom diamond root leaf = false := by decide +kernel
example : getProperty diamond leaf "r" = .found root ∧ getProperty diamond leaf "m" = .found mid1 ∧
    getProperty diamond leaf "zz" = .notFound := by decide +kernel
example : getEnumByVariant diamond leaf "V" = .found (root, { name := "E", variants := ["V"] }) := by decide +kernel
example : getPublicMethod diamond leaf "s" = .found (mid2, [{ name := "s", kind := .slot, nargs := 0 }]) := by decide +kernel
example : commonBaseClass diamond mid1 mid2 = .found root := by decide +kernel
/-- the hypothesis "no reachable unresolved reference" is satisfiable -/
example : ¬ DanglingFrom (toGraph diamond) "Leaf" := by
  have h : Clean diamond leaf := by
    intro e he
    rw [show baseClasses diamond leaf = [.ok mid1, .ok mid2, .ok root] by decide +kernel] at he
    simp at he
  exact (clean_iff_not_dangling (t := diamond) (self := leaf) (by decide)).mp h

def cycA : ClassDecl := { name := "A", supers := [("B", true)], props := ["a"] }
def cycB : ClassDecl := { name := "B", supers := [("A", true), ("B", true)], props := ["b"] }
def cycP : ClassDecl := { name := "P", supers := [("A", false)] }
def cyclic : Table := { classes := [cycA, cycB, cycP] }

example : baseClasses cyclic cycA = [.ok cycB, .ok cycA] := by decide +kernel
example : baseClasses cyclic cycB = [.ok cycA, .ok cycB] := by decide +kernel
example : isDerivedFrom cyclic cycA cycB = true ∧ isDerivedFrom cyclic cycB cycA = true := by decide +kernel
example : getProperty cyclic cycA "b" = .found cycB ∧ getProperty cyclic cycA "zz" = .notFound := by decide +kernel
/-- private inheritance is not inheritance -/
example : baseClasses cyclic cycP = [] ∧ isDerivedFrom cyclic cycP cycA = false := by decide +kernel

/-! ### since the repair of F10 (/repo 8d2984c)

  For QV.Model.ClassGraph.Repaired the completeness clauses hold on **every** table — the `…_full_statement`s above, with
  its functions in place of those of QV.Model.ClassGraph. -/
section repaired
open QV.Proofs.ClassGraph.Repaired

/-- `derives_iff_reachable_full_statement` for the repaired code -/
theorem derives_iff_reachable_repaired {t : Table} {a b : Name} {x y : ClassDecl}
    (ha : lookupClass t.classes a = some x) (hb : lookupClass t.classes b = some y) :
    Repaired.isDerivedFrom t x y = true ↔ Derives (toGraph t) a b := by
  rw [isDerivedFrom_iff (lookupClass_self ha) (lookupClass_self hb), derives_iff_reach_of_lookup ha hb]

/-- what the property says about a member lookup, without any side condition -/
structure LookupSpecAll {α : Type} (t : Table) (c : Name) (cls : ClassDecl) (res : Lookup α)
    (owner : α → ClassDecl) (Q : String → Prop) : Prop where
  found_sound : ∀ x, res = .found x → Derives (toGraph t) c (owner x).name ∧ Q (owner x).name
  found_iff : (∃ x, res = .found x) ↔ Inherits (toGraph t) Q c
  own_first : Q c → ∃ x, res = .found x ∧ owner x = cls

theorem member_lookup_repaired {α : Type} {t : Table} {f : ClassDecl → Lookup α} {P : ClassDecl → Prop}
    {owner : α → ClassDecl} (m : TotalMemberLookup f P owner) (Q : String → Prop)
    (hPQ : ∀ d, lookupClass t.classes d.name = some d → (P d ↔ Q d.name))
    {c : Name} {self : ClassDecl} (hc : lookupClass t.classes c = some self) :
    LookupSpecAll t c self (Repaired.findMapSelfAndBaseClasses t self f) owner Q := by
  have hinh := inherits_iff_reach hPQ hc
  refine ⟨fun x h => ?_, ⟨fun ⟨x, h⟩ => hinh.mpr ⟨_, m.sound h⟩, fun hi => ?_⟩, fun hq => ?_⟩
  · obtain ⟨hr, hp⟩ := m.sound h
    exact ⟨reach_derives hc hr, (hPQ _ (reach_handle hr hc)).mp hp⟩
  · obtain ⟨d, hr, hp⟩ := hinh.mp hi
    exact m.complete hr hp
  · refine m.own_first ((hPQ self (lookupClass_self hc)).mpr ?_)
    rwa [lookupClass_name hc]

/-- `lookup_iff_declared_full_statement` and `own_declaration_first_full_statement` for the repaired code -/
theorem property_lookup_repaired {t : Table} {c : Name} {self : ClassDecl}
    (hc : lookupClass t.classes c = some self) (p : Name) :
    LookupSpecAll t c self (Repaired.getProperty t self p) id (fun a => DeclaresProp (toGraph t) a p) :=
  member_lookup_repaired (getProperty_total t p) _ (declaresProp_iff p) hc

theorem method_lookup_repaired {t : Table} {c : Name} {self : ClassDecl}
    (hc : lookupClass t.classes c = some self) (m : Name) :
    LookupSpecAll t c self (Repaired.getPublicMethod t self m) (·.1) (fun a => DeclaresMethod (toGraph t) a m) :=
  member_lookup_repaired (getPublicMethod_total t m) _ (declaresMethod_iff m) hc

theorem variant_lookup_repaired {t : Table} {c : Name} {self : ClassDecl}
    (hc : lookupClass t.classes c = some self) (v : Name) :
    LookupSpecAll t c self (Repaired.getEnumByVariant t self v) (·.1) (fun a => ListsVariant (toGraph t) a v) :=
  member_lookup_repaired (getEnumByVariant_total v) _ (listsVariant_iff v) hc

theorem nested_enum_lookup_repaired {t : Table} {c : Name} {self : ClassDecl}
    (hc : lookupClass t.classes c = some self) (n : Name) :
    LookupSpecAll t c self (Repaired.getType t self n) (·.1) (fun a => DeclaresEnum (toGraph t) a n) := by
  have h := member_lookup_repaired (t := t) (getType_total n) (fun a => DeclaresEnum (toGraph t) a n)
    (declaresEnum_iff n) hc
  refine ⟨fun x hx => h.found_sound x (getType_eq_found.mp hx), ?found_iff, fun hq => ?own_first⟩
  case found_iff =>
    simp only [getType_eq_found]
    exact h.found_iff
  case own_first =>
    simp only [getType_eq_found]
    exact h.own_first hq

/-- a common base is an ancestor-or-self of both, and one is found exactly when one exists — all tables -/
theorem common_base_repaired {t : Table} {a b : Name} {x y : ClassDecl}
    (ha : lookupClass t.classes a = some x) (hb : lookupClass t.classes b = some y) :
    (∀ z, Repaired.commonBaseClass t x y = .found z →
        Derives (toGraph t) a z.name ∧ Derives (toGraph t) b z.name) ∧
    ((∃ z, Repaired.commonBaseClass t x y = .found z) ↔
        ∃ n, Derives (toGraph t) a n ∧ Derives (toGraph t) b n) := by
  rw [common_derives_iff ha hb]
  have hx := lookupClass_self ha
  have hy := lookupClass_self hb
  exact ⟨fun z h => (commonBase_sound hx hy h).imp (reach_derives ha) (reach_derives hb),
    fun ⟨z, hz⟩ => ⟨z, commonBase_sound hx hy hz⟩,
    fun ⟨_, h1, h2⟩ => commonBase_complete hx hy h1 h2⟩

/-- the F10 witnesses under the repaired code -/
example : Repaired.isDerivedFrom tableF10 cF10 baseF10 = true ∧ Repaired.getProperty tableF10 cF10 "p" = .found baseF10 ∧
    Repaired.getProperty tableF10 cF10 "absent" = .error (.invalidTypeRef "Dangling") ∧
    Repaired.getProperty { classes := [ownF10] } ownF10 "p" = .found ownF10 := by decide +kernel

end repaired

/-! ### which declaration decides (members with types)

  With the member types of QV.Model.ClassGraph.Typed a declaration whose type names do not resolve in the scope of the
  declaring class is an `Err`.  Against QV.Spec.GraphMembers: the answer — `Ok` or `Err` — is that of a class that
  `Decides`, so an unresolvable declaration never falls through to an ancestor.  (An unresolved SUPER CLASS is skipped,
  and reported only if no class declares the name — F10.) -/
section typed
open QV.Model.ClassGraph.Typed QV.Proofs.ClassGraph.Typed

/-- what the property says about the look-up of one member name; `P x`: the class named `x` declares the name,
    `f d`: what the declaration of class `d` amounts to (`found`, or the error of its types) -/
structure DecidedBy {α : Type} (t : Table) (c : Name) (cls : ClassDecl) (P : String → Bool)
    (f : ClassDecl → Lookup α) (res : Lookup α) : Prop where
  /-- the class's own declaration, resolvable or not, is the answer -/
  own_first : P c = true → res = f cls
  /-- the answer is that of a declaring class that is not hidden; if nobody declares the name: "not found", or
      the deferred error of an unresolved super class -/
  decided :
    (∃ d, lookupClass t.classes d.name = some d ∧ Decides (toGraph t) P c d.name ∧ f d ≠ .notFound ∧ res = f d) ∨
    ((∀ a, Derives (toGraph t) c a → P a = false) ∧
      (res = .notFound ∨ ∃ e, res = .error e ∧ DanglingFrom (toGraph t) c))

/-- **The unhidden declaration decides** — for every table (cycles, diamonds, dangling names included) and every
    per-class look-up `f` that answers exactly on the classes declaring the name. -/
theorem search_decided {α : Type} {t : Table} {f : ClassDecl → Lookup α} {P : String → Bool}
    (hP : ∀ x, lookupClass t.classes x.name = some x → (f x = .notFound ↔ P x.name = false))
    {c : Name} {self : ClassDecl} (hc : lookupClass t.classes c = some self) :
    DecidedBy t c self P f (Repaired.findMapSelfAndBaseClasses t self f) := by
  have hself := lookupClass_self hc
  have hname := lookupClass_name hc
  have hans : ∀ x, lookupClass t.classes x.name = some x → (f x ≠ .notFound ↔ P x.name = true) := by
    intro x hx
    rw [Ne, hP x hx, Bool.not_eq_false]
  refine ⟨fun hp => ?_, ?_⟩
  · apply Repaired.search_own
    rw [← hname] at hp
    exact (hans self hself).mpr hp
  · rcases search_unhidden t self f with ⟨d, hu, hfd, hres⟩ | ⟨hall, hres⟩
    · have hd := reach_handle hu.reach hself
      have hder := unhidden_derives_cut (P := P) hP hself hu
      rw [hname] at hder
      exact .inl ⟨d, hd, ⟨hder, (hans d hd).mp hfd⟩, hfd, hres⟩
    · refine .inr ⟨fun a ha => ?_, ?_⟩
      · obtain ⟨b, hb, hr⟩ := derives_reach ha self hc
        have := (hP b (lookupClass_self hb)).mp (hall b hr)
        rwa [lookupClass_name hb] at this
      · rcases hres with h | ⟨e, h1, h2⟩
        · exact .inl h
        · exact .inr ⟨e, h1, (base_classes_errors hc).mp ⟨e, h2⟩⟩

/-- **On a chain the nearest declaring class decides**: when only one class can decide (single inheritance
    above the queried class, or the class declares the name itself) the answer is exactly that class's. -/
theorem unique_decider_decides {α : Type} {t : Table} {c : Name} {self : ClassDecl} {P : String → Bool}
    {f : ClassDecl → Lookup α} {res : Lookup α} (h : DecidedBy t c self P f res)
    (huniq : ∀ a b, Decides (toGraph t) P c a → Decides (toGraph t) P c b → a = b)
    {d : ClassDecl} (hd : lookupClass t.classes d.name = some d) (hdec : Decides (toGraph t) P c d.name) :
    res = f d := by
  rcases h.decided with ⟨d', hd', hdec', _, hres⟩ | ⟨hnone, _⟩
  · have := handle_eq_of_name_eq hd' hd (huniq _ _ hdec' hdec)
    rw [← this]; exact hres
  · have := hnone d.name (derives_of_cut hdec.1)
    rw [hdec.2] at this; cases this

/-- `P` of `DecidedBy` for a property: the class named `x` declares `p` (as a `Bool`, for `cut`) -/
def declaresPropB (t : TableT) (p : Name) (x : String) : Bool :=
  match lookupClassT t.classes x with
  | some d => (lookupProp d.props p).isSome
  | none => false

/-- … for a method: the class named `x` has a public method `m` -/
def declaresMethodB (t : TableT) (m : Name) (x : String) : Bool :=
  match lookupClassT t.classes x with
  | some d => !(methodSlice (methodTableT d) m).isEmpty
  | none => false

private theorem propAt_iff {t : TableT} (p : Name) (x : ClassDecl) (hx : lookupClass t.erase.classes x.name = some x) :
    propAt t x p = .notFound ↔ declaresPropB t p x.name = false := by
  obtain ⟨d, hd, _⟩ := handle_typed hx
  rw [propAt_notFound hd, declaresPropB, hd]
  show _ ↔ (lookupProp d.props p).isSome = false
  cases lookupProp d.props p <;> simp

private theorem methodAt_iff {t : TableT} (m : Name) (x : ClassDecl) (hx : lookupClass t.erase.classes x.name = some x) :
    methodAt t x m = .notFound ↔ declaresMethodB t m x.name = false := by
  obtain ⟨d, hd, _⟩ := handle_typed hx
  rw [methodAt_notFound hd, declaresMethodB, hd]
  show _ ↔ (!(methodSlice (methodTableT d) m).isEmpty) = false
  cases methodSlice (methodTableT d) m <;> simp

/-- **Properties**: the look-up is decided by an unhidden declaration of the name; its answer is that class
    (`propAt_found`) or the error of the declared type. -/
theorem property_decided {t : TableT} {c : Name} {self : ClassDecl} (hc : lookupClass t.erase.classes c = some self)
    (p : Name) :
    DecidedBy t.erase c self (declaresPropB t p) (fun d => propAt t d p) (Typed.getProperty t self p) :=
  search_decided (propAt_iff p) hc

/-- **Methods** (signals, slots, invokable methods; all overloads of the name of ONE class): the look-up is decided
    by an unhidden class declaring the name; the answer is that class's overloads in declaration order
    (`methodAt_found`, `methodSlice_methodTableT`) or the first error among their types — one overload that does not
    resolve fails the name. -/
theorem method_decided {t : TableT} {c : Name} {self : ClassDecl} (hc : lookupClass t.erase.classes c = some self)
    (m : Name) :
    DecidedBy t.erase c self (declaresMethodB t m) (fun d => methodAt t d m) (Typed.getPublicMethod t self m) :=
  search_decided (methodAt_iff m) hc

/-- **Own declaration first, resolvable or not**: when the class declares the property itself, the answer is the
    class — or the error of ITS declaration's type; no ancestor is consulted. -/
theorem own_property_declaration_decides {t : TableT} {c : Name} {d : ClassDeclT} {pd : PropDecl}
    (hd : lookupClassT t.classes c = some d) (p : Name) (hp : lookupProp d.props p = some pd) :
    Typed.getProperty t d.erase p =
      (match resolveTypeExpr t.erase d.erase pd.ty with
       | .ok _ => .found d.erase
       | .error e => .error e) := by
  have hn : d.erase.name = c := lookupClassT_name hd
  have hd' : lookupClassT t.classes d.erase.name = some d := by rw [hn]; exact hd
  have hown : propAt t d.erase p ≠ .notFound := by rw [Ne, propAt_notFound hd', hp]; simp
  rw [Typed.getProperty, Repaired.search_own _ _ _ hown, propAt_eq hd', hp]
  rfl

/-- **No silent fall-through**: an own declaration whose type does not resolve is an error — whatever the base
    classes declare. -/
theorem unresolvable_own_property_is_error {t : TableT} {c : Name} {d : ClassDeclT} {pd : PropDecl} {e : TypeMapError}
    (hd : lookupClassT t.classes c = some d) (p : Name) (hp : lookupProp d.props p = some pd)
    (he : resolveTypeExpr t.erase d.erase pd.ty = .error e) :
    Typed.getProperty t d.erase p = .error e := by
  rw [own_property_declaration_decides hd p hp, he]

theorem own_method_declaration_decides {t : TableT} {c : Name} {d : ClassDeclT}
    (hd : lookupClassT t.classes c = some d) (m : Name) (hm : methodSlice (methodTableT d) m ≠ []) :
    Typed.getPublicMethod t d.erase m =
      (match resolveAll t.erase d.erase ((methodSlice (methodTableT d) m).flatMap methodTypes) with
       | .ok _ => .found (d.erase, methodSlice (methodTableT d) m)
       | .error e => .error e) := by
  have hn : d.erase.name = c := lookupClassT_name hd
  have hd' : lookupClassT t.classes d.erase.name = some d := by rw [hn]; exact hd
  have hown : methodAt t d.erase m ≠ .notFound := by rw [Ne, methodAt_notFound hd']; exact hm
  rw [Typed.getPublicMethod, Repaired.search_own _ _ _ hown, methodAt_eq hd']
  cases hs : methodSlice (methodTableT d) m with
  | nil => exact absurd hs hm
  | cons y ys => rfl

/-- one overload whose return or argument type does not resolve fails the class's own method name — the base
    classes' methods of that name are not consulted -/
theorem unresolvable_own_method_is_error {t : TableT} {c : Name} {d : ClassDeclT} {e : TypeMapError}
    (hd : lookupClassT t.classes c = some d) (m : Name) (hm : methodSlice (methodTableT d) m ≠ [])
    (he : resolveAll t.erase d.erase ((methodSlice (methodTableT d) m).flatMap methodTypes) = .error e) :
    Typed.getPublicMethod t d.erase m = .error e := by
  rw [own_method_declaration_decides hd m hm, he]

/-- **Enumerators and nested enums** never fail to resolve: the unhidden enum that lists the variant / has the name
    is found (`getEnumByVariantNoSuper`, `getTypeNoSuper` answer `found` or `notFound` only). -/
theorem variant_decided {t : Table} {c : Name} {self : ClassDecl} (hc : lookupClass t.classes c = some self) (v : Name) :
    DecidedBy t c self (fun x => match lookupClass t.classes x with
        | some d => (lookupEnumByVariant d.enums v).isSome
        | none => false)
      (fun d => getEnumByVariantNoSuper d v) (Repaired.getEnumByVariant t self v) := by
  refine search_decided (fun x hx => ?_) hc
  rw [hx]
  show _ ↔ (lookupEnumByVariant x.enums v).isSome = false
  unfold getEnumByVariantNoSuper
  cases lookupEnumByVariant x.enums v <;> simp

/-- the default member types `int` and `void` resolve in every class of every table -/
theorem default_types_resolve (t : Table) (d : ClassDecl) :
    resolveTypeExpr t d .int = .ok () ∧ resolveTypeExpr t d .void = .ok () :=
  ⟨resolve_int t d, resolve_void t d⟩

/-- **The typed model extends the untyped one**: on a table whose properties all have the default type the typed
    look-up is `Repaired.getProperty` on the table with the types forgotten — so `property_lookup_repaired` and the
    other theorems above speak about the typed model, which answers the model requests of the `c17` stream
    (QV.Driver.ClassGraph; methods: tied by the stream only). -/
theorem typed_property_extends_untyped {t : TableT} (hdef : DefaultPropTypes t) {c : Name} {self : ClassDecl}
    (hc : lookupClass t.erase.classes c = some self) (p : Name) :
    Typed.getProperty t self p = Repaired.getProperty t.erase self p :=
  getProperty_default hdef (lookupClass_self hc) p

/-! ### scoped names `A::B` as a query: only members, never what is merely visible -/

/-- **`A::B…` is found only through members**: a scoped name of two or more parts looked up on the module is found
    only if it has exactly two parts, `A` is a class, and `B` is a nested enum found by the member look-up of `A` —
    the result is that enum of its declaring class.  A third part never resolves (enums have no nested types), and
    a first part that is not a class (module enum, builtin, unknown) has no members at all. -/
theorem scoped_found_only_members {t : Table} {a b : Name} {rest : List Name} {x : Named}
    (h : moduleGetTypeScoped t (a :: b :: rest) = some x) :
    rest = [] ∧ ∃ c, lookupClass t.classes a = some c ∧
      ∃ y, Repaired.getType t c b = .found y ∧ x = .nested y.1 y.2.name := by
  have h' : scopedTail t (moduleGetType t a) (b :: rest) = some x := h
  unfold moduleGetType at h'
  cases hc : lookupClass t.classes a with
  | none =>
    rw [hc] at h'
    simp only at h'
    split at h' <;> simp only [scopedTail, namedGetType, scopedTail_none] at h' <;> cases h'
  | some c =>
    rw [hc] at h'
    simp only [scopedTail, namedGetType] at h'
    cases hg : Repaired.getType t c b with
    | notFound => rw [hg] at h'; simp only [scopedTail_none] at h'; cases h'
    | error e => rw [hg] at h'; simp only [scopedTail_none] at h'; cases h'
    | found y =>
      rw [hg] at h'
      simp only at h'
      cases rest with
      | nil => simp only [scopedTail] at h'; cases h'; exact ⟨rfl, c, rfl, y, hg, rfl⟩
      | cons r rs => simp only [scopedTail, namedGetType, scopedTail_none] at h'; cases h'

/-- **`A::B` is found exactly when `A` or a public ancestor of `A` declares the nested enum `B`** — every table; the
    enum found belongs to a class `A` derives from and that declares it (not a descendant, a sibling, a top-level
    class, a builtin, `A` itself or an enumerator). -/
theorem scoped_found_iff_member {t : Table} {a : Name} {c : ClassDecl} (hc : lookupClass t.classes a = some c) (b : Name) :
    ((∃ x, moduleGetTypeScoped t [a, b] = some x) ↔ Inherits (toGraph t) (fun z => DeclaresEnum (toGraph t) z b) a) ∧
    (∀ o n, moduleGetTypeScoped t [a, b] = some (.nested o n) →
      n = b ∧ Derives (toGraph t) a o.name ∧ DeclaresEnum (toGraph t) o.name b) := by
  have hl := nested_enum_lookup_repaired hc b
  refine ⟨?_, fun o n h => ?_⟩
  · rw [← hl.found_iff]
    constructor
    · rintro ⟨x, hx⟩
      obtain ⟨_, c', hc', y, hy, _⟩ := scoped_found_only_members hx
      rw [hc] at hc'; cases hc'
      exact ⟨y, hy⟩
    · rintro ⟨y, hy⟩
      refine ⟨.nested y.1 y.2.name, ?_⟩
      show scopedTail t (moduleGetType t a) [b] = _
      rw [moduleGetType, hc]
      simp only [scopedTail, namedGetType, hy]
  · obtain ⟨_, c', hc', y, hy, hx⟩ := scoped_found_only_members h
    rw [hc] at hc'; cases hc'
    cases hx
    exact ⟨Repaired.getType_found_name hy, hl.found_sound y hy⟩

example :
    moduleGetTypeScoped diamond ["Leaf", "E"] = some (.nested root "E") ∧
    moduleGetTypeScoped diamond ["Leaf", "Mid1"] = none ∧ moduleGetTypeScoped diamond ["Leaf", "Leaf"] = none ∧
    moduleGetTypeScoped diamond ["Leaf", "int"] = none ∧ moduleGetTypeScoped diamond ["Leaf", "V"] = none ∧
    moduleGetTypeScoped diamond ["Leaf", "E", "V"] = none ∧ moduleGetTypeScoped diamond ["int", "E"] = none ∧
    classResolveTypeScoped diamond leaf ["int"] = some (.prim "int") ∧
    classResolveTypeScoped diamond leaf ["Mid1", "E"] = some (.nested root "E") ∧
    classResolveTypeScoped diamond leaf ["Mid1", "Root"] = none := by decide +kernel

/-! witnesses: an unresolvable declaration below a resolvable one of the same name -/

def baseMeter : ClassDeclT := { name := "BaseMeter", props := [{ name := "level" }], slots := [{ name := "update" }] }
def fancyMeter : ClassDeclT :=
  { name := "FancyMeter", supers := [("BaseMeter", true)],
    props := [{ name := "level", ty := .named "LevelSpec" ["LevelSpec"] }],
    slots := [{ name := "update", args := [.named "QModelIndex" ["QModelIndex"]] }] }
def plainMeter : ClassDeclT := { name := "PlainMeter", supers := [("FancyMeter", true)] }
def meters : TableT := { classes := [baseMeter, fancyMeter, plainMeter] }

/-- own unresolvable declaration: an error, although the base class declares the same name resolvably -/
example : Typed.getProperty meters fancyMeter.erase "level" = .error (.invalidTypeRef "LevelSpec") ∧
    Typed.getPublicMethod meters fancyMeter.erase "update" = .error (.invalidTypeRef "QModelIndex") := by decide +kernel
/-- … and the nearest (unresolvable) declaration decides for a class further down -/
example : Typed.getProperty meters plainMeter.erase "level" = .error (.invalidTypeRef "LevelSpec") ∧
    Typed.getProperty meters baseMeter.erase "level" = .found baseMeter.erase := by decide +kernel
def scopeA : ClassDeclT := { name := "A", enums := [{ name := "E", variants := ["V"] }] }
def scopeB : ClassDeclT :=
  { name := "B", supers := [("A", true)],
    props := [{ name := "e", ty := .named "E" ["E"] }, { name := "q", ty := .named "A::E" ["A", "E"] },
              { name := "x", ty := .named "A::X" ["A", "X"] }, { name := "l", ty := .list (.named "B" ["B"]) },
              { name := "u", ty := .unsupported "QMap<int,int>" }] }
def scopes : TableT := { classes := [scopeA, scopeB] }
/-- a nested enum of a base class is a resolvable member type in the derived class; a scoped name must name a
    nested type of the class it is scoped by; unknown decorations are an error of their own -/
example :
    Typed.getProperty scopes scopeB.erase "e" = .found scopeB.erase ∧
    Typed.getProperty scopes scopeB.erase "q" = .found scopeB.erase ∧
    Typed.getProperty scopes scopeB.erase "x" = .error (.invalidTypeRef "A::X") ∧
    Typed.getProperty scopes scopeB.erase "l" = .found scopeB.erase ∧
    Typed.getProperty scopes scopeB.erase "u" = .error (.unsupportedDecoration "QMap<int,int>") := by decide +kernel

end typed

end QV.Props.C17
