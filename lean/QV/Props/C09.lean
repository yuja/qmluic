/-
  C09 — The .ui is well-formed, grammar-conformant XML that preserves strings.  Proved here: the escaping of
  strings; well-formedness and the Designer grammar are checked on real outputs only (oracle).

  Model : QV.Model.Xml (quick-xml's `escape` + xmlutil::escaped_text / escaped_attribute, after the repair of F4)
  Spec  : QV.Spec.Xml (what an XML 1.0 processor reads: references, end-of-line and attribute normalisation)
  Tie   : stream `c09`: generated strings through the real pipeline into every string-carrying position
          (string / stringlist / item text / tab title / icon theme attribute / class name); the raw escaped text of the
          real .ui is compared with the model (kind=model), decoded by the Lean spec reader and compared with the
          source string (kind=spec), and the whole document is parsed by the harness's strict XML reader and checked
          against the Designer grammar (kind=oracle).
-/
import QV.Model.Xml
import QV.Spec.Xml

namespace QV.Props.C09
open QV.Model.Xml QV.Spec.Xml

/-- Fuel beyond the length of the escaped text suffices (`readText`/`readAttr` give length + 1). -/
theorem roundtrip_fuel {esc : Char → List Char} {read : Nat → List Char → Option (List Char)} {good : Char → Prop}
    (hnil : ∀ f, read (f + 1) [] = some [])
    (hstep : ∀ c, good c → ∀ rest f, read (f + 1) (esc c ++ rest) = (read f rest).map (c :: ·))
    (s : List Char) (hs : ∀ c ∈ s, good c) :
    ∀ f, (s.flatMap esc).length < f → read f (s.flatMap esc) = some s := by
  induction s with
  | nil =>
    intro f hf
    obtain ⟨f, rfl⟩ := Nat.exists_eq_add_one_of_ne_zero (Nat.ne_of_gt hf)
    exact hnil f
  | cons c rest ih =>
    intro f hf
    obtain ⟨f, rfl⟩ := Nat.exists_eq_add_one_of_ne_zero (Nat.ne_of_gt (Nat.zero_lt_of_lt hf))
    have hc := hstep c (hs c List.mem_cons_self)
    -- `esc c` is not empty: reading it yields a character more than reading nothing does
    have hne : 0 < (esc c).length := List.length_pos_iff.mpr fun e => by
      have h := hc [] 0
      rw [e, List.nil_append, hnil] at h
      cases hr : read 0 [] <;> simp [hr] at h
    rw [List.flatMap_cons, List.length_append] at hf
    rw [List.flatMap_cons, hc, ih (fun d hd => hs d (List.mem_cons_of_mem _ hd)) f (by omega)]
    rfl

/-- The characters written as references in character data. -/
def textRefs : List Char := ['\r', '<', '>', '&', '\'', '"']
/-- The characters written as references in attribute values. -/
def attrRefs : List Char := '\t' :: '\n' :: textRefs

theorem escapeMarkup_of_not_mem {c : Char} (h : c ∉ ['<', '>', '&', '\'', '"']) : escapeMarkup c = [c] := by
  simp only [List.mem_cons, List.not_mem_nil, or_false, not_or] at h
  simp only [escapeMarkup, h, if_false]

theorem escapeTextChar_of_not_mem {c : Char} (h : c ∉ textRefs) : escapeTextChar c = [c] := by
  rw [textRefs, List.mem_cons, not_or] at h
  rw [escapeTextChar, if_neg h.1, escapeMarkup_of_not_mem h.2]

theorem escapeAttrChar_of_not_mem {c : Char} (h : c ∉ attrRefs) : escapeAttrChar c = [c] := by
  rw [attrRefs, List.mem_cons, List.mem_cons, not_or, not_or] at h
  rw [escapeAttrChar, if_neg h.1, if_neg h.2.1]
  exact escapeTextChar_of_not_mem h.2.2

theorem escapeText_eq_flatMap (s : List Char) : escapeText s = s.flatMap escapeTextChar := by
  induction s with
  | nil => rfl
  | cons c rest ih => rw [escapeText, ih, List.flatMap_cons]

theorem escapeAttr_eq_flatMap (s : List Char) : escapeAttr s = s.flatMap escapeAttrChar := by
  induction s with
  | nil => rfl
  | cons c rest ih => rw [escapeAttr, ih, List.flatMap_cons]

/-- Each reference is read back by evaluation, whatever follows it; any other character stands for itself. -/
theorem text_step (c : Char) (hc : isXmlChar c = true) (rest : List Char) (f : Nat) :
    readTextFuel (f + 1) (escapeTextChar c ++ rest) = (readTextFuel f rest).map (c :: ·) := by
  by_cases h : c ∈ textRefs
  · simp only [textRefs, List.mem_cons, List.not_mem_nil, or_false] at h
    rcases h with rfl | rfl | rfl | rfl | rfl | rfl <;> rfl
  · rw [escapeTextChar_of_not_mem h]
    simp only [textRefs, List.mem_cons, List.not_mem_nil, or_false, not_or] at h
    simp only [List.singleton_append, readTextFuel, h, hc, if_false, if_true]

theorem attr_step (c : Char) (hc : isXmlChar c = true) (rest : List Char) (f : Nat) :
    readAttrFuel (f + 1) (escapeAttrChar c ++ rest) = (readAttrFuel f rest).map (c :: ·) := by
  by_cases h : c ∈ attrRefs
  · simp only [attrRefs, textRefs, List.mem_cons, List.not_mem_nil, or_false] at h
    rcases h with rfl | rfl | rfl | rfl | rfl | rfl | rfl | rfl <;> rfl
  · rw [escapeAttrChar_of_not_mem h]
    simp only [attrRefs, textRefs, List.mem_cons, List.not_mem_nil, or_false, not_or] at h
    simp only [List.singleton_append, readAttrFuel, h, hc, or_self, if_false, if_true]

theorem lt_not_mem_escapeTextChar (c : Char) : '<' ∉ escapeTextChar c := by
  by_cases h : c ∈ textRefs
  · exact (by decide +kernel : ∀ d ∈ textRefs, '<' ∉ escapeTextChar d) c h
  · rw [escapeTextChar_of_not_mem h, List.mem_singleton]
    exact fun e => h (e ▸ by decide)

theorem quote_lt_not_mem_escapeAttrChar (c : Char) : '"' ∉ escapeAttrChar c ∧ '<' ∉ escapeAttrChar c := by
  by_cases h : c ∈ attrRefs
  · exact (by decide +kernel : ∀ d ∈ attrRefs, '"' ∉ escapeAttrChar d ∧ '<' ∉ escapeAttrChar d) c h
  · rw [escapeAttrChar_of_not_mem h, List.mem_singleton, List.mem_singleton]
    exact ⟨fun e => h (e ▸ by decide), fun e => h (e ▸ by decide)⟩

/-- **Text round trip**: for every string of XML 1.0 characters, an XML processor reading the character data
    the writer produced reports exactly that string (markup characters, quotes, CR, LF, TAB, blanks,
    non-ASCII included).  Other strings never reach the writer: they are diagnosed (F14, F90). -/
theorem text_roundtrip (s : List Char) (hs : ∀ c ∈ s, isXmlChar c = true) : readText (escapeText s) = some s := by
  rw [readText, escapeText_eq_flatMap]
  exact roundtrip_fuel (fun _ => rfl) text_step s hs _ (Nat.lt_succ_self _)

/-- **Attribute round trip**: the same for attribute values (where a processor turns literal TAB/LF/CR into
    spaces, so they must be — and are — written as character references). -/
theorem attr_roundtrip (s : List Char) (hs : ∀ c ∈ s, isXmlChar c = true) : readAttr (escapeAttr s) = some s := by
  rw [readAttr, escapeAttr_eq_flatMap]
  exact roundtrip_fuel (fun _ => rfl) attr_step s hs _ (Nat.lt_succ_self _)

/-- The escaped text never contains `<` (so a string cannot open or close an element). -/
theorem escaped_text_no_lt (s : List Char) : '<' ∉ escapeText s := by
  rw [escapeText_eq_flatMap, List.mem_flatMap]
  exact fun ⟨c, _, h⟩ => lt_not_mem_escapeTextChar c h

/-- An escaped attribute value contains neither `<` nor `"` (so it cannot end the attribute). -/
theorem escaped_attr_no_quote (s : List Char) : '"' ∉ escapeAttr s ∧ '<' ∉ escapeAttr s := by
  rw [escapeAttr_eq_flatMap, List.mem_flatMap, List.mem_flatMap]
  exact ⟨fun ⟨c, _, h⟩ => (quote_lt_not_mem_escapeAttrChar c).1 h,
    fun ⟨c, _, h⟩ => (quote_lt_not_mem_escapeAttrChar c).2 h⟩

/-- quick-xml's `escape` alone: the writer before the repair of F4. -/
def escapeOld : List Char → List Char
  | [] => []
  | c :: rest => escapeMarkup c ++ escapeOld rest

/-- F4: it does not round-trip. -/
theorem f4_text_witness : readText (escapeOld "a\rb".toList) = some "a\nb".toList := by decide +kernel
theorem f4_attr_witness : readAttr (escapeOld "x\ny\tz".toList) = some "x y z".toList := by decide +kernel

example : readText (escapeText "<a href=\"x\">&amp; 'q'\r\n\té😀</a>".toList)
    = some "<a href=\"x\">&amp; 'q'\r\n\té😀</a>".toList := by
  -- the kernel decodes a string literal byte by byte, quadratically in its length: the literals are opened by rewriting
  repeat rw [String.toList_ofList]
  decide +kernel
example : readAttr (escapeAttr " lead\ttab\nnl\rcr \"q\" ".toList) = some " lead\ttab\nnl\rcr \"q\" ".toList := by
  repeat rw [String.toList_ofList]
  decide +kernel

end QV.Props.C09
