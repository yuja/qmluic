/-
  qvdriver — runs the executable model on one request per line (stdin) and prints one canonical answer
  per line (stdout).  Imports `QV.Sexp` and the handlers of `QV/Driver`, which import model and specification files and no proof.
-/
import QV.Sexp
import QV.Driver.Color
import QV.Driver.Layout
import QV.Driver.Names
import QV.Driver.FormTree
import QV.Driver.Xml
import QV.Driver.ClassGraph
import QV.Driver.QmlDir
import QV.Driver.Cli
import QV.Driver.Ir
import QV.Driver.Passes
import QV.Driver.C03
import QV.Driver.Sem
import QV.Driver.Typing
import QV.Driver.Observe
import QV.Driver.CxxEmit

open QV

def dispatch (req : Sexp) : Sexp :=
  match req with
  | .list (.atom "color" :: args) => Driver.handleColor "color" args
  | .list (.atom "colorui" :: args) => Driver.handleColor "colorui" args
  | .list (.atom "brushui" :: args) => Driver.handleColor "brushui" args
  | .list (.atom "spec-color" :: args) => Driver.handleSpecColor "spec-color" args
  | .list (.atom "spec-colorui" :: args) => Driver.handleSpecColor "spec-colorui" args
  | .list (.atom "spec-brushui" :: args) => Driver.handleSpecColor "spec-brushui" args
  | .list (.atom "grid" :: args) => Driver.Layout.handleModel "grid" args
  | .list (.atom "form" :: args) => Driver.Layout.handleModel "form" args
  | .list (.atom "vbox" :: args) => Driver.Layout.handleModel "vbox" args
  | .list (.atom "hbox" :: args) => Driver.Layout.handleModel "hbox" args
  | .list (.atom "spec-grid" :: args) => Driver.Layout.handleSpec "spec-grid" args
  | .list (.atom "f9-grid" :: args) => Driver.Layout.handleSpec "f9-grid" args
  | .list (.atom "spec-form" :: args) => Driver.Layout.handleSpec "spec-form" args
  | .list (.atom "spec-vbox" :: args) => Driver.Layout.handleSpec "spec-vbox" args
  | .list (.atom "spec-hbox" :: args) => Driver.Layout.handleSpec "spec-hbox" args
  | .list (.atom "names" :: args) => Driver.Names.handleModel args
  | .list (.atom "spec-names" :: args) => Driver.Names.handleSpec args
  | .list (.atom "formtree" :: args) => Driver.FormTree.handleModel args
  | .list (.atom "spec-formtree" :: args) => Driver.FormTree.handleSpec args
  | .list (.atom "xmltext" :: args) => Driver.Xml.handleModel false args
  | .list (.atom "xmlattr" :: args) => Driver.Xml.handleModel true args
  | .list (.atom "spec-xmlread" :: args) => Driver.Xml.handleSpec args
  | .list (.atom "cg" :: args) => Driver.ClassGraph.handleModel "cg" args
  | .list (.atom "cg-prefix" :: args) => Driver.ClassGraph.handleModel "cg-prefix" args
  | .list (.atom "f10-cg" :: args) => Driver.ClassGraph.handleModel "f10-cg" args
  | .list (.atom "cg-repaired" :: args) => Driver.ClassGraph.handleModel "cg-repaired" args
  | .list (.atom "spec-cg" :: args) => Driver.ClassGraph.handleSpec "spec-cg" args
  | .list (.atom "c18" :: args) => Driver.QmlDir.handleModel args
  | .list (.atom "spec-c18-dirs" :: args) => Driver.QmlDir.handleSpec args
  | .list (.atom "c18-cliout" :: args) => Driver.QmlDir.handleCli args
  | .list (.atom "cli-paths" :: args) => Driver.Cli.handlePaths args
  | .list (.atom "spec-cli-paths" :: args) => Driver.Cli.handleSpecPaths args
  | .list (.atom "cli-hist" :: args) => Driver.Cli.handleHist args
  | .list (.atom "cli-kill" :: args) => Driver.Cli.handleKill args
  | .list (.atom "build" :: args) => Driver.Ir.handleBuild args
  | .list (.atom "cfgcheck" :: args) => Driver.Ir.handleCfgCheck args
  | .list (.atom "cfgcheck-cxx" :: args) => Driver.Ir.handleCfgCheckCxx args
  | .list (.atom "passes" :: args) => Driver.Passes.handle args
  | .list (.atom "c16-inv" :: args) => Driver.CxxEmit.handleInventory args
  | .list (.atom "c16-lit" :: args) => Driver.CxxEmit.handleLit args
  | .list (.atom "spec-cxxlit" :: args) => Driver.CxxEmit.handleSpecCxxLit args
  | .list (.atom "coveredcheck" :: args) => Driver.Observe.handleCoveredCheck args
  | .list (.atom "c02-history" :: args) => Driver.Observe.handleHistory args
  | .list (.atom "spec-c01" :: args) => Driver.Sem.handleSpecC01 args
  | .list (.atom "c01-ir" :: args) => Driver.Sem.handleIr args
  | .list (.atom "c01-body" :: args) => Driver.Sem.handleBody args
  | .list (.atom "spec-c13" :: args) => Driver.Sem.handleSpecC13 args
  | .list (.atom "c13-body" :: args) => Driver.Sem.handleBody13 args
  | .list (.atom "f42-spec-c13" :: args) => Driver.Sem.handleSpecC13 args { argsFirst := true }
  | .list (.atom "f41-spec-c13" :: args) => Driver.Sem.handleSpecC13 args { longConst := true }
  | .list (.atom "f41-f42-spec-c13" :: args) => Driver.Sem.handleSpecC13 args { argsFirst := true, longConst := true }
  | .list (.atom "f41-spec-c01" :: args) => Driver.Sem.handleSpecC01 args { longConst := true }
  | .list (.atom "c05-accept" :: args) => Driver.Typing.handleAccept args
  | .list (.atom "c05-reject" :: args) => Driver.Typing.handleReject args
  | .list (.atom "c05-ir" :: args) => Driver.Typing.handleIr args
  | .list (.atom "c05-verdict" :: args) => Driver.Typing.handleVerdict args
  | .list (.atom "literal" :: args) => Driver.C03.handleLiteral args
  | .list (.atom "spec-mv" :: args) => Driver.C03.handleSpecMv args
  | .list (.atom "c03-judge" :: args) => Driver.C03.handleJudge args
  | .list (.atom "c03-strlit" :: args) => Driver.C03.handleStrLit args
  | _ => .list [.atom "bad-request"]

partial def loop (h : IO.FS.Stream) (out : IO.FS.Stream) : IO Unit := do
  let line ← h.getLine
  if line.isEmpty then return ()
  let ans := match Sexp.parse line with
    | some req => dispatch req
    | none => .list [.atom "bad-sexp"]
  out.putStrLn (toString ans)
  loop h out

def main : IO Unit := do
  let stdin ← IO.getStdin
  let stdout ← IO.getStdout
  loop stdin stdout
