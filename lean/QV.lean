-- Root of the QV library: every module but the `QV.Driver` handlers that only `Main.lean` (target `qvdriver`) imports.
import QV.Sexp
import QV.Model.Color
import QV.Spec.QtColor
import QV.Gen.ColorTable
import QV.Proofs.Color
import QV.Props.C19
import QV.Model.Layout
import QV.Spec.Layout
import QV.Proofs.Layout
import QV.Props.C12
import QV.Model.Names
import QV.Spec.Names
import QV.Proofs.Names
import QV.Props.C10
import QV.Model.FormTree
import QV.Spec.FormTree
import QV.Proofs.FormTree
import QV.Props.C11
import QV.Model.Xml
import QV.Spec.Xml
import QV.Props.C09
import QV.Model.Determinism
import QV.Props.C08
import QV.Model.ClassGraph
import QV.Model.ClassGraphRepaired
import QV.Spec.Graph
import QV.Spec.GraphOfTable
import QV.Proofs.ClassGraph
import QV.Proofs.ClassGraphRepaired
import QV.Proofs.ClassGraphBefore
import QV.Props.C17
import QV.Model.QmlDir
import QV.Spec.QmlDir
import QV.Proofs.QmlDir
import QV.Props.C18
import QV.Spec.Fs
import QV.Model.Cli
import QV.Proofs.Cli
import QV.Props.C15
import QV.Model.Types
import QV.Model.Tir
import QV.Model.Ast
import QV.Model.Ceval
import QV.Model.Builder
import QV.Model.Walk
import QV.Model.Finalize
import QV.Model.Cfg
import QV.Proofs.Cfg
import QV.Props.C06
import QV.Model.Passes
import QV.Gen.PseudoProps
import QV.Proofs.Passes
import QV.Proofs.PassesOwnership
import QV.Proofs.PassesModes
import QV.Props.C04
import QV.Props.C14
import QV.Props.C20
import QV.Model.Totality
import QV.Proofs.Totality
import QV.Props.C07
import QV.Model.Literal
import QV.Spec.Ecma
import QV.Spec.ConstSem
import QV.Proofs.Literal
import QV.Proofs.ConstFold
import QV.Props.C03
import QV.Driver.C03
import QV.Model.RustDebugTable
import QV.Model.CxxEmit
import QV.Spec.CxxLit
import QV.Proofs.CxxEmit
import QV.Props.C16
import QV.Driver.CxxEmit
import QV.Model.Observe
import QV.Proofs.Observe
import QV.Proofs.PropDep
import QV.Props.C02
import QV.Driver.Observe
import QV.Spec.Sem
import QV.Model.IrSem
import QV.Model.CxxBody
import QV.Model.Callback
import QV.Proofs.SemIr
import QV.Proofs.SemVisit
import QV.Props.C01
import QV.Props.C13
import QV.Driver.Sem
import QV.Spec.Typing
import QV.Spec.IrTyping
import QV.Model.TypeCheck
import QV.Proofs.TypingRules
import QV.Proofs.TypingConst
import QV.Proofs.TypingChecks
import QV.Proofs.TypingSound
import QV.Proofs.TypingSound2
import QV.Props.C05
import QV.Driver.Typing
import QV.Proofs.SemWalk
import QV.Proofs.SemFold
import QV.Proofs.SemStraight
import QV.Proofs.TypingStmt
import QV.Proofs.BuilderBuild
import QV.Proofs.BuilderStatements
import QV.Proofs.PropDepShape
import QV.Proofs.ConstWalk
import QV.Proofs.SemCfg
import QV.Proofs.SemCfgWalk
import QV.Proofs.SemCfgCtl
import QV.Proofs.SemCfgBlock
import QV.Model.ClassGraphTyped
import QV.Spec.GraphMembers
import QV.Proofs.ClassGraphTyped
import QV.Proofs.InterpEntry
import QV.Proofs.SemCfgStmt
import QV.Proofs.SemCfgStmtIf
import QV.Proofs.SemCfgStmtRet
